import SwcVerif.Gen.Matrices
import Mathlib.Tactic.Ring
import Mathlib.Algebra.Order.Field.Basic
/-! # 4×4 matrices of affine maps, with variable entries

Hand-written lemmas about the generated `Gen.Affine.applyPoint` / `aboutRoot` (`Gen/Matrices.lean`).  Every matrix the transform classes
build is `aff A t`: linear part `A` (rows `a b c`), translation `t` (last column), last row `0 0 0 1`.  (Nothing in this
file is generated: `aff` and the lemmas stand in `Gen.Affine` because that is the namespace of the definitions they are about.) -/
namespace Gen.Affine
open Gen.Mat

variable {K : Type} [Field K] [LinearOrder K]

def aff (a0 a1 a2 a3 b0 b1 b2 b3 c0 c1 c2 c3 : K) : List (List K) :=
  [[a0, a1, a2, a3], [b0, b1, b2, b3], [c0, c1, c2, c3], [0, 0, 0, 1]]

theorem dotK4 (a b c d x y z w : K) : dotK [a, b, c, d] [x, y, z, w] = a * x + (b * y + (c * z + (d * w + 0))) := rfl

theorem applyPoint_aff (a0 a1 a2 a3 b0 b1 b2 b3 c0 c1 c2 c3 x y z : K) :
    applyPoint (aff a0 a1 a2 a3 b0 b1 b2 b3 c0 c1 c2 c3) x y z
      = (a0 * x + (a1 * y + (a2 * z + a3)), b0 * x + (b1 * y + (b2 * z + b3)), c0 * x + (c1 * y + (c2 * z + c3))) := by
  simp only [applyPoint, mapply, aff, List.map_cons, List.map_nil, List.getD_cons_zero, List.getD_cons_succ, dotK4, zero_mul, zero_add,
    mul_one, add_zero, div_one]

theorem mmul_aff (a0 a1 a2 a3 b0 b1 b2 b3 c0 c1 c2 c3 e0 e1 e2 e3 f0 f1 f2 f3 g0 g1 g2 g3 : K) :
    mmul (aff a0 a1 a2 a3 b0 b1 b2 b3 c0 c1 c2 c3) (aff e0 e1 e2 e3 f0 f1 f2 f3 g0 g1 g2 g3)
      = aff (a0 * e0 + (a1 * f0 + a2 * g0)) (a0 * e1 + (a1 * f1 + a2 * g1)) (a0 * e2 + (a1 * f2 + a2 * g2))
          (a0 * e3 + (a1 * f3 + (a2 * g3 + a3)))
          (b0 * e0 + (b1 * f0 + b2 * g0)) (b0 * e1 + (b1 * f1 + b2 * g1)) (b0 * e2 + (b1 * f2 + b2 * g2))
          (b0 * e3 + (b1 * f3 + (b2 * g3 + b3)))
          (c0 * e0 + (c1 * f0 + c2 * g0)) (c0 * e1 + (c1 * f1 + c2 * g1)) (c0 * e2 + (c1 * f2 + c2 * g2))
          (c0 * e3 + (c1 * f3 + (c2 * g3 + c3))) := by
  simp only [mmul, aff, colK, List.map_cons, List.map_nil, List.getD_cons_zero, List.getD_cons_succ, dotK4, mul_zero, add_zero, mul_one,
    zero_mul, zero_add]

theorem applyPoint_mmul_aff (a0 a1 a2 a3 b0 b1 b2 b3 c0 c1 c2 c3 e0 e1 e2 e3 f0 f1 f2 f3 g0 g1 g2 g3 x y z : K) :
    applyPoint (mmul (aff a0 a1 a2 a3 b0 b1 b2 b3 c0 c1 c2 c3) (aff e0 e1 e2 e3 f0 f1 f2 f3 g0 g1 g2 g3)) x y z
      = applyPoint (aff a0 a1 a2 a3 b0 b1 b2 b3 c0 c1 c2 c3) (applyPoint (aff e0 e1 e2 e3 f0 f1 f2 f3 g0 g1 g2 g3) x y z).1
          (applyPoint (aff e0 e1 e2 e3 f0 f1 f2 f3 g0 g1 g2 g3) x y z).2.1 (applyPoint (aff e0 e1 e2 e3 f0 f1 f2 f3 g0 g1 g2 g3) x y z).2.2 := by
  rw [mmul_aff, applyPoint_aff, applyPoint_aff, applyPoint_aff]
  refine Prod.ext ?_ (Prod.ext ?_ ?_) <;> ring

theorem aboutRoot_aff (a0 a1 a2 a3 b0 b1 b2 b3 c0 c1 c2 c3 x y z : K) :
    aboutRoot (aff a0 a1 a2 a3 b0 b1 b2 b3 c0 c1 c2 c3) x y z
      = aff a0 a1 a2 (a0 * -x + (a1 * -y + (a2 * -z + (a3 + x)))) b0 b1 b2 (b0 * -x + (b1 * -y + (b2 * -z + (b3 + y))))
          c0 c1 c2 (c0 * -x + (c1 * -y + (c2 * -z + (c3 + z)))) := by
  show mmul (mmul (aff 1 0 0 x 0 1 0 y 0 0 1 z) _) (aff 1 0 0 (-x) 0 1 0 (-y) 0 0 1 (-z)) = _
  rw [mmul_aff, mmul_aff]
  simp only [one_mul, zero_mul, add_zero, zero_add, mul_one, mul_zero]

theorem applyPoint_aboutRoot_aff (a0 a1 a2 a3 b0 b1 b2 b3 c0 c1 c2 c3 cx cy cz x y z : K) :
    applyPoint (aboutRoot (aff a0 a1 a2 a3 b0 b1 b2 b3 c0 c1 c2 c3) cx cy cz) x y z
      = (cx + (a0 * (x - cx) + (a1 * (y - cy) + (a2 * (z - cz) + a3))), cy + (b0 * (x - cx) + (b1 * (y - cy) + (b2 * (z - cz) + b3))),
          cz + (c0 * (x - cx) + (c1 * (y - cy) + (c2 * (z - cz) + c3)))) := by
  rw [aboutRoot_aff, applyPoint_aff]
  refine Prod.ext ?_ (Prod.ext ?_ ?_) <;> ring

theorem rotate3d_eq_aff (nx ny nz c s : K) :
    rotate3d nx ny nz c s
      = aff (c + (1 - c) * (nx * nx) + s * 0) (0 + (1 - c) * (nx * ny) + s * -nz) (0 + (1 - c) * (nx * nz) + s * ny) 0
          (0 + (1 - c) * (ny * nx) + s * nz) (c + (1 - c) * (ny * ny) + s * 0) (0 + (1 - c) * (ny * nz) + s * -nx) 0
          (0 + (1 - c) * (nz * nx) + s * -ny) (0 + (1 - c) * (nz * ny) + s * nx) (c + (1 - c) * (nz * nz) + s * 0) 0 := rfl

end Gen.Affine
