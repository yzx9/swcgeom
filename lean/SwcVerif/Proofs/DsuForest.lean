import SwcVerif.Proofs.Dsu
import Mathlib.Algebra.BigOperators.Group.List.Basic
import Mathlib.Tactic.Linarith
/-! Pointer jumping (`get_dsu`) on an ARBITRARY forest — any numbering, parents before or after children.

`f` is the initial pointer function (parent, or the node itself for a root).  Acyclicity is given by a
measure `dp` ("depth") that drops along every parent pointer.  The in-place passes keep the invariant "the
label of `i` is a proper ancestor of `i` (or `i` itself when `i` is a root)" and strictly decrease
`Σ dp (label i) ≤ n²` whenever they change anything, so the `while` loop stops within `n² + 1` passes (the model allows
`n² + 2`), and at the fixed point every label is the root of its node's tree. -/
namespace Dsu

def iter (f : Nat → Nat) : Nat → Nat → Nat
  | 0, x => x
  | k+1, x => iter f k (f x)

theorem iter_add (f : Nat → Nat) : ∀ (a b x : Nat), iter f (a + b) x = iter f b (iter f a x)
  | 0, b, x => by simp [iter]
  | a+1, b, x => by
    have : a + 1 + b = (a + b) + 1 := by omega
    rw [this, iter, iter, iter_add f a b]

theorem iter_succ' (f : Nat → Nat) (k x : Nat) : iter f (k + 1) x = f (iter f k x) := by
  rw [iter_add f k 1 x]; rfl

theorem iter_closed {n : Nat} {g : Nat → Nat} (h : Closed n g) : ∀ (k x : Nat), x < n → iter g k x < n
  | 0, x, hx => hx
  | k+1, x, hx => iter_closed h k (g x) (h x hx)

theorem iter_fixed {g : Nat → Nat} {x : Nat} (h : g x = x) : ∀ k, iter g k x = x
  | 0 => rfl
  | k+1 => by rw [iter, h, iter_fixed h k]

/-- acyclic pointer function on `0..n-1`: `dp` drops along every non-root pointer -/
structure Forest (n : Nat) (f : Nat → Nat) (dp : Nat → Nat) : Prop where
  closed : ∀ i, i < n → f i < n
  drop : ∀ i, i < n → f i = i ∨ dp (f i) < dp i
  bound : ∀ i, i < n → dp i < n

namespace Forest
variable {n : Nat} {f : Nat → Nat} {dp : Nat → Nat}

/-- going up never increases the depth, and strictly decreases it unless we stay where we are -/
theorem dp_iter (h : Forest n f dp) : ∀ (k i : Nat), i < n →
    dp (iter f k i) ≤ dp i ∧ (iter f k i ≠ i → dp (iter f k i) < dp i)
  | 0, i, _ => ⟨Nat.le_refl _, fun hne => absurd rfl hne⟩
  | k+1, i, hi => by
    rw [iter]
    rcases h.drop i hi with hr | hd
    · rw [hr]; exact dp_iter h k i hi
    · have ih := dp_iter h k (f i) (h.closed i hi)
      exact ⟨by omega, fun _ => by omega⟩

/-- a node that is its own proper ancestor is a root -/
theorem root_of_cycle (h : Forest n f dp) (a : Nat) (ha : a < n) (k : Nat) (hk : 1 ≤ k) (e : iter f k a = a) : f a = a := by
  rcases h.drop a ha with hr | hd
  · exact hr
  · obtain ⟨k', rfl⟩ : ∃ k', k = k' + 1 := ⟨k - 1, by omega⟩
    rw [iter] at e
    have := (dp_iter h k' (f a) (h.closed a ha)).1
    rw [e] at this
    omega

/-- the root of `i`'s tree: `dp i` steps up -/
def rootFn (f : Nat → Nat) (dp : Nat → Nat) (i : Nat) : Nat := iter f (dp i) i

theorem rootFn_is_root (h : Forest n f dp) : ∀ (d i : Nat), i < n → dp i ≤ d → f (iter f d i) = iter f d i := by
  intro d
  induction d with
  | zero =>
    intro i hi hd
    rcases h.drop i hi with hr | hlt
    · exact hr
    · omega
  | succ d ih =>
    intro i hi hd
    rw [iter]
    rcases h.drop i hi with hr | hlt
    · rw [hr, iter_fixed hr d]; exact hr
    · exact ih (f i) (h.closed i hi) (by omega)

/-- every ancestor that is a root is THE root -/
theorem root_unique (h : Forest n f dp) (i : Nat) (hi : i < n) (k : Nat) (hr : f (iter f k i) = iter f k i) :
    iter f k i = rootFn f dp i := by
  unfold rootFn
  have hroot := rootFn_is_root h (dp i) i hi (Nat.le_refl _)
  rcases Nat.le_total k (dp i) with hle | hle
  · obtain ⟨m, hm⟩ := Nat.exists_eq_add_of_le hle
    rw [hm, iter_add, iter_fixed hr m]
  · obtain ⟨m, hm⟩ := Nat.exists_eq_add_of_le hle
    rw [hm, iter_add, iter_fixed hroot m]

theorem rootFn_root {i : Nat} (hr : f i = i) : rootFn f dp i = i := iter_fixed hr _

theorem rootFn_step (h : Forest n f dp) (i : Nat) (hi : i < n) : rootFn f dp (f i) = rootFn f dp i :=
  h.root_unique i hi (dp (f i) + 1) (h.rootFn_is_root (dp (f i)) (f i) (h.closed i hi) (Nat.le_refl _))

end Forest

/-- the labels are proper ancestors (roots: themselves) -/
def Anc (n : Nat) (f g : Nat → Nat) : Prop := ∀ i, i < n → ∃ k, 1 ≤ k ∧ g i = iter f k i

theorem anc_step {n : Nat} {f dp g : Nat → Nat} (h : Forest n f dp) (ha : Anc n f g) (i : Nat) (hi : i < n) :
    Anc n f (stepF g i) := by
  intro j hj
  by_cases hji : j = i
  · subst hji
    rw [stepF_same]
    obtain ⟨k, hk, e⟩ := ha j hj
    have hgj : g j < n := by rw [e]; exact iter_closed h.closed k j hj
    obtain ⟨k', hk', e'⟩ := ha (g j) hgj
    exact ⟨k + k', by omega, by rw [e', e, ← iter_add]⟩
  · rw [stepF_other g hji]; exact ha j hj

theorem anc_closed {n : Nat} {f dp g : Nat → Nat} (h : Forest n f dp) (ha : Anc n f g) : Closed n g := by
  intro i hi
  obtain ⟨k, _, e⟩ := ha i hi
  rw [e]; exact iter_closed h.closed k i hi

/-- total depth of the labels -/
def total (dp g : Nat → Nat) (n : Nat) : Nat := ((List.range n).map fun i => dp (g i)).sum

theorem total_upd {dp g : Nat → Nat} (n i v : Nat) (hi : i < n) :
    total dp (updN g i v) n + dp (g i) = total dp g n + dp v := by
  unfold total
  induction n with
  | zero => omega
  | succ n ih =>
    rw [List.range_succ, List.map_append, List.map_append, List.sum_append, List.sum_append]
    simp only [List.map_cons, List.map_nil, List.sum_cons, List.sum_nil, Nat.add_zero]
    by_cases hin : i = n
    · subst hin
      rw [updN_same]
      have : (List.range i).map (fun j => dp (updN g i v j)) = (List.range i).map (fun j => dp (g j)) := by
        apply List.map_congr_left
        intro j hj
        rw [updN_other _ _ _ _ (by have := List.mem_range.mp hj; omega)]
      rw [this]; omega
    · rw [updN_other _ _ _ _ (Ne.symm hin)]
      have := ih (by omega)
      omega

theorem total_le_mul {dp g : Nat → Nat} {b : Nat} : ∀ n, (∀ i, i < n → dp (g i) ≤ b) → total dp g n ≤ n * b := by
  intro n
  induction n with
  | zero => intro _; simp [total]
  | succ n ih =>
    intro hb
    have h1 := ih (fun i hi => hb i (by omega))
    have h2 := hb n (by omega)
    unfold total at h1 ⊢
    rw [List.range_succ, List.map_append, List.sum_append, Nat.succ_mul]
    simp only [List.map_cons, List.map_nil, List.sum_cons, List.sum_nil, Nat.add_zero]
    omega

theorem total_stepF {n : Nat} {f dp g : Nat → Nat} (h : Forest n f dp) (ha : Anc n f g) {i : Nat} (hi : i < n) :
    total dp (stepF g i) n ≤ total dp g n ∧ (g (g i) ≠ g i → total dp (stepF g i) n < total dp g n) := by
  have hgi := anc_closed h ha i hi
  obtain ⟨k, _, e⟩ := ha (g i) hgi
  have hd := h.dp_iter k (g i) hgi
  rw [← e] at hd
  have := total_upd (dp := dp) (g := g) n i (g (g i)) hi
  exact ⟨by unfold stepF; omega, fun hne => by have := hd.2 hne; unfold stepF; omega⟩

theorem total_foldF {n : Nat} {f dp : Nat → Nat} (h : Forest n f dp) :
    ∀ (is : List Nat) (g : Nat → Nat), (∀ i ∈ is, i < n) → Anc n f g →
      total dp (is.foldl stepF g) n ≤ total dp g n ∧
      (¬ (∀ i ∈ is, g (g i) = g i) → total dp (is.foldl stepF g) n < total dp g n) := by
  intro is
  induction is with
  | nil => intro g _ _; exact ⟨Nat.le_refl _, fun hn => absurd (fun _ hi => nomatch hi) hn⟩
  | cons i t ih =>
    intro g his ha
    have hi := his i List.mem_cons_self
    obtain ⟨le1, lt1⟩ := total_stepF h ha hi
    obtain ⟨le2, lt2⟩ := ih (stepF g i) (fun j hj => his j (List.mem_cons_of_mem _ hj)) (anc_step h ha i hi)
    rw [List.foldl_cons]
    refine ⟨Nat.le_trans le2 le1, fun hn => ?_⟩
    by_cases e : g (g i) = g i
    · rw [stepF_id e] at lt2 ⊢
      exact lt2 (fun hall => hn (List.forall_mem_cons.2 ⟨e, hall⟩))
    · exact Nat.lt_of_le_of_lt le2 (lt1 e)

/-- **the loop stops, at the labelling "root of my tree"** -/
theorem jumpLoop_forest {n : Nat} {f dp : Nat → Nat} (h : Forest n f dp) :
    ∀ (fuel : Nat) (l : List Nat) (g : Nat → Nat), Tab l n g → Anc n f g → total dp g n < fuel →
      jumpLoop fuel l = some ((List.range n).map (Forest.rootFn f dp)) := by
  intro fuel l g ht ha hlt
  have hcl := fun g => anc_closed (g := g) h
  have hP := fun g i ha => anc_step (g := g) h ha i
  obtain ⟨res, hres⟩ := jumpLoop_stops (Anc n f) hcl hP (total dp · n)
    (fun g ha hn => (total_foldF h _ g (fun i hi => List.mem_range.1 hi) ha).2
      (fun hall => hn (fun i hi => hall i (List.mem_range.2 hi)))) fuel l g ht ha hlt
  obtain ⟨g', t', a', hfix⟩ := jumpLoop_inv (Anc n f) hcl hP fuel l res g ht ha hres
  -- at rest, the label of `j` is an ancestor of `j` and its own label: a root
  rw [hres]
  congr 1
  apply List.ext_getElem
  · simp [t'.1]
  · intro j h1 _
    have hj : j < n := t'.1 ▸ h1
    obtain ⟨k, _, ek⟩ := a' j hj
    have hgj := hcl g' a' j hj
    obtain ⟨k', hk', ek'⟩ := a' (g' j) hgj
    have hroot : f (g' j) = g' j := h.root_of_cycle (g' j) hgj k' hk' (by rw [← ek', hfix j hj])
    rw [List.getElem_map, List.getElem_range, t'.getElem h1, ek]
    exact h.root_unique j hj k (by rw [← ek]; exact hroot)

end Dsu
