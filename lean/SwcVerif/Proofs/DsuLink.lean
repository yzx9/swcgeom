import SwcVerif.Proofs.Dsu
/-! `link_roots_to_nearest_` keeps the table a forest.

The loop state is the parent column and the component labels.  Invariant `LInv`: the column is a valid
table, some measure `dp` drops along every parent pointer (acyclic), labels are constant along every
parent pointer, and two different roots never share a label.  Linking a root `i` below any row `k` whose
label differs from `i`'s keeps all four (new measure: the whole tree of `i` is shifted below `k`), and the
masked `argmin` always returns such a row as long as one other root is left. -/
namespace Dsu

/-! ## the masked argmin picks an unmasked row whenever there is one -/

theorem amStep_eq_none (a x : Option Int) : amStep a x = none ↔ a = none ∧ x = none := by
  cases a with
  | none => simp [amStep]
  | some a =>
    cases x with
    | none => simp [amStep]
    | some b => by_cases hlt : b < a <;> simp [amStep, hlt]

theorem amFold_eq_none : ∀ (l : List (Option Int)) (a : Option Int),
    l.foldl amStep a = none ↔ a = none ∧ ∀ x ∈ l, x = none
  | [], a => by simp
  | x :: t, a => by rw [List.foldl_cons, amFold_eq_none t, amStep_eq_none, List.forall_mem_cons, and_assoc]

theorem argminOpt_range (n : Nat) (c : Nat → Option Int) (h : ∃ j, j < n ∧ c j ≠ none) :
    argminOpt ((List.range n).map c) < n ∧ c (argminOpt ((List.range n).map c)) ≠ none := by
  obtain ⟨j, hj, hne⟩ := h
  have hmem : c j ∈ (List.range n).map c := List.mem_map.2 ⟨j, List.mem_range.2 hj, rfl⟩
  rw [argminOpt_eq]
  cases hm : ((List.range n).map c).foldl amStep none with
  | none => exact absurd (((amFold_eq_none _ none).1 hm).2 _ hmem) hne
  | some m =>
    have hlt := List.idxOf_lt_length_of_mem ((amFold_mem _ none hm).resolve_left nofun)
    have e := List.getElem_idxOf hlt
    rw [List.getElem_map, List.getElem_range] at e
    exact ⟨by simpa using hlt, by rw [e]; exact Option.some_ne_none m⟩

/-- the row chosen for root `i` carries another label, as long as some row does -/
theorem nearestOf_other (ids : List Int) (dist2 : Nat → Nat → Int) (i : Nat) (dsu : List Nat)
    (h : ∃ j, j < ids.length ∧ dsu.getD j 0 ≠ dsu.getD i 0) :
    nearestOf ids dist2 i dsu < ids.length ∧ dsu.getD (nearestOf ids dist2 i dsu) 0 ≠ dsu.getD i 0 := by
  obtain ⟨j, hj, hne⟩ := h
  obtain ⟨hk, hc⟩ := argminOpt_range ids.length
    (fun j => if dsu.getD j 0 = dsu.getD i 0 then none else some (dist2 i j)) ⟨j, hj, by rw [if_neg hne]; exact Option.some_ne_none _⟩
  exact ⟨hk, fun e => hc (if_pos e)⟩

/-! ## the loop invariant -/

structure LInv (n : Nat) (pids : List Int) (dsu : List Nat) (dp : Nat → Nat) : Prop where
  lp : pids.length = n
  ld : dsu.length = n
  valid : ∀ k (h : k < pids.length), pids[k] = -1 ∨ (0 ≤ pids[k] ∧ pids[k] < n)
  drop : ∀ k (h : k < pids.length), pids[k] ≠ -1 → dp (pids[k]).toNat < dp k
  edge : ∀ k (h : k < pids.length), pids[k] ≠ -1 → dsu.getD (pids[k]).toNat 0 = dsu.getD k 0
  roots : ∀ a b (ha : a < pids.length) (hb : b < pids.length), pids[a] = -1 → pids[b] = -1 →
    dsu.getD a 0 = dsu.getD b 0 → a = b

theorem getD_relabel (dsu : List Nat) (a b : Nat) {x : Nat} (hx : x < dsu.length) :
    (dsu.map fun l => if l = a then b else l).getD x 0 = if dsu.getD x 0 = a then b else dsu.getD x 0 := by
  rw [Py.getD_eq_getElem dsu 0 hx, Py.getD_eq_getElem _ 0 (by rw [List.length_map]; exact hx), List.getElem_map]

/-- linking root `i` below a row `k` of another label keeps the invariant -/
theorem LInv.link {n : Nat} {pids : List Int} {dsu : List Nat} {dp : Nat → Nat} (h : LInv n pids dsu dp)
    (i k : Nat) (hi : i < pids.length) (hroot : pids[i] = -1) (hk : k < n) (hne : dsu.getD k 0 ≠ dsu.getD i 0) :
    LInv n (pids.set i (k : Int)) (dsu.map fun l => if l = dsu.getD i 0 then dsu.getD k 0 else l)
      (fun x => if dsu.getD x 0 = dsu.getD i 0 then dp x + dp k + 1 else dp x) := by
  have hn : pids.length = n := h.lp
  have hlab := fun x (hx : x < n) => getD_relabel dsu (dsu.getD i 0) (dsu.getD k 0) (h.ld ▸ hx : x < dsu.length)
  have hget : ∀ x (hx : x < (pids.set i (k : Int)).length),
      (x = i ∧ (pids.set i (k : Int))[x] = k) ∨ (x ≠ i ∧ ∃ hx' : x < pids.length, (pids.set i (k : Int))[x] = pids[x]) := by
    intro x hx
    by_cases e : x = i
    · exact Or.inl ⟨e, by simp only [e, List.getElem_set_self]⟩
    · exact Or.inr ⟨e, List.length_set ▸ hx, List.getElem_set_ne (Ne.symm e) _⟩
  refine ⟨List.length_set.trans hn, (List.length_map _).trans h.ld, ?_, ?_, ?_, ?_⟩
  · intro x hx
    rcases hget x hx with ⟨_, e⟩ | ⟨_, hx', e⟩ <;> rw [e]
    · right; omega
    · exact h.valid x hx'
  · intro x hx hnr
    rcases hget x hx with ⟨rfl, e⟩ | ⟨_, hx', e⟩ <;> rw [e] at hnr ⊢
    · simp only [Int.toNat_natCast, if_neg hne, if_true]
      omega
    · have hd := h.drop x hx' hnr
      rw [h.edge x hx' hnr]
      by_cases c : dsu.getD x 0 = dsu.getD i 0
      · rw [if_pos c, if_pos c]; omega
      · rw [if_neg c, if_neg c]; exact hd
  · intro x hx hnr
    rcases hget x hx with ⟨rfl, e⟩ | ⟨_, hx', e⟩ <;> rw [e] at hnr ⊢
    · rw [Int.toNat_natCast, hlab k hk, hlab x (hn ▸ hi), if_neg hne, if_pos rfl]
    · have hpn : (pids[x]).toNat < n := by
        have := (h.valid x hx').resolve_left hnr
        omega
      rw [hlab _ hpn, hlab x (hn ▸ hx'), h.edge x hx' hnr]
  · intro a b ha hb ra rb hab
    -- neither root is the rewritten row, so neither carried the label of `i`
    rcases hget a ha with ⟨_, e⟩ | ⟨hai, ha', ea⟩
    · rw [e] at ra; omega
    rcases hget b hb with ⟨_, e⟩ | ⟨hbi, hb', eb⟩
    · rw [e] at rb; omega
    rw [ea] at ra
    rw [eb] at rb
    have la : dsu.getD a 0 ≠ dsu.getD i 0 := fun e => hai (h.roots a i ha' hi ra hroot e)
    have lb : dsu.getD b 0 ≠ dsu.getD i 0 := fun e => hbi (h.roots b i hb' hi rb hroot e)
    rw [hlab a (hn ▸ ha'), hlab b (hn ▸ hb'), if_neg la, if_neg lb] at hab
    exact h.roots a b ha' hb' ra rb hab

/-- **the whole loop**: the table it returns satisfies the invariant, for some labels and some measure (which rows it rewrites, and
to what, is `linkLoop_spec` in `Proofs/Dsu.lean`) -/
theorem linkLoop_inv (n : Nat) (dist2 : Nat → Nat → Int) :
    ∀ (rs : List Nat) (pids : List Int) (dsu : List Nat) (dp : Nat → Nat), LInv n pids dsu dp → rs.Nodup →
      (∀ i ∈ rs, ∃ h : i < pids.length, pids[i] = -1) →
      (∃ r, ∃ h : r < pids.length, pids[r] = -1 ∧ r ∉ rs) →
      ∃ dsu' dp', LInv n (linkLoop ((List.range n).map Int.ofNat) dist2 rs pids dsu) dsu' dp' := by
  intro rs
  induction rs with
  | nil => intro pids dsu dp h _ _ _; exact ⟨dsu, dp, by simpa [linkLoop] using h⟩
  | cons i rest ih =>
    intro pids dsu dp h hnd hrs hfirst
    obtain ⟨hi, hroot⟩ := hrs i List.mem_cons_self
    obtain ⟨r, hr, hrroot, hrn⟩ := hfirst
    have hri : r ≠ i := fun e => hrn (e ▸ List.mem_cons_self)
    have hlen : ((List.range n).map Int.ofNat).length = n := by simp
    have hother : ∃ j, j < ((List.range n).map Int.ofNat).length ∧ dsu.getD j 0 ≠ dsu.getD i 0 :=
      ⟨r, by rw [hlen, ← h.lp]; exact hr, fun e => hri (h.roots r i hr hi hrroot hroot e)⟩
    obtain ⟨hk, hne⟩ := nearestOf_other _ dist2 i dsu hother
    rw [linkLoop_cons]
    generalize nearestOf ((List.range n).map Int.ofNat) dist2 i dsu = k at hk hne ⊢
    rw [hlen] at hk
    rw [Py.getD_range_map Int.ofNat 0 hk]
    have hstep := h.link i k hi hroot hk hne
    rw [List.nodup_cons] at hnd
    apply ih _ _ _ hstep hnd.2
    · intro j hj
      obtain ⟨hj1, hj2⟩ := hrs j (List.mem_cons_of_mem _ hj)
      have hji : i ≠ j := fun e => hnd.1 (e ▸ hj)
      exact ⟨by simpa using hj1, by rw [List.getElem_set_ne hji]; exact hj2⟩
    · exact ⟨r, by simpa using hr, by rw [List.getElem_set_ne (Ne.symm hri)]; exact hrroot,
        fun e => hrn (List.mem_cons_of_mem _ e)⟩

end Dsu
