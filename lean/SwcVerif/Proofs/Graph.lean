import Mathlib.Logic.Relation
import Mathlib.Data.List.Basic
/-! Graph lemmas for the exchange argument behind Prim's algorithm (used by `Props/C17.lean`).

A graph is a relation `B` (the edges already chosen — they stay inside the cut side `S`) together with a
list `R` of further edges (ordered pairs, read as undirected).  `Adj B R` is the union.  The lemmas say:
a walk that leaves `S` uses a crossing edge (`exists_crossing`), removing one edge splits a walk at most
at that edge (`walk_erase`), among the crossing edges of `R` there is one on a cycle through any given
crossing edge `(i, j)` we add (`exists_exchange`), and with that one exchanged for `(i, j)` every walk is still
there (`walk_exchange`). -/
namespace Graph
open Relation

/-- `(x, y)` is in the list in one of the two orientations -/
def adjL (R : List (Nat × Nat)) (x y : Nat) : Prop := (x, y) ∈ R ∨ (y, x) ∈ R

def Adj (B : Nat → Nat → Prop) (R : List (Nat × Nat)) (x y : Nat) : Prop := B x y ∨ adjL R x y

theorem adjL_symm {R : List (Nat × Nat)} {x y : Nat} (h : adjL R x y) : adjL R y x := h.symm

theorem Adj_symm {B : Nat → Nat → Prop} (hB : ∀ x y, B x y → B y x) {R : List (Nat × Nat)} {x y : Nat}
    (h : Adj B R x y) : Adj B R y x := h.elim (fun h => Or.inl (hB _ _ h)) (fun h => Or.inr h.symm)

theorem rtg_symm {A : Nat → Nat → Prop} (hA : ∀ x y, A x y → A y x) {x y : Nat}
    (h : ReflTransGen A x y) : ReflTransGen A y x := by
  induction h with
  | refl => exact ReflTransGen.refl
  | tail _ hbc ih => exact ReflTransGen.head (hA _ _ hbc) ih

theorem rtg_mono {A A' : Nat → Nat → Prop} (h : ∀ x y, A x y → A' x y) {x y : Nat}
    (hxy : ReflTransGen A x y) : ReflTransGen A' x y := ReflTransGen.mono h _ _ hxy

/-- a walk from inside `S` to outside `S` uses a crossing edge, and reaches it by edges inside `S` -/
theorem exists_crossing {A : Nat → Nat → Prop} (S : Nat → Prop) {i j : Nat}
    (h : ReflTransGen A i j) (hi : S i) (hj : ¬ S j) :
    ∃ a b, S a ∧ ¬ S b ∧ A a b ∧ ReflTransGen (fun x y => A x y ∧ S x ∧ S y) i a := by
  induction h using ReflTransGen.head_induction_on with
  | refl => exact absurd hi hj
  | @head a c hab _ ih =>
    by_cases hc : S c
    · obtain ⟨a', b', h1, h2, h3, h4⟩ := ih hc
      exact ⟨a', b', h1, h2, h3, ReflTransGen.head ⟨hab, hi, hc⟩ h4⟩
    · exact ⟨a, c, hi, hc, hab, ReflTransGen.refl⟩

/-- removing the edge `{a, b}`: a walk either survives or is split at that edge -/
theorem walk_erase {A A' : Nat → Nat → Prop} {a b : Nat}
    (hA : ∀ x y, A x y → A' x y ∨ (x = a ∧ y = b) ∨ (x = b ∧ y = a)) {x y : Nat}
    (h : ReflTransGen A x y) :
    ReflTransGen A' x y ∨ (ReflTransGen A' x a ∧ ReflTransGen A' b y) ∨
      (ReflTransGen A' x b ∧ ReflTransGen A' a y) := by
  induction h with
  | refl => exact Or.inl ReflTransGen.refl
  | @tail c d _ hcd ih =>
    rcases hA c d hcd with h' | ⟨rfl, rfl⟩ | ⟨rfl, rfl⟩
    · rcases ih with h1 | ⟨h1, h2⟩ | ⟨h1, h2⟩
      · exact Or.inl (h1.tail h')
      · exact Or.inr (Or.inl ⟨h1, h2.tail h'⟩)
      · exact Or.inr (Or.inr ⟨h1, h2.tail h'⟩)
    · -- the removed edge, walked from `a` to `b`
      rcases ih with h1 | ⟨h1, _⟩ | ⟨h1, _⟩
      · exact Or.inr (Or.inl ⟨h1, ReflTransGen.refl⟩)
      · exact Or.inr (Or.inl ⟨h1, ReflTransGen.refl⟩)
      · exact Or.inl h1
    · -- the removed edge, walked from `b` to `a`
      rcases ih with h1 | ⟨h1, _⟩ | ⟨h1, _⟩
      · exact Or.inr (Or.inr ⟨h1, ReflTransGen.refl⟩)
      · exact Or.inl h1
      · exact Or.inr (Or.inr ⟨h1, ReflTransGen.refl⟩)

/-- what erasing one occurrence of `f` from the list does to adjacency -/
theorem adjL_erase {R : List (Nat × Nat)} {f : Nat × Nat} {x y : Nat} (h : adjL R x y) :
    adjL (R.erase f) x y ∨ (x = f.1 ∧ y = f.2) ∨ (x = f.2 ∧ y = f.1) := by
  rcases h with h | h
  · by_cases hf : (x, y) = f
    · subst hf; exact Or.inr (Or.inl ⟨rfl, rfl⟩)
    · exact Or.inl (Or.inl ((List.mem_erase_of_ne hf).mpr h))
  · by_cases hf : (y, x) = f
    · subst hf; exact Or.inr (Or.inr ⟨rfl, rfl⟩)
    · exact Or.inl (Or.inr ((List.mem_erase_of_ne hf).mpr h))

theorem adjL_of_erase {R : List (Nat × Nat)} {f : Nat × Nat} {x y : Nat} (h : adjL (R.erase f) x y) :
    adjL R x y := h.elim (fun h => Or.inl (List.mem_of_mem_erase h)) (fun h => Or.inr (List.mem_of_mem_erase h))

theorem Adj_erase {B : Nat → Nat → Prop} {R : List (Nat × Nat)} {f : Nat × Nat} {a b : Nat}
    (hfab : f = (a, b) ∨ f = (b, a)) {x y : Nat} (h : Adj B R x y) :
    Adj B (R.erase f) x y ∨ (x = a ∧ y = b) ∨ (x = b ∧ y = a) := by
  rcases hfab with rfl | rfl
  · exact h.elim (fun h => Or.inl (Or.inl h)) fun h => (adjL_erase h).imp_left Or.inr
  · exact h.elim (fun h => Or.inl (Or.inl h)) fun h => (adjL_erase h).imp Or.inr Or.symm

/-- **the exchange edge**: if `i ∈ S` and `j ∉ S` are joined by a walk in `B ∪ R`, where the edges of `B`
stay inside `S`, then `R` contains a crossing edge `f = {a, b}` such that after removing (one copy of) it
`i` still reaches `a` and `b` still reaches `j` — so adding the edge `{i, j}` closes the gap again. -/
theorem exists_exchange (B : Nat → Nat → Prop) (S : Nat → Prop) (hBS : ∀ x y, B x y → S x ∧ S y) :
    ∀ (m : Nat) (R : List (Nat × Nat)), R.length = m → ∀ i j, S i → ¬ S j → ReflTransGen (Adj B R) i j →
      ∃ f ∈ R, ∃ a b, (f = (a, b) ∨ f = (b, a)) ∧ S a ∧ ¬ S b ∧
        ReflTransGen (Adj B (R.erase f)) i a ∧ ReflTransGen (Adj B (R.erase f)) b j := by
  intro m
  induction m using Nat.strongRecOn with
  | _ m ih =>
  intro R hR i j hi hj h
  obtain ⟨a, b, ha, hb, hab, hpre⟩ := exists_crossing S h hi hj
  -- the copy of the crossing edge that is in the list (no edge of `B` crosses)
  obtain ⟨f, hfR, hfab⟩ : ∃ f ∈ R, (f = (a, b) ∨ f = (b, a)) := by
    rcases hab.resolve_left fun hB => hb (hBS a b hB).2 with h' | h'
    · exact ⟨(a, b), h', Or.inl rfl⟩
    · exact ⟨(b, a), h', Or.inr rfl⟩
  -- the prefix inside `S` does not use the crossing edge
  have hia : ReflTransGen (Adj B (R.erase f)) i a := by
    refine rtg_mono ?_ hpre
    intro x y ⟨hxy, hx, hy⟩
    rcases Adj_erase hfab hxy with h' | ⟨rfl, rfl⟩ | ⟨rfl, rfl⟩
    · exact h'
    · exact absurd hy hb
    · exact absurd hx hb
  -- without `f`, either `b` still reaches `j`, or `i` does: then look for the exchange edge in the shorter list
  obtain hbj | hij : ReflTransGen (Adj B (R.erase f)) b j ∨ ReflTransGen (Adj B (R.erase f)) i j := by
    rcases walk_erase (fun _ _ => Adj_erase hfab) h with h1 | ⟨_, h2⟩ | ⟨_, h2⟩
    · exact Or.inr h1
    · exact Or.inl h2
    · exact Or.inr (hia.trans h2)
  · exact ⟨f, hfR, a, b, hfab, ha, hb, hia, hbj⟩
  · have hlt : (R.erase f).length < m := by
      rw [List.length_erase_of_mem hfR, ← hR]; exact Nat.sub_lt (List.length_pos_of_mem hfR) Nat.one_pos
    obtain ⟨f1, hf1, a1, b1, h1, h2, h3, h4, h5⟩ := ih _ hlt (R.erase f) rfl i j hi hj hij
    have hmono : ∀ x y, Adj B ((R.erase f).erase f1) x y → Adj B (R.erase f1) x y := by
      intro x y hxy
      rw [List.erase_comm] at hxy
      exact hxy.imp_right adjL_of_erase
    exact ⟨f1, List.mem_of_mem_erase hf1, a1, b1, h1, h2, h3, rtg_mono hmono h4, rtg_mono hmono h5⟩

/-- **the exchange keeps every walk**: with the exchange edge `f = {a, b}` removed and the new edge `{i, j}` among the
chosen ones (`B'`, which contains `B`), whatever was joined in `B ∪ R` is joined in `B' ∪ (R - f)` -/
theorem walk_exchange {B B' : Nat → Nat → Prop} (hBB' : ∀ x y, B x y → B' x y) (hB' : ∀ x y, B' x y → B' y x)
    {R : List (Nat × Nat)} {f : Nat × Nat} {a b i j : Nat} (hfab : f = (a, b) ∨ f = (b, a)) (hnew : B' i j)
    (hia : ReflTransGen (Adj B (R.erase f)) i a) (hbj : ReflTransGen (Adj B (R.erase f)) b j)
    {x y : Nat} (h : ReflTransGen (Adj B R) x y) : ReflTransGen (Adj B' (R.erase f)) x y := by
  have hsub : ∀ x y, Adj B (R.erase f) x y → Adj B' (R.erase f) x y := fun x y h => h.imp_left (hBB' x y)
  have hsymm : ∀ x y, Adj B' (R.erase f) x y → Adj B' (R.erase f) y x := fun _ _ h => Adj_symm hB' h
  have hab : ReflTransGen (Adj B' (R.erase f)) a b :=
    ((rtg_symm hsymm (rtg_mono hsub hia)).tail (Or.inl hnew)).trans (rtg_symm hsymm (rtg_mono hsub hbj))
  -- every edge of `B ∪ R` is still there, or is `{a, b}`, which the detour over `{i, j}` joins
  refine reflTransGen_closed (fun x y hxy => ?_) x y h
  rcases Adj_erase hfab hxy with h' | ⟨rfl, rfl⟩ | ⟨rfl, rfl⟩
  · exact ReflTransGen.single (hsub x y h')
  · exact hab
  · exact rtg_symm hsymm hab
end Graph
