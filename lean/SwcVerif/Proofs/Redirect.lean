import SwcVerif.Model.Redirect
import SwcVerif.Proofs.Sort
import SwcVerif.Refine.PyRun
/-! Lemmas about the executable model `Model/Redirect.lean` (namespace `Redir`), and `Pipeline.WFr`: a parent table that is a tree
rooted at some position, with the facts about its root paths that `C07.WF` (root at position 0) inherits. -/
namespace Redir

/-! ## rootPath -/
theorem rp_zero (pids : List Int) (k : Int) : rootPath pids 0 k = [k] := rfl

theorem rp_succ (pids : List Int) (f : Nat) (k : Int) :
    rootPath pids (f+1) k =
      if pids.getD k.toNat (-1) = -1 then [k] else k :: rootPath pids f (pids.getD k.toNat (-1)) := by
  rw [rootPath]
  split
  · next h => rw [if_pos h]
  · next h => rw [if_neg (by intro h'; exact h h')]

theorem rp_parentless (q : List Int) (v : Int) (h : q.getD v.toNat (-1) = -1) (f : Nat) : rootPath q f v = [v] := by
  cases f with
  | zero => rfl
  | succ f => rw [rp_succ, if_pos h]

theorem rp_eq_cons (pids : List Int) (f : Nat) (k : Int) : rootPath pids f k = k :: (rootPath pids f k).tail := by
  cases f with
  | zero => rfl
  | succ f => rw [rp_succ]; split <;> rfl

theorem rp_ne_nil (pids : List Int) (f : Nat) (k : Int) : rootPath pids f k ≠ [] := by
  rw [rp_eq_cons]; exact List.cons_ne_nil _ _

theorem rp_head (pids : List Int) (f : Nat) (k : Int) : (rootPath pids f k).head? = some k := by
  rw [rp_eq_cons]; rfl

theorem rp_getElem_zero (pids : List Int) (f : Nat) (k : Int) (h : 0 < (rootPath pids f k).length) :
    (rootPath pids f k)[0] = k := by
  have := rp_head pids f k
  rw [List.head?_eq_getElem?, List.getElem?_eq_getElem h] at this
  exact Option.some.inj this

theorem rp_length_le (pids : List Int) : ∀ (f : Nat) (v : Int), (rootPath pids f v).length ≤ f + 1 := by
  intro f
  induction f with
  | zero => intro v; simp [rp_zero]
  | succ f ih =>
    intro v
    rw [rp_succ]
    split
    · simp
    · have := ih (pids.getD v.toNat (-1)); rw [List.length_cons]; omega

theorem rp_lower (q : List Int) (z : Int) (hz : q.getD z.toNat (-1) = -1) :
    ∀ (f : Nat) (v : Int), (rootPath q f v).getLast? = some z →
      ∀ g, (rootPath q f v).length ≤ g + 1 → rootPath q g v = rootPath q f v := by
  intro f
  induction f with
  | zero =>
    intro v h g _
    obtain rfl : v = z := by simpa [rp_zero] using h
    rw [rp_parentless q v hz, rp_zero]
  | succ f ih =>
    intro v h g hl
    by_cases hp : q.getD v.toNat (-1) = -1
    · rw [rp_parentless q v hp, rp_parentless q v hp]
    · rw [rp_succ, if_neg hp] at h hl ⊢
      rw [List.getLast?_cons_of_ne_nil (rp_ne_nil _ _ _)] at h
      cases g with
      | zero =>
        have := List.length_pos_iff.2 (rp_ne_nil q f (q.getD v.toNat (-1)))
        rw [List.length_cons] at hl
        omega
      | succ g => rw [rp_succ, if_neg hp, ih _ h g (by rw [List.length_cons] at hl; omega)]
/-- once the walk has stopped at a parentless node, more fuel changes nothing -/
theorem rp_stable (pids : List Int) (z : Int) (hz : pids.getD z.toNat (-1) = -1) (f : Nat) (v : Int)
    (h : (rootPath pids f v).getLast? = some z) : rootPath pids (f+1) v = rootPath pids f v :=
  rp_lower pids z hz f v h (f + 1) (by have := rp_length_le pids f v; omega)

/-- consecutive elements of the walk are child → parent -/
theorem rp_chain (pids : List Int) : ∀ (f : Nat) (k : Int) (i : Nat) (h : i + 1 < (rootPath pids f k).length),
    pids.getD ((rootPath pids f k)[i]'(by omega)).toNat (-1) = (rootPath pids f k)[i+1] := by
  intro f
  induction f with
  | zero => intro k i h; simp [rp_zero] at h
  | succ f ih =>
    intro k i h
    have e := rp_succ pids f k
    by_cases hp : pids.getD k.toNat (-1) = -1
    · rw [if_pos hp] at e
      rw [e] at h; simp at h
    · rw [if_neg hp] at e
      have hl : (rootPath pids (f+1) k).length = (rootPath pids f (pids.getD k.toNat (-1))).length + 1 := by
        rw [e]; rfl
      cases i with
      | zero =>
        simp only [e, List.getElem_cons_zero, List.getElem_cons_succ]
        exact (rp_getElem_zero _ _ _ _).symm
      | succ i =>
        simp only [e, List.getElem_cons_succ]
        exact ih _ i (by omega)

theorem walk_of_measure (q : List Int) (ρ : Nat) (hroot : q[ρ]? = some (-1)) (μ : Int → Nat)
    (hstep : ∀ (k : Nat) (v : Int), q[k]? = some v → k ≠ ρ → 0 ≤ v ∧ v < q.length ∧ μ v < μ k) :
    ∀ (f v : Nat), v < q.length →
      (∀ w ∈ rootPath q f (v : Int), 0 ≤ w ∧ w.toNat < q.length ∧ μ w ≤ μ v) ∧
      (rootPath q f (v : Int)).Nodup ∧
      (μ v ≤ f → (rootPath q f (v : Int)).getLast? = some (ρ : Int)) := by
  intro f
  induction f with
  | zero =>
    intro v hv
    refine ⟨by simp [rp_zero, hv], by simp [rp_zero], fun hf => ?_⟩
    have : v = ρ := by
      apply Decidable.byContradiction
      intro hne
      have := hstep v _ (List.getElem?_eq_getElem hv) hne
      omega
    subst this
    simp [rp_zero]
  | succ f ih =>
    intro v hv
    rw [rp_succ]
    by_cases hvr : v = ρ
    · subst hvr
      have : q.getD (v : Int).toNat (-1) = -1 := by simp [List.getD_eq_getElem?_getD, hroot]
      rw [if_pos this]
      simp [hv]
    · obtain ⟨h1, h2, hm⟩ := hstep v _ (List.getElem?_eq_getElem hv) hvr
      rw [Int.toNat_natCast, Py.getD_eq_getElem q (-1) hv, if_neg (by omega)]
      have e : (((q[v]).toNat : Nat) : Int) = q[v] := by omega
      obtain ⟨a, b, c⟩ := ih (q[v]).toNat (by omega)
      rw [e] at a b c
      refine ⟨?_, ?_, fun hf => ?_⟩
      · intro w hw
        rcases List.mem_cons.1 hw with rfl | hw
        · simp [hv]
        · have := a w hw
          exact ⟨this.1, this.2.1, by omega⟩
      · rw [List.nodup_cons]
        refine ⟨fun hmem => ?_, b⟩
        have := (a _ hmem).2.2
        omega
      · rw [List.getLast?_cons_of_ne_nil (rp_ne_nil _ _ _)]
        exact c (by omega)

/-! ## setAt / reversePath -/
theorem setAt_length {α} (l : List α) (i : Int) (v : α) : (setAt l i v).length = l.length := by
  unfold setAt; split <;> simp

theorem setAt_getElem? {α} (l : List α) (i : Int) (v : α) (j : Nat) :
    (setAt l i v)[j]? = if (j : Int) = i then l[j]?.map fun _ => v else l[j]? := by
  unfold setAt
  split
  · rw [if_neg (by omega)]
  · next h =>
    obtain ⟨k, rfl⟩ := Int.eq_ofNat_of_zero_le (Int.not_lt.1 h)
    simp only [Int.toNat_natCast, Int.natCast_inj, List.getElem?_set]
    by_cases e : k = j
    · subst e
      by_cases hk : k < l.length <;> simp [hk]
    · simp [e, Ne.symm e]

theorem setAt_getElem?_ne {α} (l : List α) (i : Int) (v : α) (j : Nat) (h : (j : Int) ≠ i) :
    (setAt l i v)[j]? = l[j]? := by
  rw [setAt_getElem?, if_neg h]

theorem setAt_getElem?_self {α} (l : List α) (j : Nat) (v : α) (h : j < l.length) :
    (setAt l (j : Int) v)[j]? = some v := by
  rw [setAt_getElem?, if_pos rfl, List.getElem?_eq_getElem h]; rfl

theorem setAt_eq_self {α} {l : List α} {j : Nat} {v : α} (h : l[j]? = some v) : setAt l (j : Int) v = l := by
  apply List.ext_getElem?
  intro i
  rw [setAt_getElem?]
  split
  · next e => obtain rfl := Int.ofNat.inj e; rw [h]; rfl
  · rfl

theorem reversePath_cons_cons (ps : List Int) (c p : Int) (rest : List Int) :
    reversePath ps (c :: p :: rest) = reversePath (setAt ps p c) (p :: rest) := by
  rw [reversePath]

theorem reversePath_nil (ps : List Int) : reversePath ps [] = ps := by rw [reversePath]; intros; simp_all
theorem reversePath_single (ps : List Int) (c : Int) : reversePath ps [c] = ps := by
  rw [reversePath]; intros; simp_all

theorem reversePath_length : ∀ (l : List Int) (ps : List Int), (reversePath ps l).length = ps.length := by
  intro l
  induction l with
  | nil => intro ps; rw [reversePath_nil]
  | cons c l ih =>
    intro ps
    cases l with
    | nil => rw [reversePath_single]
    | cons p rest => rw [reversePath_cons_cons, ih, setAt_length]

/-- rows that are not a later element of the path are not written -/
theorem reversePath_frame : ∀ (l : List Int) (ps : List Int) (v : Nat), (v : Int) ∉ l.tail →
    (reversePath ps l)[v]? = ps[v]? := by
  intro l
  induction l with
  | nil => intro ps v _; rw [reversePath_nil]
  | cons c l ih =>
    intro ps v hv
    cases l with
    | nil => rw [reversePath_single]
    | cons p rest =>
      rw [reversePath_cons_cons, ih]
      · apply setAt_getElem?_ne
        intro h; apply hv; simp [h]
      · intro h; apply hv; simp at h ⊢; exact Or.inr h

/-- every later element of a duplicate-free path now points to its predecessor -/
theorem reversePath_rev : ∀ (l : List Int) (ps : List Int), l.Nodup → (∀ v ∈ l, 0 ≤ v ∧ v < ps.length) →
    ∀ i (h : i + 1 < l.length), (reversePath ps l)[(l[i+1]).toNat]? = some (l[i]'(by omega)) := by
  intro l
  induction l with
  | nil => intro ps _ _ i h; simp at h
  | cons c l ih =>
    intro ps hnd hval i h
    cases l with
    | nil => simp at h
    | cons p rest =>
      rw [reversePath_cons_cons]
      have hp := hval p (by simp)
      have hnd' : (p :: rest).Nodup := (List.nodup_cons.mp hnd).2
      cases i with
      | zero =>
        simp only [List.getElem_cons_zero, List.getElem_cons_succ]
        have e : ((p.toNat : Nat) : Int) = p := Int.toNat_of_nonneg hp.1
        rw [reversePath_frame _ _ _ (by rw [e]; exact (List.nodup_cons.mp hnd').1), setAt_getElem?, if_pos e,
          List.getElem?_eq_getElem (by omega)]
        rfl
      | succ i =>
        simp only [List.getElem_cons_succ]
        have := ih (setAt ps p c) hnd' (by
          intro v hv; rw [setAt_length]; exact hval v (List.mem_cons_of_mem _ hv)) i (by simpa using h)
        simpa using this

theorem redirect_of_last (pids types : List Int) (k z : Int) (h : (rootPath pids pids.length k).getLast? = some z) :
    redirect pids types k = ⟨reversePath (setAt pids k (-1)) (rootPath pids pids.length k),
      setAt (setAt types k (types.getD z.toNat 0)) z (types.getD k.toNat 0)⟩ := by
  rw [redirect, List.getLastD_eq_getLast?, h]
  rfl

theorem redirect_lengths (pids types : List Int) (k : Int) :
    (redirect pids types k).pids.length = pids.length ∧ (redirect pids types k).types.length = types.length :=
  ⟨(reversePath_length _ _).trans (setAt_length _ _ _), (setAt_length _ _ _).trans (setAt_length _ _ _)⟩

/-! ## foldl of setAt -/
theorem foldl_setAt_length {α} (v : α) : ∀ (L : List Int) (ps : List α),
    (L.foldl (fun ps n => setAt ps n v) ps).length = ps.length := by
  intro L
  induction L with
  | nil => intro ps; rfl
  | cons a L ih => intro ps; rw [List.foldl_cons, ih, setAt_length]

theorem foldl_setAt_getElem? {α} (v : α) : ∀ (L : List Int) (ps : List α) (i : Nat),
    (L.foldl (fun ps n => setAt ps n v) ps)[i]? = if (i : Int) ∈ L then ps[i]?.map fun _ => v else ps[i]? := by
  intro L
  induction L with
  | nil => intro ps i; simp
  | cons a L ih =>
    intro ps i
    rw [List.foldl_cons, ih, setAt_getElem?]
    by_cases hL : (i : Int) ∈ L
    · rw [if_pos hL, if_pos (List.mem_cons_of_mem _ hL)]
      split
      · rw [Option.map_map]; rfl
      · rfl
    · rw [if_neg hL]
      by_cases ha : (i : Int) = a
      · rw [if_pos ha, if_pos (ha ▸ List.mem_cons_self)]
      · rw [if_neg ha, if_neg (fun h => (List.mem_cons.1 h).elim ha hL)]

/-! ## eraseAt -/
theorem eraseAt_eq_eraseIdx {α} (l : List α) (k : Nat) : eraseAt l k = l.eraseIdx k :=
  (List.eraseIdx_eq_take_drop_succ l k).symm

theorem getElem?_eraseIdx_ite {α} (l : List α) (k i : Nat) : (l.eraseIdx k)[i]? = l[if i < k then i else i + 1]? := by
  rw [List.getElem?_eraseIdx]
  split <;> rfl

theorem length_eraseIdx_congr {α β} {l : List α} {l' : List β} (h : l.length = l'.length) (k : Nat) :
    (l.eraseIdx k).length = (l'.eraseIdx k).length := by
  rw [List.length_eraseIdx, List.length_eraseIdx, h]

theorem eraseIdx_map {α β} (f : α → β) (l : List α) (k : Nat) : (l.map f).eraseIdx k = (l.eraseIdx k).map f := by
  apply List.ext_getElem?
  intro i
  simp only [List.getElem?_eraseIdx, List.getElem?_map]
  split <;> rfl

theorem eraseIdx_congr {α} {l l' : List α} {k : Nat} (h : ∀ i, i ≠ k → l[i]? = l'[i]?) : l.eraseIdx k = l'.eraseIdx k := by
  apply List.ext_getElem?
  intro i
  rw [List.getElem?_eraseIdx, List.getElem?_eraseIdx]
  split
  · exact h i (by omega)
  · exact h _ (by omega)

/-! ## tableKids -/
theorem mem_tableKids_range (ps : List Int) (n : Nat) (q i : Int) :
    i ∈ tableKids ((List.range n).map Int.ofNat) ps q ↔ ∃ j : Nat, j < n ∧ i = (j : Int) ∧ ps[j]? = some q := by
  rw [SortM.mem_tableKids_zip, List.mem_iff_getElem?]
  simp only [List.getElem?_zip_eq_some]
  constructor
  · rintro ⟨m, h1, h2⟩
    have hm : m < n := by simpa using (List.getElem?_eq_some_iff.1 h1).1
    rw [List.getElem?_map, List.getElem?_range hm] at h1
    exact ⟨m, hm, (Option.some.inj h1).symm, h2⟩
  · rintro ⟨j, hj, rfl, hq⟩
    exact ⟨j, by rw [List.getElem?_map, List.getElem?_range hj]; rfl, hq⟩
end Redir

namespace Pipeline
open Redir

/-- well-formed parent list with the root at position `ρ` -/
structure WFr (ps : List Int) (ρ : Nat) : Prop where
  root : ps[ρ]? = some (-1)
  valid : ∀ k (h : k < ps.length), k ≠ ρ → 0 ≤ ps[k] ∧ ps[k] < ps.length
  reach : ∀ k, k < ps.length → (rootPath ps ps.length (k : Int)).getLast? = some (ρ : Int)

namespace WFr
variable {ps : List Int} {ρ : Nat}

theorem lt (hw : WFr ps ρ) : ρ < ps.length := (List.getElem?_eq_some_iff.1 hw.root).1

theorem par_root (hw : WFr ps ρ) : ps.getD (ρ : Int).toNat (-1) = -1 := by
  simp [List.getD_eq_getElem?_getD, hw.root]

theorem par_valid' (hw : WFr ps ρ) (v : Int) (h0 : 0 ≤ v) (hne : v ≠ ρ) (hv : v < ps.length) :
    0 ≤ ps.getD v.toNat (-1) ∧ ps.getD v.toNat (-1) < ps.length := by
  have hlt : v.toNat < ps.length := by omega
  rw [Py.getD_eq_getElem ps (-1) hlt]
  exact hw.valid v.toNat hlt (by omega)

theorem entry_lt (hw : WFr ps ρ) (k : Nat) (h : k < ps.length) : ps[k] < ps.length := by
  by_cases hk : k = ρ
  · subst hk
    have := hw.root
    rw [List.getElem?_eq_getElem h] at this
    have := Option.some.inj this
    omega
  · exact (hw.valid k h hk).2

theorem unique (hw : WFr ps ρ) (v : Nat) (h : v < ps.length) (e : ps[v] = -1) : v = ρ := by
  apply Decidable.byContradiction
  intro hne
  have := (hw.valid v h hne).1
  omega

/-- the root path of a node other than the root is the node followed by the root path of its parent -/
theorem path_cons (hw : WFr ps ρ) (v : Int) (h0 : 0 ≤ v) (hne : v ≠ ρ) (hv : v < ps.length) :
    rootPath ps ps.length v = v :: rootPath ps ps.length (ps.getD v.toNat (-1)) := by
  have hlast := hw.reach v.toNat (by omega)
  have hvv : ((v.toNat : Nat) : Int) = v := by omega
  rw [hvv] at hlast
  have hpv := hw.par_valid' v h0 hne hv
  have hne' : ps.getD v.toNat (-1) ≠ -1 := by omega
  obtain ⟨m, hm⟩ : ∃ m, ps.length = m + 1 := ⟨ps.length - 1, by have := hw.lt; omega⟩
  rw [hm] at hlast ⊢
  rw [rp_succ, if_neg hne'] at hlast
  rw [List.getLast?_cons_of_ne_nil (rp_ne_nil _ _ _)] at hlast
  rw [rp_stable ps ρ hw.par_root m _ hlast, rp_succ, if_neg hne']

/-- along any walk the depth (length of the full root path) does not increase, so no node repeats -/
theorem walk (hw : WFr ps ρ) : ∀ (f : Nat) (v : Int), 0 ≤ v → v < ps.length →
    (∀ w ∈ rootPath ps f v, 0 ≤ w ∧ w < ps.length ∧
        (rootPath ps ps.length w).length ≤ (rootPath ps ps.length v).length) ∧
    (rootPath ps f v).Nodup := by
  intro f v h0 hv
  have hvv : ((v.toNat : Nat) : Int) = v := by omega
  obtain ⟨a, b, _⟩ := walk_of_measure ps ρ hw.root (fun w => (rootPath ps ps.length w).length) (fun k x hk hne => by
    obtain ⟨hkl, rfl⟩ := List.getElem?_eq_some_iff.1 hk
    have hx := hw.valid k hkl hne
    have := congrArg List.length (hw.path_cons k (by omega) (by omega) (by omega))
    rw [Int.toNat_natCast, Py.getD_eq_getElem ps (-1) hkl, List.length_cons] at this
    exact ⟨hx.1, hx.2, by omega⟩) f v.toNat (by omega)
  rw [hvv] at a b
  exact ⟨fun w hw' => by have := a w hw'; exact ⟨this.1, by omega, this.2.2⟩, b⟩

end WFr
end Pipeline
