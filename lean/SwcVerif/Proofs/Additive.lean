import Mathlib.Data.Set.Lattice
import Mathlib.Data.Real.Basic
import Mathlib.Tactic.Linarith
/-! Finitely additive set functions: the only property of "volume" the inclusion–exclusion
arguments of C13 / C14 use. -/
namespace Additive
variable {α : Type}

/-- `m` is finitely additive on disjoint sets -/
def FinAdd (m : Set α → ℝ) : Prop := ∀ A B : Set α, Disjoint A B → m (A ∪ B) = m A + m B

theorem FinAdd.empty {m : Set α → ℝ} (hm : FinAdd m) : m ∅ = 0 := by
  have := hm ∅ ∅ disjoint_bot_left
  rw [Set.empty_union] at this
  linarith

/-- inclusion–exclusion for two sets -/
theorem FinAdd.union_inter {m : Set α → ℝ} (hm : FinAdd m) (A B : Set α) :
    m (A ∪ B) = m A + m B - m (A ∩ B) := by
  -- `A ∪ B = A ⊔ (B \ A)` and `B = (B \ A) ⊔ (B ∩ A)`, both disjoint
  have e1 := hm A (B \ A) Set.disjoint_sdiff_right
  have e2 := hm (B \ A) (B ∩ A) Set.disjoint_sdiff_inter
  rw [Set.union_sdiff_self] at e1
  rw [Set.sdiff_union_inter, Set.inter_comm] at e2
  linarith

/-- inclusion–exclusion with the intersection given as a set `C` (for an intersection known in closed form, e.g. `A ∩ B = A` when `A ⊆ B`) -/
theorem FinAdd.union_of_inter_eq {m : Set α → ℝ} (hm : FinAdd m) (A B C : Set α) (h : A ∩ B = C) :
    m (A ∪ B) = m A + m B - m C := by
  rw [hm.union_inter, h]
end Additive
