/-! One list lemma, in the root namespace: the split at the first element satisfying `p`, behind both `first_invalid` theorems
(`SwcText`, `RefineParse`) of the readers. -/
theorem List.forall_not_or_first {α : Type} (p : α → Prop) [DecidablePred p] (ls : List α) :
    (∀ l ∈ ls, ¬ p l) ∨ ∃ pre bad post, ls = pre ++ bad :: post ∧ (∀ l ∈ pre, ¬ p l) ∧ p bad := by
  induction ls with
  | nil => exact .inl (by simp)
  | cons l ls ih =>
    by_cases hl : p l
    · exact .inr ⟨[], l, ls, rfl, by simp, hl⟩
    · rcases ih with ih | ⟨pre, bad, post, rfl, hpre, hbad⟩
      · exact .inl (List.forall_mem_cons.2 ⟨hl, ih⟩)
      · exact .inr ⟨l :: pre, bad, post, rfl, List.forall_mem_cons.2 ⟨hl, hpre⟩, hbad⟩
