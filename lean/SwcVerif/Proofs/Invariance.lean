import SwcVerif.Props.C10LmGeo
import SwcVerif.Props.C10NodeFeat
import SwcVerif.Props.C10Sholl
import SwcVerif.Props.C10Gen
import SwcVerif.Props.C11
import SwcVerif.Refine.NodeFeat2
/-! # C11 for the GENERATED measures: lemmas

The generated geometric measures (`Gen/AlgoLmGeo`, `Gen/AlgoNodeFeat`, `Gen/AlgoSholl`) see the coordinates only through `norm` applied to
differences of coordinate rows (their refinement theorems, `Props/C10LmGeo`, `Props/C10NodeFeat`, say so).  Hence: if the coordinates are
replaced by others whose inter-node distances are `φ` of the old ones, with `φ` additive (`Homog`: the identity for a rigid motion,
`s * ·` for a uniform scaling by `s > 0`), every length-type measure becomes `φ` of the old one, and every ratio / count stays. -/
namespace Invar
open LmGeo Gen.Algo

section generic
variable {K : Type} [Inhabited K] [Add K] [Sub K] [Mul K] [OfNat K 0] [OfNat K 1] [LT K] [DecidableLT K] [LE K] [DecidableLE K]

/-- `i` is a node of a table of `n` rows -/
def VI (n : Nat) (i : Int) : Prop := 0 ≤ i ∧ i < (n : Int)

/-- what the measures need of the map `φ` old distance ↦ new distance: additive, and sign-preserving / ratio-preserving (for the zero-length
guards and the ratios).  The identity (rigid motions) and `s * ·`, `s > 0`, in an ordered field (uniform scaling) are instances. -/
structure Homog (F : Py.Fld K) (φ : K → K) : Prop where
  zero : φ 0 = 0
  add : ∀ a b, φ (a + b) = φ a + φ b
  neg : ∀ x, φ x < 0 ↔ x < 0
  pos : ∀ x, 0 < φ x ↔ 0 < x
  div : ∀ a b, F.div (φ a) (φ b) = F.div a b

theorem Homog.id (F : Py.Fld K) : Homog F (fun x : K => x) := ⟨rfl, fun _ _ => rfl, fun _ => Iff.rfl, fun _ => Iff.rfl, fun _ _ => rfl⟩

theorem Homog.fdiv {F : Py.Fld K} {φ : K → K} (h : Homog F φ) (a b : K) : Py.fdiv (φ a) (φ b) = Py.fdiv a b := by
  unfold Py.fdiv
  simp only [h.neg, h.pos, h.div]

theorem sumFrom0_rel {α : Type} {F : Py.Fld K} {φ : K → K} (h : Homog F φ) (f f' : α → K) (l : List α) (hl : ∀ e ∈ l, f' e = φ (f e)) :
    sumFrom 0 (l.map f') = φ (sumFrom 0 (l.map f)) := by
  unfold sumFrom
  rw [List.foldl_map, List.foldl_map, List.foldl_ext _ (fun a e => a + φ (f e)) 0 fun a e he => by rw [hl e he]]
  have hom := List.foldl_hom φ (g₁ := fun a e => a + f e) (g₂ := fun a e => a + φ (f e)) (l := l) (init := 0)
    fun a e => (h.add a (f e)).symm
  rwa [h.zero] at hom

/-- the distances between the nodes of the new table `xs' ys' zs'` are `φ` of those of the old table -/
def DistRel (φ : K → K) (norm : List K → K) (n : Nat) (xs ys zs xs' ys' zs' : List K) : Prop :=
  ∀ a b : Int, VI n a → VI n b → dist norm xs' ys' zs' a b = φ (dist norm xs ys zs a b)

theorem rootPath_valid {pids : List Int} (hw : C07.WF pids) (f : Nat) (k : Int) (hk : VI pids.length k) :
    ∀ i ∈ Redir.rootPath pids f k, VI pids.length i :=
  fun i hi => ⟨((hw.walk f k hk.1 hk.2).1 i hi).1, ((hw.walk f k hk.1 hk.2).1 i hi).2.1⟩

/-! ## the generated L-Measure geometry (`Gen/AlgoLmGeo`): tables as columns -/

theorem steps_valid {n : Nat} {path : List Int} (h : ∀ i ∈ path, VI n i) : ∀ e ∈ steps path, VI n e.1 ∧ VI n e.2 := by
  intro e he
  have := List.of_mem_zip he
  exact ⟨h _ this.1, h _ (List.mem_of_mem_tail this.2)⟩

theorem branchLength_rel {F : Py.Fld K} {φ : K → K} (hφ : Homog F φ) (norm : List K → K) {n : Nat} {xs ys zs xs' ys' zs' : List K}
    (hd : DistRel φ norm n xs ys zs xs' ys' zs') (br : List Int) (hb : ∀ i ∈ br, VI n i) :
    branchLength norm xs' ys' zs' br = φ (branchLength norm xs ys zs br) := by
  unfold branchLength
  apply sumFrom0_rel hφ
  intro e he
  have := List.of_mem_zip he
  exact hd _ _ (hb _ (List.mem_of_mem_tail this.1)) (hb _ this.2)

/-! ## the generated feature geometry (`Gen/AlgoNodeFeat`): the table of coordinate rows `axyz`, mapped row by row by `g` -/
section rows
open RefineNf

/-- the row map `g` keeps the dimension `d` and turns the norm of every difference of two rows into `φ` of it -/
structure RowRel (φ : K → K) (norm : List K → K) (d : Nat) (g : List K → List K) : Prop where
  len : ∀ a, a.length = d → (g a).length = d
  dist : ∀ a b, a.length = d → b.length = d →
    norm (List.zipWith (fun x y => x - y) (g a) (g b)) = φ (norm (List.zipWith (fun x y => x - y) a b))

theorem RowRel.dim_map {φ : K → K} {norm : List K → K} {d : Nat} {g : List K → List K} (hg : RowRel φ norm d g) {axyz : List (List K)}
    (hdim : ∀ r ∈ axyz, r.length = d) : ∀ r ∈ axyz.map g, r.length = d := by
  intro r hr
  obtain ⟨r0, h0, rfl⟩ := List.mem_map.mp hr
  exact hg.len _ (hdim _ h0)

theorem row_map (g : List K → List K) (axyz : List (List K)) (i : Int) (h : Valid axyz i) : row (axyz.map g) i = g (row axyz i) := by
  unfold row
  rw [Py.getD_eq_getElem _ _ h.2, Py.getD_eq_getElem _ _ (by rw [List.length_map]; exact h.2), List.getElem_map]

theorem valid_map (g : List K → List K) (axyz : List (List K)) (i : Int) : Valid (axyz.map g) i ↔ Valid axyz i := by
  rw [Valid, Valid, List.length_map]

theorem vec_map {φ : K → K} {norm : List K → K} {d : Nat} {g : List K → List K} (hg : RowRel φ norm d g) (axyz : List (List K))
    (hdim : ∀ r ∈ axyz, r.length = d) (a b : Int) (ha : Valid axyz a) (hb : Valid axyz b) :
    norm (vec (axyz.map g) a b) = φ (norm (vec axyz a b)) := by
  unfold vec
  rw [row_map g axyz a ha, row_map g axyz b hb]
  exact hg.dist _ _ (hdim _ (row_mem axyz b hb)) (hdim _ (row_mem axyz a ha))

theorem sumK_eq (l : List K) : Py.Nf.sumK l = sumFrom 0 l := rfl

theorem geoTree_map {φ : K → K} {norm : List K → K} {d : Nat} {g : List K → List K} (hg : RowRel φ norm d g) {pids : List Int}
    {axyz : List (List K)} (h : C10.GeoTree pids axyz d) : C10.GeoTree pids (axyz.map g) d :=
  ⟨by simpa using h.len, h.par, hg.dim_map h.dim⟩

/-- **Path.straight_line_distance** of the generated code under a row map -/
theorem straight_rel {φ : K → K} {norm : List K → K} {d : Nat} {g : List K → List K} (hg : RowRel φ norm d g) (axyz : List (List K))
    (hdim : ∀ r ∈ axyz, r.length = d) (a : Int) (mid : List Int) (b : Int) (ha : Valid axyz a) (hb : Valid axyz b) :
    nf_path_straight norm (axyz.map g) (a :: (mid ++ [b])) = (nf_path_straight norm axyz (a :: (mid ++ [b]))).map φ := by
  have la := hdim _ (row_mem axyz a ha)
  have lb := hdim _ (row_mem axyz b hb)
  rw [straight_refines norm axyz a mid b ha hb (by rw [la, lb]),
    straight_refines norm (axyz.map g) a mid b ((valid_map g axyz a).2 ha) ((valid_map g axyz b).2 hb)
      (by rw [row_map g axyz a ha, row_map g axyz b hb, hg.len _ la, hg.len _ lb])]
  simp only [Option.map_some]
  rw [vec_map hg axyz hdim a b ha hb]

/-- **`Path.length` as translated, on ANY path** of rows of one dimension: the sum, in order, of the norms of `xyz[idx[j+1]] − xyz[idx[j]]`
(`RefineNf2.path_length_refines`, with the consecutive pairs listed as the source forms them: `idx[1:]` against `idx[:-1]`) -/
theorem path_length_general (norm : List K → K) (axyz : List (List K)) (d : Nat) (hdim : ∀ r ∈ axyz, r.length = d) (idx : List Int)
    (hv : ∀ i ∈ idx, Valid axyz i) :
    nf_path_length norm axyz idx = some (sumFrom 0 (((idx.drop 1).zip (Py.dropEnd idx 1)).map fun e => norm (vec axyz e.2 e.1))) := by
  have hz := RefineNf2.zip_drop_dropEnd (id : Int → Int) idx
  rw [List.map_id] at hz
  rw [RefineNf2.path_length_refines norm axyz d idx hv fun i hi => hdim _ (row_mem axyz i (hv i hi)), hz, List.map_map]
  rfl

/-- **Path.length** (any path) of the generated code under a row map -/
theorem path_length_rel {F : Py.Fld K} {φ : K → K} (hφ : Homog F φ) {norm : List K → K} {d : Nat} {g : List K → List K} (hg : RowRel φ norm d g)
    (axyz : List (List K)) (hdim : ∀ r ∈ axyz, r.length = d) (idx : List Int) (hv : ∀ i ∈ idx, Valid axyz i) :
    nf_path_length norm (axyz.map g) idx = (nf_path_length norm axyz idx).map φ := by
  rw [path_length_general norm axyz d hdim idx hv,
    path_length_general norm (axyz.map g) d (hg.dim_map hdim) idx (fun i hi => (valid_map g axyz i).2 (hv i hi))]
  simp only [Option.map_some]
  congr 1
  apply sumFrom0_rel hφ
  intro e he
  have hm := List.of_mem_zip he
  exact vec_map hg axyz hdim _ _ (hv _ (List.mem_of_mem_take hm.2)) (hv _ (List.mem_of_mem_drop hm.1))

end rows

/-! ## bifurcation angles: the hypothesis on the `angle` parameter is stated on the node triples of the two tables -/

/-- `angle` gives the same answer on the edge vectors `pos a − pos c`, `pos b − pos c` of the new table as on those of the old one -/
def AngleRel (angle : List K → List K → Option K) (n : Nat) (xs ys zs xs' ys' zs' : List K) : Prop :=
  ∀ a b c : Int, VI n a → VI n b → VI n c →
    angle (vsub (pos xs' ys' zs' a) (pos xs' ys' zs' c)) (vsub (pos xs' ys' zs' b) (pos xs' ys' zs' c)) =
    angle (vsub (pos xs ys zs a) (pos xs ys zs c)) (vsub (pos xs ys zs b) (pos xs ys zs c))

theorem kids_VI (pids : List Int) (k c : Int) (h : c ∈ RefineLmGeo.kids pids k) : VI pids.length c := by
  obtain ⟨j, rfl, hj⟩ := RefineLmGeo.kids_valid pids k c h
  exact ⟨by omega, by omega⟩

/-! ## from a map `g` on coordinate rows to the column form -/

/-- column `j` of the table whose row `i` is `g (pos xs ys zs i)` -/
def mapCols (g : List K → List K) (xs ys zs : List K) (j : Nat) : List K :=
  (List.range xs.length).map fun (i : Nat) => (g (pos xs ys zs (i : Int))).getD j default

theorem mapCols_cols (g : List K → List K) {n : Nat} {xs ys zs : List K} (hc : RefineLmGeo.Cols n xs ys zs) :
    RefineLmGeo.Cols n (mapCols g xs ys zs 0) (mapCols g xs ys zs 1) (mapCols g xs ys zs 2) :=
  have h : ∀ j, (mapCols g xs ys zs j).length = n := fun j => by rw [mapCols, List.length_map, List.length_range, hc.1]
  ⟨h 0, h 1, h 2⟩

theorem pos_mapCols (g : List K → List K) (hlen : ∀ a, a.length = 3 → (g a).length = 3) {n : Nat} {xs ys zs : List K}
    (hc : RefineLmGeo.Cols n xs ys zs) (i : Int) (hi : VI n i) :
    pos (mapCols g xs ys zs 0) (mapCols g xs ys zs 1) (mapCols g xs ys zs 2) i = g (pos xs ys zs i) := by
  obtain ⟨h0, h1⟩ := hi
  have hlt : i.toNat < xs.length := by rw [hc.1]; omega
  have hi' : ((i.toNat : Nat) : Int) = i := by omega
  have hcol : ∀ j, (mapCols g xs ys zs j).getD i.toNat default = (g (pos xs ys zs i)).getD j default := by
    intro j
    unfold mapCols
    rw [List.getD_eq_getElem?_getD, List.getElem?_map, List.getElem?_range hlt, Option.map_some, Option.getD_some, hi']
  have h3 := hlen (pos xs ys zs i) rfl
  obtain ⟨x, y, z, hxyz⟩ := List.length_eq_three.mp h3
  show [_, _, _] = _
  rw [hcol 0, hcol 1, hcol 2, hxyz]
  rfl

theorem distRel_of_pos {φ : K → K} {norm : List K → K} {g : List K → List K} (hg : RowRel φ norm 3 g) {n : Nat}
    {xs ys zs xs' ys' zs' : List K} (hp : ∀ i : Int, VI n i → pos xs' ys' zs' i = g (pos xs ys zs i)) :
    DistRel φ norm n xs ys zs xs' ys' zs' := by
  intro a b ha hb
  unfold dist
  rw [hp a ha, hp b hb]
  exact hg.dist _ _ rfl rfl

theorem angleRel_of_pos (angle : List K → List K → Option K) {g : List K → List K}
    (hang : ∀ u v w : List K, u.length = 3 → v.length = 3 → w.length = 3 →
      angle (vsub (g u) (g w)) (vsub (g v) (g w)) = angle (vsub u w) (vsub v w)) {n : Nat} {xs ys zs xs' ys' zs' : List K}
    (hp : ∀ i : Int, VI n i → pos xs' ys' zs' i = g (pos xs ys zs i)) : AngleRel angle n xs ys zs xs' ys' zs' := by
  intro a b c ha hb hc
  rw [hp a ha, hp b hb, hp c hc]
  exact hang _ _ _ rfl rfl rfl

theorem distRel_of_rows {φ : K → K} {norm : List K → K} {g : List K → List K} (hg : RowRel φ norm 3 g) {n : Nat} {xs ys zs : List K}
    (hc : RefineLmGeo.Cols n xs ys zs) :
    DistRel φ norm n xs ys zs (mapCols g xs ys zs 0) (mapCols g xs ys zs 1) (mapCols g xs ys zs 2) :=
  distRel_of_pos hg (pos_mapCols g hg.len hc)

theorem angleRel_of_rows (angle : List K → List K → Option K) {g : List K → List K} (hlen : ∀ a, a.length = 3 → (g a).length = 3)
    (hang : ∀ u v w : List K, u.length = 3 → v.length = 3 → w.length = 3 →
      angle (vsub (g u) (g w)) (vsub (g v) (g w)) = angle (vsub u w) (vsub v w)) {n : Nat} {xs ys zs : List K}
    (hc : RefineLmGeo.Cols n xs ys zs) :
    AngleRel angle n xs ys zs (mapCols g xs ys zs 0) (mapCols g xs ys zs 1) (mapCols g xs ys zs 2) :=
  angleRel_of_pos angle hang (pos_mapCols g hlen hc)
end generic

/-! ## renumbering: the generated topological counts -/
section relabel

/-- a renumbering `σ` (injective, permuting the ids `0 .. n-1`) carries the parent column `pids` to `pids'` when `pids'` is, as a multiset, the
`σ`-image of `pids` — the table rows `(σ i, σ pids[i])` in any order (with `σ (-1) = -1` for the root row) -/
structure Renumbered (σ : Int → Int) (pids pids' : List Int) : Prop where
  inj : Function.Injective σ
  ids : ((Sub.rangeI pids.length).map σ).Perm (Sub.rangeI pids.length)
  par : pids'.Perm (pids.map σ)

theorem Renumbered.len {σ : Int → Int} {pids pids' : List Int} (h : Renumbered σ pids pids') : pids'.length = pids.length := by
  simpa using h.par.length_eq

theorem Renumbered.kids_len {σ : Int → Int} {pids pids' : List Int} (h : Renumbered σ pids pids') (i : Int) :
    (tableKids (Sub.rangeI pids'.length) pids' (σ i)).length = (tableKids (Sub.rangeI pids.length) pids i).length := by
  rw [RefineNode.tableKids_length _ _ _ (by simp [Sub.rangeI]), RefineNode.tableKids_length _ _ _ (by simp [Sub.rangeI]), h.par.count_eq]
  have : ∀ l : List Int, (l.map σ).count (σ i) = l.count i := by
    intro l
    induction l with
    | nil => rfl
    | cons x xs ih => simp [List.count_cons, ih, h.inj.eq_iff]
  exact this pids

/-- the number of ids whose number of children satisfies `P` does not depend on the numbering -/
theorem Renumbered.count_kids {σ : Int → Int} {pids pids' : List Int} (h : Renumbered σ pids pids') (P : Nat → Bool) :
    ((Sub.rangeI pids'.length).filter fun i => P (tableKids (Sub.rangeI pids'.length) pids' i).length).length =
    ((Sub.rangeI pids.length).filter fun i => P (tableKids (Sub.rangeI pids.length) pids i).length).length := by
  rw [h.len]
  have h1 := (h.ids.filter fun i => P (tableKids (Sub.rangeI pids'.length) pids' i).length).length_eq
  rw [h.len] at h1
  rw [← h1, List.filter_map, List.length_map]
  congr 2
  funext i
  simp only [Function.comp]
  have := h.kids_len i
  rw [h.len] at this
  rw [this]
end relabel

/-! ## ordered fields: `s * ·` is `Homog`; the Euclidean norm as `ψ (x² + y² + z²)` and the matrices GENERATED from the source -/
section field
variable {K : Type} [Field K] [LinearOrder K] [IsStrictOrderedRing K] [Inhabited K]

/-- **uniform scaling**: multiplication by `s > 0` in an ordered field whose `Py.Fld` division is the field division -/
theorem Homog.scale (F : Py.Fld K) (hF : ∀ a b : K, F.div a b = a / b) (s : K) (hs : 0 < s) : Homog F (fun x : K => s * x) where
  zero := mul_zero s
  add := mul_add s
  neg := fun x => by rw [← mul_lt_mul_iff_right₀ hs (b := x), mul_zero]
  pos := fun x => mul_pos_iff_of_pos_left hs
  div := fun a b => by rw [hF, hF, mul_div_mul_left a b hs.ne']

theorem sumK_eq_sum (l : List K) : Py.Nf.sumK l = l.sum := (List.sum_eq_foldl (xs := l)).symm

/-- squared Euclidean length of a 3-vector -/
def sq3 (v : List K) : K := match v with
  | [x, y, z] => x * x + y * y + z * z
  | _ => 0

/-- a map on points `K × K × K` (e.g. `Gen.Affine.applyPoint M`) as a map on coordinate rows -/
def liftPt (f : K → K → K → K × K × K) (v : List K) : List K := match v with
  | [x, y, z] => [(f x y z).1, (f x y z).2.1, (f x y z).2.2]
  | _ => v

/-- a point map that multiplies all squared distances by `c`, read on rows, multiplies `norm = ψ ∘ sq3` of differences by `φ` as soon as
`ψ (c * q) = φ (ψ q)` (for `ψ` the square root: `c = 1`, `φ = id` for a rigid motion; `c = s²`, `φ = s * ·` for a scaling by `s ≥ 0`) -/
theorem rowRel_of_d2 (ψ : K → K) (φ : K → K) (c : K) (hψ : ∀ q, ψ (c * q) = φ (ψ q)) (f : K → K → K → K × K × K)
    (hf : ∀ x y z x' y' z', C12.d2 (f x y z) (f x' y' z') = c * C12.d2 (x, y, z) (x', y', z')) :
    RowRel φ (fun v => ψ (sq3 v)) 3 (liftPt f) := by
  refine ⟨?_, ?_⟩
  · intro a ha
    obtain ⟨x, y, z, rfl⟩ := List.length_eq_three.mp ha
    rfl
  · intro a b ha hb
    obtain ⟨x, y, z, rfl⟩ := List.length_eq_three.mp ha
    obtain ⟨x', y', z', rfl⟩ := List.length_eq_three.mp hb
    have h := hf x y z x' y' z'
    simp only [C12.d2, sq] at h
    -- `sq3` of the difference of the two rows unfolds to the squared distance of the two points
    show ψ _ = φ (ψ _)
    rw [← hψ]
    exact congrArg ψ h

theorem rowRel_of_rigid (ψ : K → K) {M : List (List K)} (hM : C12.Rigid M) :
    RowRel (fun x => x) (fun v => ψ (sq3 v)) 3 (liftPt (Gen.Affine.applyPoint M)) :=
  rowRel_of_d2 ψ (fun x => x) 1 (fun q => by rw [one_mul]) _ fun x y z x' y' z' => by rw [one_mul]; exact hM.isometry ..

/-- **the rigid motions generated from the source** (`Gen/Matrices`: translation, rotations about the x / y / z axis through any centre) are
`RowRel id`: they change no norm of a difference of rows, for the Euclidean norm `ψ (x² + y² + z²)` with ANY `ψ` (the square root) -/
theorem rigid_rowRel (ψ : K → K) (c s cx cy cz tx ty tz : K) (h : c * c + s * s = 1) :
    RowRel (fun x => x) (fun v => ψ (sq3 v)) 3 (liftPt (Gen.Affine.applyPoint (Gen.Mat.translate3d tx ty tz))) ∧
    RowRel (fun x => x) (fun v => ψ (sq3 v)) 3 (liftPt (Gen.Affine.applyPoint (Gen.Affine.aboutRoot (Gen.Mat.rotate3d_x c s) cx cy cz))) ∧
    RowRel (fun x => x) (fun v => ψ (sq3 v)) 3 (liftPt (Gen.Affine.applyPoint (Gen.Affine.aboutRoot (Gen.Mat.rotate3d_y c s) cx cy cz))) ∧
    RowRel (fun x => x) (fun v => ψ (sq3 v)) 3 (liftPt (Gen.Affine.applyPoint (Gen.Affine.aboutRoot (Gen.Mat.rotate3d_z c s) cx cy cz))) :=
  ⟨rowRel_of_rigid ψ (C12.rigid_translate3d ..), rowRel_of_rigid ψ ((C12.rigid_rotate3d_x h).aboutRoot ..),
    rowRel_of_rigid ψ ((C12.rigid_rotate3d_y h).aboutRoot ..), rowRel_of_rigid ψ ((C12.rigid_rotate3d_z h).aboutRoot ..)⟩

/-- **the uniform scaling generated from the source** (`scale3d s s s`) is `RowRel (s * ·)` for the Euclidean norm `ψ (x² + y² + z²)` whenever
`ψ (s² q) = s ψ q` (the square root and `s ≥ 0`) -/
theorem scale_rowRel (ψ : K → K) (s : K) (hψ : ∀ q, ψ (s * s * q) = s * ψ q) :
    RowRel (fun x => s * x) (fun v => ψ (sq3 v)) 3 (liftPt (Gen.Affine.applyPoint (Gen.Mat.scale3d s s s))) :=
  rowRel_of_d2 ψ (fun x => s * x) (s * s) hψ _ (fun x y z x' y' z' => C11.scale_distances s x y z x' y' z')
end field
end Invar
