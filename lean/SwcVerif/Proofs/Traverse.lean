import SwcVerif.Model.Traverse
/-! The loop of `_traverse_dfs` run for `2·size` steps equals structural recursion. -/
namespace Trav
variable {σ T K : Type}

section
variable (kidsOf : Int → List Int) (enter : σ → Int → Option T → σ × T) (leave : σ → Int → List K → σ × K)

theorem run_succ_some {st st' : St σ T K} (n : Nat) (h : step kidsOf enter leave st = some st') :
    run kidsOf enter leave (n+1) st = run kidsOf enter leave n st' := by
  simp [run, h]

theorem run_none {st : St σ T K} (h : step kidsOf enter leave st = none) (n : Nat) :
    run kidsOf enter leave n st = st := by
  cases n <;> simp [run, h]

theorem run_add (a b : Nat) (st : St σ T K) :
    run kidsOf enter leave (a + b) st = run kidsOf enter leave b (run kidsOf enter leave a st) := by
  induction a generalizing st with
  | zero => simp [run]
  | succ a ih =>
    cases hs : step kidsOf enter leave st with
    | none =>
      rw [run_none _ _ _ hs, run_none _ _ _ hs, run_none _ _ _ hs]
    | some st' =>
      have : a + 1 + b = (a + b) + 1 := by omega
      rw [this, run_succ_some _ _ _ _ hs, run_succ_some _ _ _ _ hs]
      exact ih st'

/-- Post-state after fully processing a rose from the top of the stack. -/
def Post (r : Rose) (pv : Option T) (rest : List (Int × Bool)) (P : Int → Option T) (V : Int → Option K) (s : σ)
    (st' : St σ T K) : Prop :=
  st'.stack = rest ∧
  st'.s = (spec enter leave r pv s).1 ∧
  st'.vals r.id = some (spec enter leave r pv s).2 ∧
  (∀ j, j ∉ r.ids → st'.vals j = V j) ∧
  (∀ j, j ∉ r.ids → st'.params j = P j)

def PostL (ks : List Rose) (cur : T) (rest : List (Int × Bool)) (P : Int → Option T) (V : Int → Option K) (s : σ)
    (st' : St σ T K) : Prop :=
  st'.stack = rest ∧
  st'.s = (specRev enter leave ks cur s).1 ∧
  ks.map (fun k => st'.vals k.id) = (specRev enter leave ks cur s).2.map some ∧
  (∀ j, j ∉ idsL ks → st'.vals j = V j) ∧
  (∀ j, j ∉ idsL ks → st'.params j = P j)
end

theorem foldl_upd {α} (cs : List Int) (f : Int → α) (v : α) (j : Int) :
    (cs.foldl (fun p c => upd p c v) f) j = if j ∈ cs then v else f j := by
  induction cs generalizing f with
  | nil => rfl
  | cons c cs ih =>
    rw [List.foldl_cons, ih]
    by_cases h : j ∈ cs <;> by_cases hc : j = c <;> simp [h, hc, upd]

theorem ids_head : ∀ r : Rose, r.id ∈ r.ids
  | .node _ _ => List.mem_cons_self

theorem kidIds_sublist : ∀ ks : List Rose, (ks.map Rose.id).Sublist (idsL ks)
  | [] => .slnil
  | r :: rs => (List.singleton_sublist.2 (ids_head r)).append (kidIds_sublist rs)

theorem mem_idsL_of_mem {ks : List Rose} {k : Rose} (h : k ∈ ks) : k.id ∈ idsL ks :=
  (kidIds_sublist ks).subset (List.mem_map_of_mem h)

theorem not_mem_kids {ks : List Rose} {j : Int} (hj : j ∉ idsL ks) : j ∉ ks.map Rose.id :=
  fun hm => hj ((kidIds_sublist ks).subset hm)

theorem filterMap_of_map_some {α β : Type} (f : α → Option β) (l : List α) (vs : List β) (h : l.map f = vs.map some) :
    l.filterMap f = vs := by
  simpa [List.filterMap_map] using congrArg (List.filterMap id) h

section main2
variable (kidsOf : Int → List Int) (enter : σ → Int → Option T → σ × T) (leave : σ → Int → List K → σ × K)

theorem run_enter (i : Int) (rest : List (Int × Bool)) (P : Int → Option T) (V : Int → Option K) (s : σ) :
    run kidsOf enter leave 1 ⟨(i, true) :: rest, P, V, s⟩ =
      ⟨((kidsOf i).map (·, true)).reverse ++ (i, false) :: rest,
       (kidsOf i).foldl (fun p c => upd p c (some (enter s i (P i)).2)) (upd P i none), V, (enter s i (P i)).1⟩ := rfl

theorem run_leave (i : Int) (rest : List (Int × Bool)) (P : Int → Option T) (V : Int → Option K) (s : σ) :
    run kidsOf enter leave 1 ⟨(i, false) :: rest, P, V, s⟩ =
      ⟨rest, P, upd ((kidsOf i).foldl (fun v c => upd v c none) V) i (some (leave s i ((kidsOf i).filterMap V)).2),
       (leave s i ((kidsOf i).filterMap V)).1⟩ := rfl

mutual
theorem main (r : Rose) (hA : Agrees kidsOf r) (hD : r.ids.Nodup)
    (rest : List (Int × Bool)) (P : Int → Option T) (V : Int → Option K) (s : σ) :
    Post enter leave r (P r.id) rest P V s
      (run kidsOf enter leave (2 * r.size) ⟨(r.id, true) :: rest, P, V, s⟩) := by
  match r, hA, hD with
  | .node i ks, hA, hD =>
    obtain ⟨hk, hAL⟩ := hA
    obtain ⟨-, hDL⟩ := List.nodup_cons.1 hD
    rw [show 2 * (Rose.node i ks).size = 1 + (2 * sizeL ks + 1) by simp only [Rose.size]; omega, run_add, run_add]
    simp only [Rose.id]
    rw [run_enter, hk, List.map_map]
    show Post enter leave _ _ _ _ _ _ (run kidsOf enter leave 1 (run kidsOf enter leave (2 * sizeL ks)
      ⟨(ks.map (fun k => (k.id, true))).reverse ++ (i, false) :: rest, _, _, _⟩))
    -- the children, each entered with the value `enter` returned at `i`
    obtain ⟨h1, h2, h3, h4, h5⟩ := mainL ks hAL hDL ((i, false) :: rest)
      ((ks.map Rose.id).foldl (fun p c => upd p c (some (enter s i (P i)).2)) (upd P i none)) V (enter s i (P i)).1 (enter s i (P i)).2
      fun k hk' => by rw [foldl_upd, if_pos (List.mem_map_of_mem hk')]
    generalize run kidsOf enter leave (2 * sizeL ks) _ = st' at h1 h2 h3 h4 h5 ⊢
    obtain ⟨stk, pp, vv, ss⟩ := st'
    subst h1
    simp only at h2 h3 h4 h5
    rw [run_leave, hk, filterMap_of_map_some _ _ _ (by rw [List.map_map]; exact h3)]
    refine ⟨rfl, ?_, ?_, fun j hj => ?_, fun j hj => ?_⟩
    · simp only [spec, h2]
    · simp only [spec, upd, Rose.id, h2, if_true]
    · obtain ⟨hj1, hj2⟩ := not_or.1 (mt List.mem_cons.2 hj)
      simp only [upd, hj1, if_false]
      rw [foldl_upd, if_neg (not_mem_kids hj2)]
      exact h4 j hj2
    · obtain ⟨hj1, hj2⟩ := not_or.1 (mt List.mem_cons.2 hj)
      show pp j = P j
      rw [h5 j hj2, foldl_upd, if_neg (not_mem_kids hj2)]
      simp only [upd, hj1, if_false]

theorem mainL (ks : List Rose) (hA : AgreesL kidsOf ks) (hD : (idsL ks).Nodup)
    (rest : List (Int × Bool)) (P : Int → Option T) (V : Int → Option K) (s : σ) (cur : T)
    (hP : ∀ k ∈ ks, P k.id = some cur) :
    PostL enter leave ks cur rest P V s
      (run kidsOf enter leave (2 * sizeL ks)
        ⟨(ks.map (fun k => (k.id, true))).reverse ++ rest, P, V, s⟩) := by
  match ks, hA, hD, hP with
  | [], _, _, _ => exact ⟨rfl, rfl, rfl, fun _ _ => rfl, fun _ _ => rfl⟩
  | r :: rs, hA, hD, hP =>
    obtain ⟨hAr, hArs⟩ := hA
    obtain ⟨hDr, hDrs, hdisj⟩ := List.nodup_append.1 hD
    rw [show 2 * sizeL (r :: rs) = 2 * sizeL rs + 2 * r.size by simp only [sizeL]; omega, run_add,
      show ((r :: rs).map (fun k => (k.id, true))).reverse ++ rest
        = (rs.map (fun k => (k.id, true))).reverse ++ ((r.id, true) :: rest) by simp]
    -- the later siblings are on top of the stack: they run first
    obtain ⟨h1, h2, h3, h4, h5⟩ := mainL rs hArs hDrs ((r.id, true) :: rest) P V s cur fun k hk => hP k (List.mem_cons_of_mem _ hk)
    generalize run kidsOf enter leave (2 * sizeL rs) _ = st1 at h1 h2 h3 h4 h5
    obtain ⟨stk, pp, vv, ss⟩ := st1
    subst h1
    simp only at h2 h3 h4 h5
    have hrid : r.id ∉ idsL rs := fun hm => hdisj _ (ids_head r) _ hm rfl
    obtain ⟨g1, g2, g3, g4, g5⟩ := main r hAr hDr rest pp vv ss
    rw [show pp r.id = some cur from (h5 _ hrid).trans (hP r List.mem_cons_self)] at g2 g3
    generalize run kidsOf enter leave (2 * r.size) _ = st2 at g1 g2 g3 g4 g5
    refine ⟨g1, ?_, ?_, fun j hj => ?_, fun j hj => ?_⟩
    · simp only [specRev, g2, h2]
    · simp only [List.map_cons, specRev, g3, h2, ← h3]
      exact congrArg (_ :: ·) (List.map_congr_left fun k hk => g4 _ fun hm => hdisj _ hm _ (mem_idsL_of_mem hk) rfl)
    · obtain ⟨hj1, hj2⟩ := not_or.1 (mt List.mem_append.2 hj)
      rw [g4 j hj1, h4 j hj2]
    · obtain ⟨hj1, hj2⟩ := not_or.1 (mt List.mem_append.2 hj)
      rw [g5 j hj1, h5 j hj2]
end

end main2
end Trav
