import SwcVerif.Model.Sort
/-! Helper lemmas for C05 that do not mention the specification functions of `Props/C05.lean`:
the machine (`run`), rose bookkeeping, and `tableKids` on a table whose ids are `k, k+1, …`. -/
namespace SortM

theorem run_empty (kidsOf : Int → List Int) (n : Nat) (out : List (Int × Int)) :
    run kidsOf n ⟨[], out⟩ = ⟨[], out⟩ := by cases n <;> rfl

theorem run_cons (kidsOf : Int → List Int) (n : Nat) (o p : Int) (rest out : List (Int × Int)) :
    run kidsOf (n + 1) ⟨(o, p) :: rest, out⟩ =
      run kidsOf n ⟨((kidsOf o).map (·, (out.length : Int))).reverse ++ rest, out ++ [(o, p)]⟩ := rfl

theorem run_add (kidsOf : Int → List Int) : ∀ (a b : Nat) (st : St),
    run kidsOf (a + b) st = run kidsOf b (run kidsOf a st)
  | 0, b, st => by rw [Nat.zero_add]; rfl
  | a + 1, b, ⟨[], out⟩ => by rw [run_empty, run_empty, run_empty]
  | a + 1, b, ⟨(o, p) :: rest, out⟩ => by rw [Nat.add_right_comm, run_cons, run_cons, run_add kidsOf a b]

theorem sortNodesImpl_ok {ids pids : List Int} {r : Result} (h : sortNodesImpl ids pids = .ok r) :
    ∃ root fin, countRoots pids = 1 ∧ firstRoot ids pids = some root ∧
      run (tableKids ids pids) (ids.length + 1) ⟨[(root, -1)], []⟩ = fin ∧ fin.out.length = ids.length ∧ fin.stack = [] ∧
      r = ⟨fin.out.map (·.1), fin.out.map (·.2), fin.out.map fun op => indexOf ids op.1⟩ := by
  unfold sortNodesImpl at h
  split at h
  · cases h
  next hc =>
  split at h
  · cases h
  next root hroot =>
  dsimp only at h
  split at h
  · cases h
  next hb =>
  cases h
  simp only [ne_eq, Bool.or_eq_true, decide_eq_true_eq, Bool.not_eq_true', List.isEmpty_eq_false_iff, not_or, Decidable.not_not] at hc hb
  exact ⟨root, _, hc, hroot, rfl, hb.1, hb.2, rfl⟩

/-! ### roses -/

mutual
theorem ids_length : ∀ r : Rose, r.ids.length = r.size
  | .node i ks => by rw [Rose.ids, Rose.size, List.length_cons, idsL_length ks, Nat.add_comm]
theorem idsL_length : ∀ ks : List Rose, (idsL ks).length = sizeL ks
  | [] => rfl
  | r :: rs => by rw [idsL, sizeL, List.length_append, ids_length r, idsL_length rs]
end

theorem size_pos (r : Rose) : 0 < r.size := by
  cases r; rw [Rose.size]; exact Nat.lt_add_right _ Nat.one_pos

theorem idsL_append (a b : List Rose) : idsL (a ++ b) = idsL a ++ idsL b := by
  induction a with
  | nil => simp [idsL]
  | cons r rs ih => simp [idsL, ih]

theorem sizeL_append (a b : List Rose) : sizeL (a ++ b) = sizeL a + sizeL b := by
  induction a with
  | nil => simp [sizeL]
  | cons r rs ih => rw [List.cons_append, sizeL, sizeL, ih, Nat.add_assoc]

theorem agreesL_append (kidsOf : Int → List Int) (a b : List Rose) :
    AgreesL kidsOf (a ++ b) ↔ AgreesL kidsOf a ∧ AgreesL kidsOf b := by
  induction a with
  | nil => simp [AgreesL]
  | cons r rs ih => simp [AgreesL, ih, and_assoc]

theorem ids_head (r : Rose) : r.id ∈ r.ids := by
  cases r; simp [Rose.id, Rose.ids]


theorem mem_tableKids_zip : ∀ (ids pids : List Int) (q j : Int), j ∈ tableKids ids pids q ↔ (j, q) ∈ List.zip ids pids
  | [], _, _, _ => by simp [tableKids]
  | _ :: _, [], _, _ => by simp [tableKids]
  | i :: is, p :: ps, q, j => by
    simp only [tableKids, List.zip_cons_cons, List.mem_cons, Prod.mk.injEq, ← mem_tableKids_zip is ps q j]
    split <;> simp [*, eq_comm]

theorem tableKids_sublist : ∀ (ids pids : List Int) (q : Int), (tableKids ids pids q).Sublist ids
  | [], _, _ => by simp [tableKids]
  | _ :: _, [], _ => by simp [tableKids]
  | i :: is, p :: ps, q => by
    rw [tableKids]
    split
    · exact (tableKids_sublist is ps q).cons_cons i
    · exact (tableKids_sublist is ps q).cons i

/-! ### `tableKids` on the table with ids `k, k+1, …` -/

/-- new ids (counted from `k`) of the rows whose parent is `q` -/
def tk : List Int → Nat → Int → List Int
  | [], _, _ => []
  | p :: ps, k, q => if p = q then (k : Int) :: tk ps (k + 1) q else tk ps (k + 1) q

theorem tableKids_range' (ps : List Int) (k : Nat) (q : Int) :
    tableKids ((List.range' k ps.length).map Int.ofNat) ps q = tk ps k q := by
  induction ps generalizing k with
  | nil => simp [tableKids, tk]
  | cons p ps ih =>
    simp only [List.length_cons, List.range'_succ, List.map_cons, tableKids, tk, ih]
    rfl

theorem tableKids_range (ps : List Int) (n : Nat) (hn : n = ps.length) (q : Int) :
    tableKids ((List.range n).map Int.ofNat) ps q = tk ps 0 q := by
  subst hn; rw [List.range_eq_range', tableKids_range']

theorem tk_append (a b : List Int) (k : Nat) (q : Int) :
    tk (a ++ b) k q = tk a k q ++ tk b (k + a.length) q := by
  induction a generalizing k with
  | nil => simp [tk]
  | cons p ps ih =>
    simp only [List.cons_append, tk, ih, List.length_cons]
    rw [Nat.add_right_comm]
    split <;> rfl

theorem tk_eq_nil (l : List Int) (k : Nat) (q : Int) (h : q ∉ l) : tk l k q = [] := by
  induction l generalizing k with
  | nil => simp [tk]
  | cons p ps ih =>
    simp only [List.mem_cons, not_or] at h
    simp only [tk]
    rw [if_neg (fun e => h.1 e.symm)]
    exact ih _ h.2

/-! ### `isSorted`, `indexOf` -/

theorem isSorted_iff (ids pids : List Int) (hl : ids.length = pids.length) :
    isSorted ids pids = true ↔ ∀ k (h1 : k < ids.length) (h2 : k < pids.length), pids[k] < ids[k] := by
  simp only [isSorted, List.all_eq_true, List.mem_iff_getElem, List.length_zipWith, id]
  constructor
  · intro h k h1 h2
    simpa using h _ ⟨k, Nat.lt_min.2 ⟨h1, h2⟩, rfl⟩
  · rintro h b ⟨k, hk, rfl⟩
    simpa using h k (Nat.lt_min.1 hk).1 (Nat.lt_min.1 hk).2

theorem indexOf_spec (ids : List Int) (x : Int) (h : x ∈ ids) :
    ∃ hi : indexOf ids x < ids.length, ids[indexOf ids x] = x := by
  refine ⟨List.idxOf_lt_length_of_mem h, ?_⟩
  simp [indexOf, List.getElem_idxOf]

end SortM
