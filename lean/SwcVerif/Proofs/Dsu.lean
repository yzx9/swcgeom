import SwcVerif.Model.Dsu
import SwcVerif.Refine.PyRun
/-! Definitions and lemmas behind C18, about the models of `Model/Dsu.lean`: union-find (`rootOf` under the rank invariant `DInv`, `find` as
path compression, `DsuInv` kept by `same` and by `union` through its last step `link`); the row lemmas of `has_cyclic` and `is_bifurcate`;
pointer jumping (`get_dsu`) at the level of functions, with the two schemes for its `while` loop: `jumpLoop_inv` (what every step keeps, the
loop keeps) and `jumpLoop_stops` (a measure that drops in every pass that changes anything bounds the number of passes); root repair
(`argminOpt`, `linkLoop_spec`, `otherRoots`). -/
namespace Dsu

@[simp] theorem updN_same (f : Nat → Nat) (k v : Nat) : updN f k v k = v := by simp [updN]
theorem updN_other (f : Nat → Nat) (k v j : Nat) (h : j ≠ k) : updN f k v j = f j := by simp [updN, h]

/-- root by plain pointer chasing, same fuel discipline as `find` -/
def rootOf : Nat → (Nat → Nat) → Nat → Nat
  | 0, par, x => par x
  | f+1, par, x => if par x = x then x else rootOf f par (par x)

/-- invariant: ranks strictly increase along parent pointers and are bounded by `B` -/
structure DInv (par rank : Nat → Nat) (B : Nat) : Prop where
  incr : ∀ x, par x ≠ x → rank x < rank (par x)
  bnd  : ∀ x, rank x ≤ B

theorem rootOf_succ (f : Nat) (par : Nat → Nat) (x : Nat) :
    rootOf (f+1) par x = if par x = x then x else rootOf f par (par x) := rfl

theorem rootOf_self {par : Nat → Nat} {x : Nat} (h : par x = x) : ∀ f, rootOf f par x = x := by
  intro f; cases f <;> simp [rootOf, h]

theorem rootOf_step {par : Nat → Nat} {x : Nat} (h : par x ≠ x) (f : Nat) :
    rootOf (f+1) par x = rootOf f par (par x) := if_neg h

section chase
variable {par rank : Nat → Nat} {B : Nat}

theorem DInv.fuel (h : DInv par rank B) {x f : Nat} (hne : par x ≠ x)
    (hf : B - rank x < f + 1) : B - rank (par x) < f := by
  have := h.incr x hne
  have := h.bnd (par x)
  omega

theorem DInv.induction (h : DInv par rank B) {C : Nat → Nat → Prop}
    (root : ∀ f x, par x = x → C (f+1) x)
    (step : ∀ f x, par x ≠ x → B - rank (par x) < f → C f (par x) → C (f+1) x) :
    ∀ (f x : Nat), B - rank x < f → C f x := by
  intro f
  induction f with
  | zero => intro x hx; omega
  | succ f ih =>
    intro x hx
    by_cases hr : par x = x
    · exact root f x hr
    · exact step f x hr (h.fuel hr hx) (ih _ (h.fuel hr hx))

theorem rootOf_is_root (h : DInv par rank B) :
    ∀ (f x : Nat), B - rank x < f → par (rootOf f par x) = rootOf f par x := by
  refine h.induction (fun f x hr => ?_) (fun f x hne _ ih => ?_)
  · rw [rootOf_self hr]; exact hr
  · rw [rootOf_step hne]; exact ih

theorem rootOf_succ_fuel (h : DInv par rank B) :
    ∀ (f x : Nat), B - rank x < f → rootOf (f+1) par x = rootOf f par x := by
  refine h.induction (fun f x hr => ?_) (fun f x hne _ ih => ?_)
  · rw [rootOf_self hr, rootOf_self hr]
  · rw [rootOf_step hne, rootOf_step hne]; exact ih

theorem rootOf_par (h : DInv par rank B) (x : Nat) : rootOf (B+1) par (par x) = rootOf (B+1) par x := by
  by_cases hr : par x = x
  · rw [hr]
  · rw [rootOf_step hr]
    exact rootOf_succ_fuel h B _ (h.fuel hr (by omega))

theorem rank_le_root (h : DInv par rank B) :
    ∀ (f x : Nat), B - rank x < f → rank x ≤ rank (rootOf f par x) := by
  refine h.induction (fun f x hr => ?_) (fun f x hne _ ih => ?_)
  · rw [rootOf_self hr]; exact Nat.le_refl _
  · rw [rootOf_step hne]; exact Nat.le_trans (Nat.le_of_lt (h.incr x hne)) ih

theorem rootOf_unique (h : DInv par rank B) {φ : Nat → Nat} (h1 : ∀ x, par x = x → φ x = x)
    (h2 : ∀ x, φ (par x) = φ x) : ∀ (f x : Nat), B - rank x < f → rootOf f par x = φ x := by
  refine h.induction (fun f x hr => ?_) (fun f x hne _ ih => ?_)
  · rw [rootOf_self hr, h1 x hr]
  · rw [rootOf_step hne, ih, h2]

/-- enough fuel: result independent of the amount of fuel -/
theorem rootOf_fuel (h : DInv par rank B) {f x : Nat} (hf : B - rank x < f) : rootOf f par x = rootOf (B+1) par x :=
  rootOf_unique h (fun _ hr => rootOf_self hr _) (rootOf_par h) f x hf

/-- `find` returns the root -/
theorem find_root (h : DInv par rank B) :
    ∀ (f x : Nat), B - rank x < f → (find f par x).2 = rootOf f par x := by
  refine h.induction (fun f x hr => ?_) (fun f x hne _ ih => ?_)
  · simp only [find, if_pos hr, rootOf_self hr]
  · simp only [find, if_neg hne, rootOf_step hne]; exact ih

theorem find_par (h : DInv par rank B) :
    ∀ (f x : Nat), B - rank x < f →
      ∀ y, (find f par x).1 y = par y ∨
           ((find f par x).1 y = rootOf (B + 1) par y ∧ par y ≠ y) := by
  refine h.induction (fun f x hr y => ?_) (fun f x hne hf ih y => ?_)
  · simp only [find, if_pos hr]; exact Or.inl trivial
  · simp only [find, if_neg hne]
    by_cases hy : y = x
    · subst hy
      refine Or.inr ⟨?_, hne⟩
      rw [updN_same, find_root h f _ hf, rootOf_fuel h hf, rootOf_par h]
    · rw [updN_other _ _ _ _ hy]
      exact ih y

end chase

/-! Path compression in general: a table `par'` that agrees with `par` except that some non-root cells point
straight to their roots. -/
section compress
variable {par par' rank : Nat → Nat} {B : Nat}

theorem compress_inv (h : DInv par rank B)
    (hc : ∀ y, par' y = par y ∨ (par' y = rootOf (B + 1) par y ∧ par y ≠ y)) : DInv par' rank B := by
  refine ⟨fun y hy => ?_, h.bnd⟩
  rcases hc y with e | ⟨e, hne⟩
  · rw [e] at hy ⊢; exact h.incr y hy
  · rw [e, ← rootOf_par h]
    exact Nat.lt_of_lt_of_le (h.incr y hne) (rank_le_root h _ _ (by omega))

theorem compress_rootOf (h : DInv par rank B)
    (hc : ∀ y, par' y = par y ∨ (par' y = rootOf (B + 1) par y ∧ par y ≠ y)) :
    ∀ (g y : Nat), B - rank y < g → rootOf g par' y = rootOf (B + 1) par y := by
  refine rootOf_unique (compress_inv h hc) (fun y hy => ?_) (fun y => ?_)
  · rcases hc y with e | ⟨e, _⟩
    · exact rootOf_self (e ▸ hy) _
    · rw [← e, hy]
  · rcases hc y with e | ⟨e, _⟩
    · rw [e, rootOf_par h]
    · rw [e]; exact rootOf_self (rootOf_is_root h _ y (by omega)) _

end compress

/-- compression preserves the invariant -/
theorem find_inv {par rank : Nat → Nat} {B : Nat} (h : DInv par rank B) (f x : Nat)
    (hf : B - rank x < f) : DInv (find f par x).1 rank B :=
  compress_inv h (find_par h f x hf)

/-- the two `find`s of `same` / `union`: invariant kept, every root kept, the answers are the roots -/
theorem find2 {par rank : Nat → Nat} {B : Nat} (h : DInv par rank B) (a b : Nat) :
    DInv (find (B+1) (find (B+1) par a).1 b).1 rank B ∧
    (∀ g y, B - rank y < g → rootOf g (find (B+1) (find (B+1) par a).1 b).1 y = rootOf (B+1) par y) ∧
    (find (B+1) par a).2 = rootOf (B+1) par a ∧
    (find (B+1) (find (B+1) par a).1 b).2 = rootOf (B+1) par b := by
  have ha : B - rank a < B + 1 := by omega
  have hb : B - rank b < B + 1 := by omega
  have c1 := find_par h (B+1) a ha
  have i1 := compress_inv h c1
  have r1 := compress_rootOf h c1
  have c2 := find_par i1 (B+1) b hb
  refine ⟨compress_inv i1 c2, fun g y hg => ?_, find_root h _ _ ha, ?_⟩
  · rw [compress_rootOf i1 c2 g y hg]
    exact r1 (B+1) y (by omega)
  · rw [find_root i1 _ _ hb]
    exact r1 (B+1) b hb

/-- re-pointing the root `r1` to the root `r2`: every node whose root was `r1` now has root `r2`,
all other roots are unchanged -/
theorem rootOf_link {par rank rank' : Nat → Nat} {B B' r1 r2 : Nat}
    (h : DInv par rank B) (h' : DInv (updN par r1 r2) rank' B')
    (h1 : par r1 = r1) (h2 : par r2 = r2) (hne : r1 ≠ r2) (z : Nat) :
    rootOf (B'+1) (updN par r1 r2) z = if rootOf (B+1) par z = r1 then r2 else rootOf (B+1) par z := by
  refine rootOf_unique h' (φ := fun z => if rootOf (B+1) par z = r1 then r2 else rootOf (B+1) par z)
    (fun z hz => ?_) (fun z => ?_) (B'+1) z (by omega)
  · -- a root of the new table is a root of the old one, and is not `r1`
    have hz1 : z ≠ r1 := fun e => hne (by rw [e, updN_same] at hz; exact hz.symm)
    rw [updN_other _ _ _ _ hz1] at hz
    rw [rootOf_self hz, if_neg hz1]
  · by_cases hz1 : z = r1
    · rw [hz1, updN_same, rootOf_self h2, rootOf_self h1, if_neg (Ne.symm hne), if_pos rfl]
    · rw [updN_other _ _ _ _ hz1, rootOf_par h]

theorem relabel_eq_iff (r1 r2 p q : Nat) :
    (if p = r1 then r2 else p) = (if q = r1 then r2 else q) ↔ (p = q ∨ (p = r1 ∧ q = r2) ∨ (p = r2 ∧ q = r1)) := by
  by_cases hp : p = r1
  · subst hp
    by_cases hq : q = p
    · subst hq; simp
    · simp [hq, Ne.symm hq, eq_comm]
  · by_cases hq : q = r1
    · subst hq; simp [hp]
    · simp [hp, hq]

theorem link_rel {par rank rank' : Nat → Nat} {B B' r1 r2 : Nat}
    (h : DInv par rank B) (h' : DInv (updN par r1 r2) rank' B')
    (h1 : par r1 = r1) (h2 : par r2 = r2) (hne : r1 ≠ r2) (x y : Nat) :
    rootOf (B'+1) (updN par r1 r2) x = rootOf (B'+1) (updN par r1 r2) y ↔
      (rootOf (B+1) par x = rootOf (B+1) par y ∨
       (rootOf (B+1) par x = r1 ∧ rootOf (B+1) par y = r2) ∨
       (rootOf (B+1) par x = r2 ∧ rootOf (B+1) par y = r1)) := by
  rw [rootOf_link h h' h1 h2 hne x, rootOf_link h h' h1 h2 hne y]
  exact relabel_eq_iff ..

theorem DInv.link {par rank : Nat → Nat} {B r1 r2 : Nat} (h : DInv par rank B) (hlt : rank r1 < rank r2) :
    DInv (updN par r1 r2) rank B := by
  refine ⟨fun z hz => ?_, h.bnd⟩
  by_cases e : z = r1
  · subst e; rw [updN_same]; exact hlt
  · rw [updN_other _ _ _ _ e] at hz ⊢; exact h.incr z hz

theorem DInv.bump {par rank : Nat → Nat} {B r : Nat} (h : DInv par rank B) (hr : par r = r) :
    DInv par (updN rank r (rank r + 1)) (B + 1) := by
  have hle : ∀ z, rank z ≤ updN rank r (rank r + 1) z ∧ updN rank r (rank r + 1) z ≤ rank z + 1 := by
    intro z; unfold updN; split
    · subst_vars; omega
    · omega
  refine ⟨fun z hz => ?_, fun z => Nat.le_trans (hle z).2 (Nat.succ_le_succ (h.bnd z))⟩
  rw [updN_other _ _ _ _ (fun (e : z = r) => hz (e ▸ hr))]
  exact Nat.lt_of_lt_of_le (h.incr z hz) (hle _).1

/-! ## the state-level invariant -/

def root (d : D) (x : Nat) : Nat := rootOf (d.b + 1) d.par x

/-- the structure `d` on `n` nodes represents the relation `R` (on the nodes `< n`) -/
structure DsuInv (d : D) (n : Nat) (R : Nat → Nat → Prop) : Prop where
  inv : DInv d.par d.rank d.b
  hn  : d.n = n
  rel : ∀ x y, x < n → y < n → (root d x = root d y ↔ R x y)

theorem DsuInv.congr {d : D} {n : Nat} {R R' : Nat → Nat → Prop} (h : DsuInv d n R)
    (e : ∀ x y, x < n → y < n → (R x y ↔ R' x y)) : DsuInv d n R' :=
  ⟨h.inv, h.hn, fun x y hx hy => (h.rel x y hx hy).trans (e x y hx hy)⟩

theorem init_inv (n : Nat) : DsuInv (init n) n (fun x y => x = y) := by
  refine ⟨⟨?_, ?_⟩, rfl, ?_⟩
  · intro x hx; exact absurd rfl hx
  · intro x; exact Nat.le_refl _
  · intro x y _ _
    simp [root, init, rootOf]

theorem same_fst {d : D} {n : Nat} {R : Nat → Nat → Prop} (h : DsuInv d n R) (a b : Nat)
    (ha : a < n) (hb : b < n) : (same d a b).1 = true ↔ R a b := by
  obtain ⟨_, _, ea, eb⟩ := find2 h.inv a b
  simp only [same, beq_iff_eq]
  rw [ea, eb]
  exact h.rel a b ha hb

theorem same_root {d : D} (h : DInv d.par d.rank d.b) (a b z : Nat) : root (same d a b).2 z = root d z :=
  (find2 h a b).2.1 (d.b + 1) z (by omega)

theorem same_inv {d : D} {n : Nat} {R : Nat → Nat → Prop} (h : DsuInv d n R) (a b : Nat) :
    DsuInv (same d a b).2 n R := by
  refine ⟨(find2 h.inv a b).1, h.hn, fun x y hx hy => ?_⟩
  rw [same_root h.inv, same_root h.inv]
  exact h.rel x y hx hy

/-- the last step of `union_sets`, on the roots found: nothing if they coincide, else the root of lower rank is hung
below the other (`rb` below `ra` at equal ranks, and the rank of `ra` grows) -/
def link (d : D) (ra rb : Nat) : D :=
  if ra = rb then d
  else if d.rank ra < d.rank rb then { d with par := updN d.par ra rb }
  else if d.rank ra > d.rank rb then { d with par := updN d.par rb ra }
  else { d with par := updN d.par rb ra, rank := updN d.rank ra (d.rank ra + 1), b := d.b + 1 }

theorem union_eq_link (d : D) (a b : Nat) :
    union d a b = link (same d a b).2 (find (d.b+1) d.par a).2 (find (d.b+1) (find (d.b+1) d.par a).1 b).2 := rfl

theorem link_b_le (d : D) (ra rb : Nat) : (link d ra rb).b ≤ d.b + 1 ∧ (link d ra rb).n = d.n := by
  unfold link
  by_cases h1 : ra = rb
  · rw [if_pos h1]; exact ⟨Nat.le_succ _, rfl⟩
  by_cases h2 : d.rank ra < d.rank rb
  · rw [if_neg h1, if_pos h2]; exact ⟨Nat.le_succ _, rfl⟩
  by_cases h3 : d.rank ra > d.rank rb
  · rw [if_neg h1, if_neg h2, if_pos h3]; exact ⟨Nat.le_succ _, rfl⟩
  · rw [if_neg h1, if_neg h2, if_neg h3]; exact ⟨Nat.le_refl _, rfl⟩

theorem DsuInv.merge {d d' : D} {n : Nat} {R : Nat → Nat → Prop} (h : DsuInv d n R) {a b : Nat} (ha : a < n) (hb : b < n)
    (hi : DInv d'.par d'.rank d'.b) (hn : d'.n = n)
    (hr : ∀ x y, root d' x = root d' y ↔ root d x = root d y ∨ (root d x = root d a ∧ root d y = root d b) ∨
      (root d x = root d b ∧ root d y = root d a)) :
    DsuInv d' n (fun x y => R x y ∨ (R x a ∧ R y b) ∨ (R x b ∧ R y a)) := by
  refine ⟨hi, hn, fun x y hx hy => ?_⟩
  rw [hr, h.rel x y hx hy, h.rel x a hx ha, h.rel y b hy hb, h.rel x b hx hb, h.rel y a hy ha]

theorem link_inv {d : D} {n : Nat} {R : Nat → Nat → Prop} (h : DsuInv d n R) {a b : Nat} (ha : a < n) (hb : b < n) :
    DsuInv (link d (root d a) (root d b)) n (fun x y => R x y ∨ (R x a ∧ R y b) ∨ (R x b ∧ R y a)) := by
  have hra : d.par (root d a) = root d a := rootOf_is_root h.inv (d.b+1) a (by omega)
  have hrb : d.par (root d b) = root d b := rootOf_is_root h.inv (d.b+1) b (by omega)
  have swap : ∀ {p q r : Prop}, (p ∨ q ∨ r) ↔ (p ∨ r ∨ q) := or_congr_right or_comm
  unfold link
  by_cases hc : root d a = root d b
  · rw [if_pos hc]
    refine h.merge ha hb h.inv h.hn (fun x y => ⟨Or.inl, ?_⟩)
    rintro (e | ⟨e1, e2⟩ | ⟨e1, e2⟩)
    · exact e
    · exact e1.trans (hc.trans e2.symm)
    · exact e1.trans (hc.symm.trans e2.symm)
  rw [if_neg hc]
  by_cases hlt : d.rank (root d a) < d.rank (root d b)
  · rw [if_pos hlt]
    have h' := h.inv.link hlt
    exact h.merge ha hb h' h.hn (link_rel h.inv h' hra hrb hc)
  rw [if_neg hlt]
  by_cases hgt : d.rank (root d a) > d.rank (root d b)
  · rw [if_pos hgt]
    have h' := h.inv.link hgt
    exact h.merge ha hb h' h.hn (fun x y => (link_rel h.inv h' hrb hra (Ne.symm hc) x y).trans swap)
  · rw [if_neg hgt]
    have h' : DInv (updN d.par (root d b) (root d a)) (updN d.rank (root d a) (d.rank (root d a) + 1)) (d.b + 1) := by
      apply (h.inv.bump hra).link
      rw [updN_same, updN_other _ _ _ _ (Ne.symm hc)]
      omega
    exact h.merge ha hb h' h.hn (fun x y => (link_rel h.inv h' hrb hra (Ne.symm hc) x y).trans swap)

theorem union_inv {d : D} {n : Nat} {R : Nat → Nat → Prop} (h : DsuInv d n R) (a b : Nat)
    (ha : a < n) (hb : b < n) :
    DsuInv (union d a b) n (fun x y => R x y ∨ (R x a ∧ R y b) ∨ (R x b ∧ R y a)) := by
  obtain ⟨_, _, ea, eb⟩ := find2 h.inv a b
  rw [union_eq_link, ea, eb, ← root, ← root, ← same_root h.inv a b a, ← same_root h.inv a b b]
  exact link_inv (same_inv h a b) ha hb

theorem stepOp_union {d : D} {a b : Nat} (ha : a < d.n) (hb : b < d.n) :
    stepOp d (.union a b) = some (union d a b, none) := by
  simp [stepOp, valid, ha, hb]

theorem stepOp_same {d : D} {a b : Nat} (ha : a < d.n) (hb : b < d.n) :
    stepOp d (.same a b) = some ((same d a b).2, some (same d a b).1) := by
  simp [stepOp, valid, ha, hb]

theorem valid_pair_false {d : D} {a b : Nat} (h : ¬ (a < d.n ∧ b < d.n)) : (valid d a && valid d b) = false := by
  simp only [valid, Bool.and_eq_false_iff, decide_eq_false_iff_not]
  omega

theorem hasCyclicLoop_root (d : D) (a : Int) (as bs : List Int) :
    hasCyclicLoop d (a :: as) (-1 :: bs) = hasCyclicLoop d as bs := by
  simp [hasCyclicLoop]

theorem hasCyclicLoop_step (d : D) (a b : Nat) (as bs : List Int) (ha : a < d.n) (hb : b < d.n) :
    hasCyclicLoop d ((a : Int) :: as) ((b : Int) :: bs) =
      if (same d a b).1 then some true else hasCyclicLoop (union (same d a b).2 a b) as bs := by
  have hb1 : ¬ (b : Int) = -1 := by omega
  have e : (decide ((a : Int) < 0) || decide ((b : Int) < 0) || !valid d a || !valid d b) = false := by
    simp [valid, ha, hb]
  simp only [hasCyclicLoop, hb1, if_false, Int.toNat_natCast, e]
  simp

theorem tableKids_cons (i : Int) (is : List Int) (p : Int) (ps : List Int) (q : Int) :
    tableKids (i :: is) (p :: ps) q = if p = q then i :: tableKids is ps q else tableKids is ps q := rfl

theorem tableKids_nil_right (ids : List Int) (q : Int) : tableKids ids [] q = [] := by cases ids <;> rfl

theorem tableKids_not_mem : ∀ (ids pids : List Int) (k : Int), k ∉ pids → tableKids ids pids k = []
  | [], _, _, _ => rfl
  | _ :: _, [], _, _ => rfl
  | i :: is, p :: ps, k, h => by
    rw [tableKids_cons, if_neg (fun (e : p = k) => h (e ▸ List.mem_cons_self)),
      tableKids_not_mem is ps k (fun e => h (List.mem_cons_of_mem _ e))]

/-! ## pointer jumping -/

def jumpStep (acc : List Nat × Bool) (i : Nat) : List Nat × Bool :=
  if acc.1.getD i 0 ≠ acc.1.getD (acc.1.getD i 0) 0 then (acc.1.set i (acc.1.getD (acc.1.getD i 0) 0), false)
  else acc

theorem jumpPass_eq (dsu : List Nat) :
    jumpPass dsu = (List.range dsu.length).foldl jumpStep (dsu, true) := rfl

theorem jumpStep_length (acc : List Nat × Bool) (i : Nat) : (jumpStep acc i).1.length = acc.1.length := by
  unfold jumpStep; split <;> simp

theorem jumpFold_length : ∀ (is : List Nat) (acc : List Nat × Bool),
    (is.foldl jumpStep acc).1.length = acc.1.length
  | [], _ => rfl
  | i :: t, acc => by rw [List.foldl_cons, jumpFold_length t, jumpStep_length]

theorem jumpPass_length (dsu : List Nat) : (jumpPass dsu).1.length = dsu.length := by
  rw [jumpPass_eq, jumpFold_length]

/-- the flag survives a pass only if no step fired: nothing changed, every visited entry was a fixed point -/
theorem jumpFold_true : ∀ (is : List Nat) (acc : List Nat × Bool), (is.foldl jumpStep acc).2 = true →
    acc.2 = true ∧ is.foldl jumpStep acc = acc ∧
      ∀ i ∈ is, acc.1.getD (acc.1.getD i 0) 0 = acc.1.getD i 0 := by
  intro is
  induction is with
  | nil => intro acc h; exact ⟨h, rfl, by simp⟩
  | cons i t ih =>
    intro acc h
    rw [List.foldl_cons] at h ⊢
    obtain ⟨h1, h2, h3⟩ := ih (jumpStep acc i) h
    by_cases hp : acc.1.getD i 0 ≠ acc.1.getD (acc.1.getD i 0) 0
    · rw [show jumpStep acc i = (acc.1.set i (acc.1.getD (acc.1.getD i 0) 0), false) from if_pos hp] at h1
      exact absurd h1 Bool.false_ne_true
    · rw [show jumpStep acc i = acc from if_neg hp] at h1 h2 h3 ⊢
      exact ⟨h1, h2, List.forall_mem_cons.2 ⟨(Decidable.not_not.1 hp).symm, h3⟩⟩

theorem jumpPass_true (dsu : List Nat) (h : (jumpPass dsu).2 = true) :
    (jumpPass dsu).1 = dsu ∧ ∀ i (hi : i < dsu.length), dsu.getD (dsu[i]) 0 = dsu[i] := by
  rw [jumpPass_eq] at h ⊢
  obtain ⟨_, h2, h3⟩ := jumpFold_true _ _ h
  refine ⟨by rw [h2], ?_⟩
  intro i hi
  have := h3 i (List.mem_range.2 hi)
  simpa only [Py.getD_eq_getElem dsu 0 hi] using this

theorem jumpFold_fix : ∀ (is : List Nat) (acc : List Nat × Bool),
    (∀ i ∈ is, acc.1.getD (acc.1.getD i 0) 0 = acc.1.getD i 0) → is.foldl jumpStep acc = acc := by
  intro is
  induction is with
  | nil => intro acc _; rfl
  | cons i t ih =>
    intro acc h
    have e : jumpStep acc i = acc := if_neg (fun hne => hne (h i List.mem_cons_self).symm)
    rw [List.foldl_cons, e]
    exact ih acc (fun j hj => h j (List.mem_cons_of_mem _ hj))

theorem jumpLoop_spec : ∀ (f : Nat) (dsu l : List Nat), jumpLoop f dsu = some l →
    l.length = dsu.length ∧ ∀ i (hi : i < l.length), l.getD (l[i]) 0 = l[i] := by
  intro f
  induction f with
  | zero => intro dsu l h; simp [jumpLoop] at h
  | succ f ih =>
    intro dsu l h
    simp only [jumpLoop] at h
    split at h
    · rename_i hf
      obtain ⟨e, hfix⟩ := jumpPass_true dsu hf
      obtain rfl : dsu = l := by rw [← e]; exact Option.some.inj h
      exact ⟨rfl, hfix⟩
    · obtain ⟨e, hfix⟩ := ih _ l h
      exact ⟨by rw [e, jumpPass_length], hfix⟩

theorem dsuInit_length (ids pids : List Int) (l : List Nat) (h : dsuInit ids pids = some l) :
    l.length = min ids.length pids.length := by
  have := (Py.mapM_eq_some _ _ _ h).1
  simpa using this

/-- the list `l` tabulates `g` on `0..n-1` -/
def Tab (l : List Nat) (n : Nat) (g : Nat → Nat) : Prop :=
  l.length = n ∧ ∀ j, j < n → l.getD j 0 = g j

theorem Tab.getElem {l : List Nat} {n : Nat} {g : Nat → Nat} (h : Tab l n g) {i : Nat} (hi : i < l.length) :
    l[i] = g i := by
  rw [← h.2 i (h.1 ▸ hi), Py.getD_eq_getElem l 0 hi]

def Closed (n : Nat) (g : Nat → Nat) : Prop := ∀ i, i < n → g i < n

def stepF (g : Nat → Nat) (i : Nat) : Nat → Nat := updN g i (g (g i))

theorem stepF_same (g : Nat → Nat) (i : Nat) : stepF g i i = g (g i) := updN_same ..

theorem stepF_other (g : Nat → Nat) {i j : Nat} (h : j ≠ i) : stepF g i j = g j := updN_other _ _ _ _ h

theorem stepF_closed {n : Nat} {g : Nat → Nat} (h : Closed n g) (i : Nat) (hi : i < n) : Closed n (stepF g i) := by
  intro j hj
  by_cases e : j = i
  · rw [e, stepF_same]; exact h _ (h i hi)
  · rw [stepF_other g e]; exact h j hj

theorem stepF_id {g : Nat → Nat} {i : Nat} (h : g (g i) = g i) : stepF g i = g := by
  funext j
  by_cases e : j = i
  · rw [e, stepF_same, h]
  · rw [stepF_other g e]

theorem Tab.set {l : List Nat} {n : Nat} {g : Nat → Nat} (h : Tab l n g) (i v : Nat) :
    Tab (l.set i v) n (updN g i v) := by
  refine ⟨by rw [List.length_set, h.1], fun j hj => ?_⟩
  rw [List.getD_eq_getElem?_getD, List.getElem?_set]
  by_cases e : i = j
  · subst e; rw [if_pos rfl, if_pos (h.1 ▸ hj), updN_same]; rfl
  · rw [if_neg e, updN_other _ _ _ _ (Ne.symm e), ← List.getD_eq_getElem?_getD, h.2 j hj]

theorem jumpStep_tab {acc : List Nat × Bool} {n : Nat} {g : Nat → Nat} {i : Nat}
    (h : Tab acc.1 n g) (hi : i < n) (hg : g i < n) :
    Tab (jumpStep acc i).1 n (stepF g i) := by
  unfold jumpStep
  rw [h.2 i hi, h.2 (g i) hg]
  split
  · exact h.set i _
  · rename_i hp; rw [stepF_id (Decidable.not_not.1 hp).symm]; exact h

section loop
variable {n : Nat} (P : (Nat → Nat) → Prop) (hcl : ∀ g, P g → Closed n g)
  (hP : ∀ g i, P g → i < n → P (stepF g i))
include hcl hP

theorem jumpFold_tab : ∀ (is : List Nat) (acc : List Nat × Bool) (g : Nat → Nat), (∀ i ∈ is, i < n) →
    Tab acc.1 n g → P g → Tab (is.foldl jumpStep acc).1 n (is.foldl stepF g) ∧ P (is.foldl stepF g)
  | [], _, _, _, ht, hp => ⟨ht, hp⟩
  | i :: t, acc, g, his, ht, hp => by
    have hi := his i List.mem_cons_self
    rw [List.foldl_cons, List.foldl_cons]
    exact jumpFold_tab t (jumpStep acc i) (stepF g i) (fun j hj => his j (List.mem_cons_of_mem _ hj))
      (jumpStep_tab ht hi (hcl g hp i hi)) (hP g i hp hi)

theorem jumpPass_tab {l : List Nat} {g : Nat → Nat} (ht : Tab l n g) (hp : P g) :
    Tab (jumpPass l).1 n ((List.range n).foldl stepF g) ∧ P ((List.range n).foldl stepF g) := by
  have := jumpFold_tab P hcl hP (List.range n) (l, true) g (fun i hi => List.mem_range.1 hi) ht hp
  rwa [← ht.1, ← jumpPass_eq, ht.1] at this

theorem jumpLoop_inv : ∀ (fuel : Nat) (l res : List Nat) (g : Nat → Nat), Tab l n g → P g →
    jumpLoop fuel l = some res → ∃ g', Tab res n g' ∧ P g' ∧ ∀ i, i < n → g' (g' i) = g' i := by
  intro fuel
  induction fuel with
  | zero => intro l res g _ _ h; simp [jumpLoop] at h
  | succ fuel ih =>
    intro l res g ht hp h
    simp only [jumpLoop] at h
    split at h
    · rename_i hflag
      obtain ⟨e, hfix⟩ := jumpPass_true l hflag
      obtain rfl : l = res := by rw [← e]; exact Option.some.inj h
      refine ⟨g, ht, hp, fun i hi => ?_⟩
      have := hfix i (ht.1 ▸ hi)
      rwa [ht.getElem, ht.2 _ (hcl g hp i hi)] at this
    · obtain ⟨t', p'⟩ := jumpPass_tab P hcl hP ht hp
      exact ih _ res _ t' p' h

theorem jumpLoop_stops (μ : (Nat → Nat) → Nat)
    (hμ : ∀ g, P g → ¬ (∀ i, i < n → g (g i) = g i) → μ ((List.range n).foldl stepF g) < μ g) :
    ∀ (fuel : Nat) (l : List Nat) (g : Nat → Nat), Tab l n g → P g → μ g < fuel → ∃ res, jumpLoop fuel l = some res := by
  intro fuel
  induction fuel with
  | zero => intro l g _ _ hlt; omega
  | succ fuel ih =>
    intro l g ht hp hlt
    simp only [jumpLoop]
    split
    · exact ⟨_, rfl⟩
    · rename_i hflag
      obtain ⟨t', p'⟩ := jumpPass_tab P hcl hP ht hp
      refine ih _ _ t' p' (Nat.lt_of_lt_of_le (hμ g hp fun hfix => hflag ?_) (Nat.le_of_lt_succ hlt))
      rw [jumpPass_eq, jumpFold_fix]
      intro i hi
      have hi' : i < n := ht.1 ▸ List.mem_range.1 hi
      rw [ht.2 i hi', ht.2 _ (hcl g hp i hi'), hfix i hi']

end loop

theorem idxOf?_lt {ids : List Int} {x : Int} {k : Nat} (h : idxOf? ids x = some k) : k < ids.length := by
  simp only [idxOf?] at h
  split at h
  · cases h; assumption
  · cases h

theorem idxOf?_range (n m : Nat) (h : m < n) :
    idxOf? ((List.range n).map Int.ofNat) (m : Int) = some m := by
  have nd : ((List.range n).map Int.ofNat).Nodup := by
    rw [List.Nodup, List.pairwise_map]
    exact List.nodup_range.imp (fun hne e => hne (Int.ofNat.inj e))
  have := nd.idxOf_getElem m (by simpa using h)
  simp only [List.getElem_map, List.getElem_range] at this
  unfold idxOf?
  simp only []
  rw [show ((m : Nat) : Int) = Int.ofNat m from rfl, this]
  simp [h]

/-! ## root repair -/

def amStep (acc x : Option Int) : Option Int :=
  match acc, x with
  | none, x => x
  | some a, some b => if b < a then some b else some a
  | some a, none => some a

theorem argminOpt_eq (l : List (Option Int)) :
    argminOpt l = match l.foldl amStep none with
      | none => 0
      | some m => l.idxOf (some m) := rfl

theorem amStep_choice (a x : Option Int) : amStep a x = a ∨ amStep a x = x := by
  cases a with
  | none => exact Or.inr rfl
  | some a =>
    cases x with
    | none => exact Or.inl rfl
    | some b =>
      by_cases hlt : b < a
      · right; simp [amStep, hlt]
      · left; simp [amStep, hlt]

theorem amFold_mem : ∀ (l : List (Option Int)) (acc : Option Int) {m : Int},
    l.foldl amStep acc = some m → acc = some m ∨ some m ∈ l
  | [], _, _, h => Or.inl h
  | x :: t, acc, m, h => by
    rcases amFold_mem t (amStep acc x) h with e | e
    · rcases amStep_choice acc x with c | c
      · exact Or.inl (c ▸ e)
      · exact Or.inr (c ▸ e ▸ List.mem_cons_self)
    · exact Or.inr (List.mem_cons_of_mem _ e)

theorem argminOpt_lt (l : List (Option Int)) (h : 0 < l.length) : argminOpt l < l.length := by
  rw [argminOpt_eq]
  split
  · exact h
  · rename_i m hm
    exact List.idxOf_lt_length_of_mem ((amFold_mem l none hm).resolve_left nofun)

/-- the row chosen for root `i` -/
def nearestOf (ids : List Int) (dist2 : Nat → Nat → Int) (i : Nat) (dsu : List Nat) : Nat :=
  argminOpt ((List.range ids.length).map fun j =>
    if dsu.getD j 0 = dsu.getD i 0 then none else some (dist2 i j))

theorem linkLoop_cons (ids : List Int) (dist2 : Nat → Nat → Int) (i : Nat) (rest : List Nat)
    (pids : List Int) (dsu : List Nat) :
    linkLoop ids dist2 (i :: rest) pids dsu =
      linkLoop ids dist2 rest (pids.set i (ids.getD (nearestOf ids dist2 i dsu) 0))
        (dsu.map fun l => if l = dsu.getD i 0 then dsu.getD (nearestOf ids dist2 i dsu) 0 else l) := rfl

theorem linkLoop_spec (ids : List Int) (dist2 : Nat → Nat → Int) (hpos : 0 < ids.length) :
    ∀ (rs : List Nat) (pids : List Int) (dsu : List Nat),
      (linkLoop ids dist2 rs pids dsu).length = pids.length ∧
      (∀ k (h1 : k < (linkLoop ids dist2 rs pids dsu).length) (h2 : k < pids.length), k ∉ rs →
        (linkLoop ids dist2 rs pids dsu)[k] = pids[k]) ∧
      (∀ k (h1 : k < (linkLoop ids dist2 rs pids dsu).length), k ∈ rs →
        (linkLoop ids dist2 rs pids dsu)[k] ∈ ids) := by
  intro rs
  induction rs with
  | nil => intro pids dsu; simp [linkLoop]
  | cons i rest ih =>
    intro pids dsu
    rw [linkLoop_cons]
    have hklt : nearestOf ids dist2 i dsu < ids.length := by
      refine Nat.lt_of_lt_of_eq (argminOpt_lt _ ?_) ?_ <;> rw [List.length_map, List.length_range]
      exact hpos
    generalize nearestOf ids dist2 i dsu = k at hklt ⊢
    obtain ⟨l1, l2, l3⟩ := ih (pids.set i (ids.getD k 0))
      (dsu.map fun l => if l = dsu.getD i 0 then dsu.getD k 0 else l)
    rw [List.length_set] at l1
    refine ⟨l1, fun j h1 h2 hj => ?_, fun j h1 hj => ?_⟩
    · rw [List.mem_cons, not_or] at hj
      rw [l2 j h1 (by rw [List.length_set]; exact h2) hj.2, List.getElem_set_ne (Ne.symm hj.1)]
    · by_cases hjr : j ∈ rest
      · exact l3 j h1 hjr
      · obtain rfl : j = i := (List.mem_cons.1 hj).resolve_right hjr
        rw [l2 j h1 (by rw [List.length_set, ← l1]; exact h1) hjr, List.getElem_set_self, Py.getD_eq_getElem ids 0 hklt]
        exact List.getElem_mem hklt

theorem firstRootLoc_spec : ∀ (pids : List Int) (h : firstRootLoc pids < pids.length),
    pids[firstRootLoc pids] = -1
  | [], h => by simp at h
  | p :: ps, h => by
    by_cases e : p = -1
    · simp [firstRootLoc, e]
    · simp only [firstRootLoc, if_neg e] at h ⊢
      simpa using firstRootLoc_spec ps (by simpa using h)

theorem firstRootLoc_min : ∀ (pids : List Int) (k : Nat), pids.getD k 0 = -1 → firstRootLoc pids ≤ k
  | [], k, _ => Nat.zero_le k
  | p :: ps, 0, h => Nat.le_of_eq (if_pos h)
  | p :: ps, k+1, h => by
    rw [firstRootLoc]
    split
    · exact Nat.zero_le _
    · exact Nat.succ_le_succ (firstRootLoc_min ps k h)

theorem mem_drop_one_of_sorted {l : List Nat} (hs : l.Pairwise (· < ·)) {m : Nat} (hm : m ∈ l)
    (hmin : ∀ x ∈ l, m ≤ x) (x : Nat) : x ∈ l.drop 1 ↔ x ∈ l ∧ x ≠ m := by
  cases l with
  | nil => simp at hm
  | cons h t =>
    rw [List.pairwise_cons] at hs
    have hmh : m = h := by
      rcases List.mem_cons.1 hm with e | e
      · exact e
      · have := hs.1 m e
        have := hmin h List.mem_cons_self
        omega
    subst hmh
    simp only [List.drop_one, List.tail_cons, List.mem_cons]
    constructor
    · intro hx
      have := hs.1 x hx
      exact ⟨Or.inr hx, by omega⟩
    · rintro ⟨e | e, hne⟩
      · exact absurd e hne
      · exact e

/-- the rows `link_roots_to_nearest_` visits: every root but the first, each once -/
theorem otherRoots (pids : List Int) (hr : firstRootLoc pids < pids.length) :
    (((List.range pids.length).filter (fun k => pids.getD k 0 = -1)).drop 1).Nodup ∧
    ∀ k, k ∈ ((List.range pids.length).filter (fun k => pids.getD k 0 = -1)).drop 1 ↔
      (k < pids.length ∧ pids.getD k 0 = -1) ∧ k ≠ firstRootLoc pids := by
  have hmem : ∀ k, k ∈ (List.range pids.length).filter (fun k => pids.getD k 0 = -1) ↔
      k < pids.length ∧ pids.getD k 0 = -1 := by
    intro k; simp
  have hsorted : ((List.range pids.length).filter (fun k => pids.getD k 0 = -1)).Pairwise (· < ·) :=
    List.Pairwise.filter _ List.pairwise_lt_range
  refine ⟨(hsorted.imp (fun h => Nat.ne_of_lt h)).sublist (List.drop_sublist _ _), fun k => ?_⟩
  rw [← hmem]
  refine mem_drop_one_of_sorted hsorted ((hmem _).2 ⟨hr, ?_⟩) (fun x hx => firstRootLoc_min pids x ((hmem x).1 hx).2) k
  rw [Py.getD_eq_getElem pids 0 hr, firstRootLoc_spec pids hr]

end Dsu
