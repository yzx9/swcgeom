import SwcVerif.Proofs.Dsu
import Mathlib.Logic.Relation
/-! Pointer jumping (`get_dsu`) on ANY table — cycles included: partial correctness.

The in-place updates `L[i] := L[L[i]]` never change the weakly connected components of the pointer graph
`i ↦ L[i]`; and a pointer graph at a fixed point (`L[L[i]] = L[i]` for all `i`) has exactly one label per
component.  So whenever the `while` loop stops, two rows carry the same label exactly when they are weakly
connected in the table the loop started from.  (That the loop stops is proved for every forest in
`Proofs/DsuForest.lean` and for EVERY table, cycles included, in `Proofs/DsuTerm.lean`.) -/
namespace Dsu
open Relation

/-- the pointer graph of `g` on `0..n-1` -/
def Ptr (n : Nat) (g : Nat → Nat) (i j : Nat) : Prop := i < n ∧ g i = j

/-- weakly connected in the pointer graph -/
def WConn (n : Nat) (g : Nat → Nat) : Nat → Nat → Prop := EqvGen (Ptr n g)

theorem wconn_of_edges {n : Nat} {g g' : Nat → Nat} (h : ∀ x, x < n → WConn n g' x (g x)) {a b : Nat}
    (c : WConn n g a b) : WConn n g' a b := by
  induction c with
  | rel x y hxy => exact hxy.2 ▸ h x hxy.1
  | refl x => exact EqvGen.refl x
  | symm _ _ _ ih => exact EqvGen.symm _ _ ih
  | trans _ _ _ _ _ ih1 ih2 => exact EqvGen.trans _ _ _ ih1 ih2

/-- one in-place update keeps the weak components -/
theorem wconn_step (n : Nat) (g : Nat → Nat) (hcl : Closed n g) (i : Nat) (hi : i < n) (a b : Nat) :
    WConn n (stepF g i) a b ↔ WConn n g a b := by
  have edge : ∀ {g : Nat → Nat} {x : Nat}, x < n → WConn n g x (g x) := fun hx => EqvGen.rel _ _ ⟨hx, rfl⟩
  refine ⟨wconn_of_edges fun x hx => ?_, wconn_of_edges fun x hx => ?_⟩
  · -- a new edge is one old edge, or two
    unfold stepF
    by_cases hxi : x = i
    · rw [hxi, updN_same]; exact EqvGen.trans _ _ _ (edge hi) (edge (hcl i hi))
    · rw [updN_other _ _ _ _ hxi]; exact edge hx
  · -- the old edge `i → g i`: in the new graph `i → g (g i)` and (when `g i ≠ i`) `g i → g (g i)`
    have e := edge (g := stepF g i) hx
    unfold stepF at e ⊢
    by_cases hxi : x = i
    · subst hxi
      rw [updN_same] at e
      by_cases hself : g x = x
      · rw [hself]; exact EqvGen.refl x
      · have e2 := edge (g := updN g x (g (g x))) (hcl x hx)
        rw [updN_other _ _ _ _ hself] at e2
        exact EqvGen.trans _ _ _ e (EqvGen.symm _ _ e2)
    · rw [updN_other _ _ _ _ hxi] at e; exact e

/-- at a fixed point two rows have the same label exactly when they are weakly connected -/
theorem fix_labels (n : Nat) (g : Nat → Nat) (hcl : ∀ i, i < n → g i < n) (hfix : ∀ i, i < n → g (g i) = g i)
    (a b : Nat) (ha : a < n) (hb : b < n) : g a = g b ↔ WConn n g a b := by
  constructor
  · intro e
    exact EqvGen.trans _ _ _ (EqvGen.rel _ _ ⟨ha, rfl⟩) (e ▸ EqvGen.symm _ _ (EqvGen.rel _ _ ⟨hb, rfl⟩))
  · intro h
    -- the labels (the identity outside the table) are constant along every edge, hence on every component
    have key : ∀ x y, WConn n g x y → (if x < n then g x else x) = (if y < n then g y else y) := by
      intro x y hxy
      induction hxy with
      | rel x y hxy =>
        obtain ⟨hx, rfl⟩ := hxy
        rw [if_pos hx, if_pos (hcl x hx), hfix x hx]
      | refl x => rfl
      | symm _ _ _ ih => exact ih.symm
      | trans _ _ _ _ _ ih1 ih2 => exact ih1.trans ih2
    have := key a b h
    rwa [if_pos ha, if_pos hb] at this

/-- **whenever the loop stops, the labels are the weak components of the table it started from** -/
theorem jumpLoop_conn (n : Nat) (f : Nat → Nat) :
    ∀ (fuel : Nat) (l res : List Nat) (g : Nat → Nat), Tab l n g → (∀ i, i < n → g i < n) →
      (∀ a b, WConn n g a b ↔ WConn n f a b) → jumpLoop fuel l = some res →
      res.length = n ∧ ∀ a b, a < n → b < n → (res.getD a 0 = res.getD b 0 ↔ WConn n f a b) := by
  intro fuel l res g ht hcl hw h
  obtain ⟨g', t', ⟨c', w'⟩, hfix⟩ := jumpLoop_inv (fun g => Closed n g ∧ ∀ a b, WConn n g a b ↔ WConn n f a b)
    (fun _ h => h.1) (fun g i h hi => ⟨stepF_closed h.1 i hi, fun a b => (wconn_step n g h.1 i hi a b).trans (h.2 a b)⟩)
    fuel l res g ht ⟨hcl, hw⟩ h
  refine ⟨t'.1, fun a b ha hb => ?_⟩
  rw [t'.2 a ha, t'.2 b hb, fix_labels n g' c' hfix a b ha hb]
  exact w' a b

end Dsu
