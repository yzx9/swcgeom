import SwcVerif.Props.C06
import SwcVerif.Props.C07
/-! # The representation lemma

Every well-formed parent list (node 0 the only root, every other parent a node, every node reaches 0 —
`C07.WF`, the well-formedness the properties speak of) is the table of a rose tree: the hypothesis
`Represents r … / IsTree r pids` under which C04–C08, C10, C14 are proved by structural induction is
satisfiable for EVERY well-formed tree, so those theorems quantify over all well-formed trees.  The rose is
read off a table whose root stands at any position `ρ` (`Pipeline.WFr`: the table between re-rooting or
concatenation and the final sort); `C07.WF` is the case `ρ = 0`.  That general case is stated in the namespaces of `WFr`
(`Pipeline.WFr.*`, `Pipeline.wfr_represented`); namespace `Represent` holds the generic facts and the case `ρ = 0`. -/
namespace Represent
open Sub Redir

/-! ## generic facts about `roseOf`, `idsL`, `AgreesL`, `tableKids`, `rangeI` -/

theorem roseOf_id (ids pids : List Int) (f : Nat) (i : Int) : (roseOf ids pids f i).id = i := by
  cases f <;> rfl

theorem self_mem_roseOf (ids pids : List Int) (f : Nat) (i : Int) : i ∈ (roseOf ids pids f i).ids := by
  cases f <;> exact List.mem_cons_self

theorem roseOf_zero (ids pids : List Int) (i : Int) : roseOf ids pids 0 i = .node i [] := rfl

theorem roseOf_succ (ids pids : List Int) (f : Nat) (i : Int) :
    roseOf ids pids (f+1) i = .node i ((tableKids ids pids i).map (roseOf ids pids f)) := rfl

theorem agreesL_map (kf : Int → List Int) (g : Int → Rose) : ∀ l : List Int,
    (∀ j ∈ l, Agrees kf (g j)) → AgreesL kf (l.map g)
  | [], _ => by simp [AgreesL]
  | a :: l, h => by
    simp only [List.map_cons, AgreesL]
    exact ⟨h a (by simp), agreesL_map kf g l (fun j hj => h j (List.mem_cons_of_mem _ hj))⟩

theorem mem_idsL_map (g : Int → Rose) (w : Int) : ∀ l : List Int,
    w ∈ idsL (l.map g) ↔ ∃ j ∈ l, w ∈ (g j).ids
  | [] => by simp [idsL]
  | a :: l => by
    simp only [List.map_cons, idsL, List.mem_append, mem_idsL_map g w l, List.mem_cons, or_and_right, exists_or, exists_eq_left]

theorem nodup_idsL_map (g : Int → Rose) : ∀ l : List Int, l.Nodup →
    (∀ j ∈ l, (g j).ids.Nodup) →
    (∀ j1 ∈ l, ∀ j2 ∈ l, ∀ w, w ∈ (g j1).ids → w ∈ (g j2).ids → j1 = j2) →
    (idsL (l.map g)).Nodup
  | [], _, _, _ => by simp [idsL]
  | a :: l, hd, hn, hdis => by
    rw [List.nodup_cons] at hd
    simp only [List.map_cons, idsL, List.nodup_append]
    refine ⟨hn a (by simp), ?_, ?_⟩
    · exact nodup_idsL_map g l hd.2 (fun j hj => hn j (List.mem_cons_of_mem _ hj))
        (fun j1 h1 j2 h2 => hdis j1 (List.mem_cons_of_mem _ h1) j2 (List.mem_cons_of_mem _ h2))
    · intro x hx y hy hxy
      subst hxy
      obtain ⟨j, hj, hxj⟩ := (mem_idsL_map g x l).1 hy
      have := hdis a (by simp) j (List.mem_cons_of_mem _ hj) x hx hxj
      exact hd.1 (this ▸ hj)

theorem mem_ids_roseOf_zero (ids pids : List Int) (v w : Int) :
    w ∈ (roseOf ids pids 0 v).ids ↔ w = v := by
  simp [roseOf_zero, Rose.ids, idsL]

theorem mem_ids_roseOf_succ (ids pids : List Int) (f : Nat) (v w : Int) :
    w ∈ (roseOf ids pids (f+1) v).ids ↔
      w = v ∨ ∃ j ∈ tableKids ids pids v, w ∈ (roseOf ids pids f j).ids := by
  rw [roseOf_succ]
  simp only [Rose.ids, List.mem_cons, mem_idsL_map]

theorem rangeI_nodup (n : Nat) : (rangeI n).Nodup := Py.range_nodup n

theorem tableKids_nodup (n : Nat) (pids : List Int) (q : Int) : (tableKids (rangeI n) pids q).Nodup :=
  (SortM.tableKids_sublist _ _ _).nodup (rangeI_nodup n)

/-! ## depth of a node of a well-formed table: length of its root path -/

/-- depth + 1 -/
def D (pids : List Int) (v : Int) : Nat := (rootPath pids pids.length v).length

theorem D_pos (pids : List Int) (v : Int) : 0 < D pids v :=
  List.length_pos_iff.2 (rp_ne_nil _ _ _)

end Represent

namespace Pipeline.WFr
open Sub Redir Represent
variable {ps : List Int} {ρ : Nat}

theorem D_le (hw : WFr ps ρ) (v : Int) (h0 : 0 ≤ v) (hv : v < ps.length) : D ps v ≤ ps.length := by
  have hwalk := hw.walk ps.length v h0 hv
  refine C06.nodup_bound _ _ hwalk.2 (fun i hi => ?_)
  have := hwalk.1 i hi
  omega

theorem D_step (hw : WFr ps ρ) (v : Int) (h0 : 0 ≤ v) (hne : v ≠ ρ) (hv : v < ps.length) :
    D ps v = D ps (ps.getD v.toNat (-1)) + 1 :=
  congrArg List.length (hw.path_cons v h0 hne hv)

theorem D_step' (hw : WFr ps ρ) (k : Nat) (hk : k < ps.length) (hne : k ≠ ρ) : D ps (k : Int) = D ps ps[k] + 1 := by
  rw [hw.D_step k (by omega) (by omega) (by omega), Int.toNat_natCast, Py.getD_eq_getElem ps (-1) hk]

/-- a row of the table: a child of a node `v ≥ 0` is a non-root node whose parent is `v`, one level deeper -/
theorem kid_facts (hw : WFr ps ρ) (v j : Int) (hv0 : 0 ≤ v)
    (hj : j ∈ tableKids (rangeI ps.length) ps v) :
    0 ≤ j ∧ j ≠ ρ ∧ j < ps.length ∧ ps.getD j.toNat (-1) = v ∧
      rootPath ps ps.length j = j :: rootPath ps ps.length v := by
  obtain ⟨h0, hlt, hq⟩ := (C06.mem_tableKids ps v j).1 hj
  have hne : j ≠ ρ := by
    rintro rfl
    obtain ⟨_, er⟩ := List.getElem?_eq_some_iff.1 hw.root
    simp only [Int.toNat_natCast] at hq
    omega
  have hjl : j < ps.length := by omega
  have hpar : ps.getD j.toNat (-1) = v := by rw [Py.getD_eq_getElem _ _ hlt]; exact hq
  refine ⟨h0, hne, hjl, hpar, ?_⟩
  rw [hw.path_cons j h0 hne hjl, hpar]

theorem kid_D (hw : WFr ps ρ) (v j : Int) (hv0 : 0 ≤ v)
    (hj : j ∈ tableKids (rangeI ps.length) ps v) :
    D ps j = D ps v + 1 ∧ D ps j ≤ ps.length := by
  obtain ⟨h0, _, hlt, _, hp⟩ := hw.kid_facts v j hv0 hj
  refine ⟨?_, hw.D_le j h0 hlt⟩
  unfold D
  rw [hp, List.length_cons]

theorem roseOf_agrees (hw : WFr ps ρ) : ∀ (f : Nat) (v : Int), 0 ≤ v → v < ps.length →
    ps.length - D ps v ≤ f →
    Agrees (tableKids (rangeI ps.length) ps) (roseOf (rangeI ps.length) ps f v) := by
  intro f
  induction f with
  | zero =>
    intro v h0 hv hf
    rw [roseOf_zero]
    simp only [Agrees, AgreesL, List.map_nil, and_true]
    apply List.eq_nil_iff_forall_not_mem.2
    intro j hj
    have := hw.kid_D v j h0 hj
    have := hw.D_le v h0 hv
    omega
  | succ f ih =>
    intro v h0 hv hf
    rw [roseOf_succ]
    refine ⟨?_, agreesL_map _ _ _ fun j hj => ?_⟩
    · rw [List.map_map, show Rose.id ∘ roseOf (rangeI ps.length) ps f = id from funext (roseOf_id _ _ f), List.map_id]
    · obtain ⟨hj0, _, hjl, _, _⟩ := hw.kid_facts v j h0 hj
      have := hw.kid_D v j h0 hj
      exact ih j hj0 hjl (by omega)

/-- every id of the rose at `v` is a node and has `v` on its root path -/
theorem roseOf_ids_inv (hw : WFr ps ρ) : ∀ (f : Nat) (v : Int), 0 ≤ v → v < ps.length →
    ∀ w ∈ (roseOf (rangeI ps.length) ps f v).ids,
      (0 ≤ w ∧ w < ps.length) ∧ rootPath ps ps.length v <:+ rootPath ps ps.length w := by
  intro f
  induction f with
  | zero =>
    intro v h0 hv w hwm
    rw [mem_ids_roseOf_zero] at hwm
    subst hwm
    exact ⟨⟨h0, hv⟩, List.suffix_refl _⟩
  | succ f ih =>
    intro v h0 hv w hwm
    rw [mem_ids_roseOf_succ] at hwm
    rcases hwm with rfl | ⟨j, hj, hwj⟩
    · exact ⟨⟨h0, hv⟩, List.suffix_refl _⟩
    · obtain ⟨hj0, _, hjl, _, hp⟩ := hw.kid_facts v j h0 hj
      obtain ⟨hval, hsuf⟩ := ih j hj0 hjl w hwj
      refine ⟨hval, List.IsSuffix.trans ?_ hsuf⟩
      rw [hp]
      exact List.suffix_cons _ _

theorem roseOf_nodup (hw : WFr ps ρ) : ∀ (f : Nat) (v : Int), 0 ≤ v → v < ps.length →
    (roseOf (rangeI ps.length) ps f v).ids.Nodup := by
  intro f
  induction f with
  | zero =>
    intro v _ _
    simp [roseOf_zero, Rose.ids, idsL]
  | succ f ih =>
    intro v h0 hv
    rw [roseOf_succ]
    simp only [Rose.ids, List.nodup_cons]
    constructor
    · intro hmem
      obtain ⟨j, hj, hvj⟩ := (mem_idsL_map _ _ _).1 hmem
      obtain ⟨hj0, _, hjl, _, _⟩ := hw.kid_facts v j h0 hj
      have hsuf := (hw.roseOf_ids_inv f j hj0 hjl v hvj).2
      have hlen := hsuf.length_le
      have := (hw.kid_D v j h0 hj).1
      unfold D at this
      omega
    · apply nodup_idsL_map _ _ (tableKids_nodup _ _ _)
      · intro j hj
        obtain ⟨hj0, _, hjl, _, _⟩ := hw.kid_facts v j h0 hj
        exact ih j hj0 hjl
      · intro j1 h1 j2 h2 w hw1 hw2
        obtain ⟨h10, _, h1l, _, hp1⟩ := hw.kid_facts v j1 h0 h1
        obtain ⟨h20, _, h2l, _, hp2⟩ := hw.kid_facts v j2 h0 h2
        -- both root paths, one step longer than that of `v`, end the root path of `w`
        have s1 := (hw.roseOf_ids_inv f j1 h10 h1l w hw1).2
        have s2 := (hw.roseOf_ids_inv f j2 h20 h2l w hw2).2
        rw [hp1] at s1
        rw [hp2] at s2
        exact (List.cons.inj ((List.suffix_of_suffix_length_le s1 s2 (by simp)).eq_of_length (by simp))).1

/-- with enough fuel the ids of the rose are closed under "child of" -/
theorem roseOf_closed (hw : WFr ps ρ) : ∀ (f : Nat) (v : Int), 0 ≤ v → v < ps.length →
    ps.length - D ps v ≤ f →
    ∀ p ∈ (roseOf (rangeI ps.length) ps f v).ids, ∀ w ∈ tableKids (rangeI ps.length) ps p,
      w ∈ (roseOf (rangeI ps.length) ps f v).ids := by
  intro f
  induction f with
  | zero =>
    intro v h0 hv hf p hp w hwk
    rw [mem_ids_roseOf_zero] at hp
    subst hp
    have := hw.kid_D p w h0 hwk
    have := hw.D_le p h0 hv
    omega
  | succ f ih =>
    intro v h0 hv hf p hp w hwk
    rw [mem_ids_roseOf_succ] at hp ⊢
    right
    rcases hp with rfl | ⟨j, hj, hpj⟩
    · exact ⟨w, hwk, self_mem_roseOf _ _ f w⟩
    · obtain ⟨hj0, _, hjl, _, _⟩ := hw.kid_facts v j h0 hj
      have := hw.kid_D v j h0 hj
      exact ⟨j, hj, ih j hj0 hjl (by omega) p hpj w hwk⟩

/-- every node occurs in the rose at the root -/
theorem roseOf_covers (hw : WFr ps ρ) : ∀ (m : Nat) (w : Int), 0 ≤ w → w < ps.length →
    D ps w = m → w ∈ (roseOf (rangeI ps.length) ps ps.length (ρ : Int)).ids := by
  intro m
  induction m with
  | zero =>
    intro w _ _ hD
    have := D_pos ps w
    omega
  | succ m ih =>
    intro w h0 hv hD
    by_cases hw0 : w = (ρ : Int)
    · exact hw0 ▸ self_mem_roseOf _ _ _ _
    · have hpv := hw.par_valid' w h0 hw0 hv
      have hDp := hw.D_step w h0 hw0 hv
      have hp := ih _ hpv.1 hpv.2 (by omega)
      have hkid : w ∈ tableKids (rangeI ps.length) ps (ps.getD w.toNat (-1)) := by
        rw [C06.mem_tableKids]
        have hlt : w.toNat < ps.length := by omega
        exact ⟨h0, hlt, (Py.getD_eq_getElem _ _ hlt).symm⟩
      exact hw.roseOf_closed ps.length (ρ : Int) (Int.natCast_nonneg ρ) (Int.ofNat_lt.2 hw.lt) (Nat.sub_le _ _) _ hp w hkid

end Pipeline.WFr

namespace Pipeline
open Sub Redir

/-- **every well-formed tree, rooted anywhere, is represented by a rose** (`roseOf` with enough fuel) -/
theorem wfr_represented (ps : List Int) (ρ : Nat) (hw : WFr ps ρ) :
    ∃ r : Rose, Represents r (rangeI ps.length) ps ∧ r.ids.Perm (rangeI ps.length) ∧ r.id = (ρ : Int) := by
  have h0 : (0 : Int) ≤ (ρ : Int) := Int.natCast_nonneg ρ
  have h0l : (ρ : Int) < ps.length := Int.ofNat_lt.2 hw.lt
  refine ⟨roseOf (rangeI ps.length) ps ps.length (ρ : Int), ⟨?_, ?_⟩, ?_, Represent.roseOf_id _ _ _ _⟩
  · exact hw.roseOf_agrees _ _ h0 h0l (Nat.sub_le _ _)
  · exact hw.roseOf_nodup _ _ h0 h0l
  · rw [List.perm_ext_iff_of_nodup (hw.roseOf_nodup _ _ h0 h0l) (Represent.rangeI_nodup _)]
    intro a
    rw [C06.mem_rangeI]
    constructor
    · intro ha
      have := (hw.roseOf_ids_inv _ _ h0 h0l a ha).1
      omega
    · rintro ⟨ha0, hal⟩
      exact hw.roseOf_covers _ a ha0 (by omega) rfl

end Pipeline

namespace Represent
open Sub Redir

theorem D_le {pids : List Int} (hw : C07.WF pids) (v : Int) (h0 : 0 ≤ v) (hv : v < pids.length) :
    D pids v ≤ pids.length :=
  hw.toWFr.D_le v h0 hv

theorem kid_facts {pids : List Int} (hw : C07.WF pids) (v j : Int) (hv0 : 0 ≤ v)
    (hj : j ∈ tableKids (rangeI pids.length) pids v) :
    0 < j ∧ j < pids.length ∧ pids.getD j.toNat (-1) = v ∧
      rootPath pids pids.length j = j :: rootPath pids pids.length v := by
  obtain ⟨h0, hne, h⟩ := hw.toWFr.kid_facts v j hv0 hj
  exact ⟨by omega, h⟩

theorem kid_D {pids : List Int} (hw : C07.WF pids) (v j : Int) (hv0 : 0 ≤ v)
    (hj : j ∈ tableKids (rangeI pids.length) pids v) :
    D pids j = D pids v + 1 ∧ D pids j ≤ pids.length :=
  hw.toWFr.kid_D v j hv0 hj

/-- **every well-formed tree is represented by a rose** -/
theorem wf_represented (pids : List Int) (hw : C07.WF pids) : ∃ r : Rose, C06.IsTree r pids := by
  obtain ⟨r, hrep, hperm, hid⟩ := Pipeline.wfr_represented pids 0 hw.toWFr
  exact ⟨r, hrep, hperm, hid, hw.1⟩

/-! ## the converse -/

-- the walk from any id of a rose that agrees with the table reaches the rose's root, in fewer steps than its size
mutual
theorem path_in_rose (pids : List Int) : ∀ (s : Rose), Agrees (tableKids (rangeI pids.length) pids) s →
    (∀ i ∈ s.ids, 0 ≤ i) → ∀ w ∈ s.ids,
    ∃ (d : Nat) (pre : List Int), d < s.size ∧ ∀ f, rootPath pids (d + f) w = pre ++ rootPath pids f s.id
  | .node i ks, ha, hnn, w, hwm => by
    simp only [Agrees] at ha
    simp only [Rose.ids, List.mem_cons] at hwm
    rcases hwm with rfl | hwm
    · exact ⟨0, [], by simp only [Rose.size]; omega, fun f => by rw [Nat.zero_add]; rfl⟩
    · obtain ⟨c, hc, d, pre, hd, hpath⟩ := path_in_roseL pids ks ha.2
        (fun j hj => hnn j (List.mem_cons_of_mem _ hj)) w hwm
      have hi0 : 0 ≤ i := hnn i List.mem_cons_self
      have hck : c.id ∈ tableKids (rangeI pids.length) pids i := by
        rw [ha.1]; exact List.mem_map.2 ⟨c, hc, rfl⟩
      obtain ⟨_, hlt, hq⟩ := (C06.mem_tableKids pids i c.id).1 hck
      have hpar : pids.getD c.id.toNat (-1) = i := by rw [Py.getD_eq_getElem _ _ hlt]; exact hq
      refine ⟨d + 1, pre ++ [c.id], by simp only [Rose.size]; omega, fun f => ?_⟩
      have e : d + 1 + f = d + (f + 1) := by omega
      rw [e, hpath (f + 1), rp_succ, hpar, if_neg (by omega), List.append_assoc]
      rfl
theorem path_in_roseL (pids : List Int) : ∀ (ks : List Rose), AgreesL (tableKids (rangeI pids.length) pids) ks →
    (∀ i ∈ idsL ks, 0 ≤ i) → ∀ w ∈ idsL ks,
    ∃ c ∈ ks, ∃ (d : Nat) (pre : List Int), d < sizeL ks ∧
      ∀ f, rootPath pids (d + f) w = pre ++ rootPath pids f c.id
  | [], _, _, w, hwm => by simp [idsL] at hwm
  | r :: rs, ha, hnn, w, hwm => by
    simp only [AgreesL] at ha
    simp only [idsL, List.mem_append] at hwm
    rcases hwm with hwm | hwm
    · obtain ⟨d, pre, hd, hp⟩ := path_in_rose pids r ha.1 (fun j hj => hnn j (List.mem_append_left _ hj)) w hwm
      exact ⟨r, List.mem_cons_self, d, pre, by simp only [sizeL]; omega, hp⟩
    · obtain ⟨c, hc, d, pre, hd, hp⟩ := path_in_roseL pids rs ha.2 (fun j hj => hnn j (List.mem_append_right _ hj)) w hwm
      exact ⟨c, List.mem_cons_of_mem _ hc, d, pre, by simp only [sizeL]; omega, hp⟩
end

/-- and conversely the table of a rose rooted at 0 over ids `0..n-1` is well formed -/
theorem represented_wf (pids : List Int) (r : Rose) (h : C06.IsTree r pids) : C07.WF pids := by
  obtain ⟨hrep, hperm, hroot, hhead⟩ := id h
  have hpar0 : pids.getD (0 : Int).toNat (-1) = -1 := by
    rw [List.head?_eq_getElem?] at hhead
    simp [List.getD_eq_getElem?_getD, hhead]
  have hmem : ∀ k, k < pids.length → (k : Int) ∈ r.ids := fun k hk => (C06.isTree_mem h _).2 ⟨by omega, by simpa using hk⟩
  refine ⟨hhead, ?_, ?_⟩
  · intro k hk hk0
    rcases C06.edge_of_mem r _ (hmem k hk) with hr | ⟨a, ha, he⟩
    · rw [hroot] at hr; omega
    · have hp := (C06.edge_parent pids r hrep a _ he).2.2
      simp only [Int.toNat_natCast] at hp
      rw [Py.getD_eq_getElem _ _ hk] at hp
      rw [hp]
      have := (C06.isTree_mem h a).1 ha
      omega
  · intro k hk
    obtain ⟨d, pre, hd, hpath⟩ := path_in_rose pids r hrep.1
      (fun i hi => ((C06.isTree_mem h i).1 hi).1) _ (hmem k hk)
    rw [C06.isTree_size h] at hd
    have e : pids.length = d + (pids.length - d) := by omega
    rw [e, hpath, hroot, rp_parentless pids 0 hpar0]
    simp

/-- the subtree hanging at any node of a well-formed tree is represented as well (what `Tree.Node.traverse`,
`get_subtree` and `Node.subtree` need) -/
theorem wf_subtree_represented (pids : List Int) (hw : C07.WF pids) (k : Nat) (hk : k < pids.length) :
    ∃ s : Rose, s.id = (k : Int) ∧ Represents s (Sub.rangeI pids.length) pids ∧
      ∀ i ∈ s.ids, 0 ≤ i ∧ i.toNat < pids.length := by
  have hk0 : (0 : Int) ≤ k := Int.natCast_nonneg k
  have hkl : (k : Int) < pids.length := Int.ofNat_lt.2 hk
  have hwr := hw.toWFr
  refine ⟨roseOf (rangeI pids.length) pids pids.length k, roseOf_id _ _ _ _, ⟨?_, ?_⟩, ?_⟩
  · exact hwr.roseOf_agrees _ _ hk0 hkl (Nat.sub_le _ _)
  · exact hwr.roseOf_nodup _ _ hk0 hkl
  · intro i hi
    have := (hwr.roseOf_ids_inv _ _ hk0 hkl i hi).1
    omega

end Represent
