import SwcVerif.Proofs.Represent
import SwcVerif.Props.C05
import SwcVerif.Props.C09
/-! Helper lemmas for C03 and C07 (`Props/C03.lean`, `Props/C07Cat.lean`): walks in parent tables (a decreasing measure
makes a table a tree: `wfr_of_measure`), root counting, sorting a tree table, pre-order positions, compaction bounds,
the heap frame of a copy, pruning, the re-rooted table. -/
namespace Pipeline
open Redir SortM Sub

/-! ## walks -/

/-- **acyclic ⇒ tree**: a table with one parentless row `ρ`, every other parent a row, and some measure that strictly
decreases from every other row to its parent is a tree rooted at `ρ` (every walk ends at `ρ` within `length` steps) -/
theorem wfr_of_measure {q : List Int} {ρ : Nat} (hroot : q[ρ]? = some (-1)) (μ : Int → Nat)
    (hstep : ∀ (k : Nat) (v : Int), q[k]? = some v → k ≠ ρ → 0 ≤ v ∧ v < q.length ∧ μ v < μ k) : WFr q ρ := by
  refine ⟨hroot, fun k hk hne => ?_, fun k hk => ?_⟩
  · obtain ⟨h1, h2, _⟩ := hstep k _ (List.getElem?_eq_getElem hk) hne
    exact ⟨h1, h2⟩
  · obtain ⟨b, c, a⟩ := walk_of_measure q ρ hroot μ hstep (μ k) k hk
    have a := a (Nat.le_refl _)
    have hlen : (rootPath q (μ k) (k : Int)).length ≤ q.length :=
      C06.nodup_bound _ _ c (fun w hw => ⟨(b w hw).1, (b w hw).2.1⟩)
    have hz : q.getD ((ρ : Int)).toNat (-1) = -1 := by simp [List.getD_eq_getElem?_getD, hroot]
    rw [rp_lower q ρ hz (μ k) k a q.length (by omega)]
    exact a

/-- a sorted table with root 0 and valid parents is well formed -/
theorem wf_of_sorted (pids : List Int) (h0 : pids.head? = some (-1))
    (hs : ∀ k (h : k < pids.length), 0 < k → pids[k] < (k : Int))
    (hv : ∀ k (h : k < pids.length), 0 < k → 0 ≤ pids[k]) : C07.WF pids := by
  refine C07.WF.ofWFr (wfr_of_measure (by rwa [List.head?_eq_getElem?] at h0) Int.toNat fun k v hk hne => ?_)
  obtain ⟨hk', rfl⟩ := List.getElem?_eq_some_iff.1 hk
  have := hs k hk' (Nat.pos_of_ne_zero hne)
  have := hv k hk' (Nat.pos_of_ne_zero hne)
  omega

/-! ## root counting -/

theorem single_root : ∀ (ids ps : List Int) (ρ : Nat), ps[ρ]? = some (-1) →
    (∀ v (h : v < ps.length), ps[v] = -1 → v = ρ) → countRoots ps = 1 ∧ firstRoot ids ps = ids[ρ]?
  | _, [], ρ, h, _ => by simp at h
  | ids, p :: ps, 0, h, hu => by
    simp only [List.getElem?_cons_zero, Option.some.injEq] at h
    subst h
    have : ps.filter (· = -1) = [] := List.filter_eq_nil_iff.2 fun x hx => by
      obtain ⟨i, hi, rfl⟩ := List.getElem_of_mem hx
      exact fun e => absurd (hu (i+1) (Nat.succ_lt_succ hi) (of_decide_eq_true e)) (Nat.succ_ne_zero i)
    exact ⟨by simp [countRoots, this], by cases ids <;> simp [firstRoot]⟩
  | ids, p :: ps, ρ+1, h, hu => by
    have hp : p ≠ -1 := fun e => by
      have := hu 0 (by simp) (by simpa using e)
      omega
    obtain ⟨ih1, ih2⟩ := single_root ids.tail ps ρ (by simpa using h) (fun v hv e => by
      have := hu (v+1) (by simpa using hv) (by simpa using e)
      omega)
    refine ⟨by simpa [countRoots, List.filter_cons, hp] using ih1, ?_⟩
    cases ids with
    | nil => rfl
    | cons i is => rw [firstRoot, if_neg hp]; exact ih2

/-- a rose over all rows of a table `(0..n-1, ps)` with a single parentless row is a tree table in C05's sense -/
theorem isTreeTable_of (r : Rose) (ps : List Int) (ρ : Nat) (hrep : Represents r (rangeI ps.length) ps)
    (hperm : r.ids.Perm (rangeI ps.length)) (hid : r.id = (ρ : Int)) (hroot : ps[ρ]? = some (-1))
    (hu : ∀ v (h : v < ps.length), ps[v] = -1 → v = ρ) :
    C05.IsTreeTable r (rangeI ps.length) ps := by
  obtain ⟨h1, hf⟩ := single_root (rangeI ps.length) ps ρ hroot hu
  have hρ : ρ < ps.length := (List.getElem?_eq_some_iff.1 hroot).1
  exact ⟨hrep, hperm, by simp [rangeI], h1, by rw [hf, hid]; simp [rangeI, hρ]⟩

theorem sorted_wf (r : Rose) (ids ps : List Int) (h : C05.IsTreeTable r ids ps) :
    ∃ res, sortNodesImpl ids ps = .ok res ∧ C07.WF res.newPids ∧
      (∀ k (h : k < res.newPids.length), 0 < k → res.newPids[k] < (k : Int)) ∧
      res.newPids.length = ids.length := by
  refine ⟨_, C05.sort_ok r _ _ h, ?_⟩
  have hs := C05.sort_sorted r _ _ h _ (C05.sort_ok r _ _ h)
  have hp := C05.sort_perm r _ _ h _ (C05.sort_ok r _ _ h)
  exact ⟨wf_of_sorted _ hs.1 (fun k hk hk0 => (hs.2 k hk hk0).2) (fun k hk hk0 => (hs.2 k hk hk0).1),
    fun k hk hk0 => (hs.2 k hk hk0).2, hp.2.2.2⟩

/-! ## compaction: bounds on the new parents -/

theorem toSubTopology_bound (subId subPid : List Int) (res : SubTopo) (h : toSubTopology subId subPid = some res) :
    res.newPid.length = res.mapping.length ∧
    ∀ k (hk : k < res.newPid.length),
      res.newPid[k] = -1 ∨ (0 ≤ res.newPid[k] ∧ res.newPid[k].toNat < res.mapping.length) := by
  unfold toSubTopology at h
  simp only [Option.map_eq_some_iff] at h
  obtain ⟨np, hnp, rfl⟩ := h
  obtain ⟨hlen, hk⟩ := Py.mapM_eq_some _ _ _ hnp
  refine ⟨by simp [hlen], ?_⟩
  intro k hkn
  simp only at hkn ⊢
  have hkk := hk k (by omega) hkn
  split at hkk
  · left; simpa using hkk.symm
  · right
    obtain ⟨h0, hj, _⟩ := C06.pos?_some _ _ _ hkk
    exact ⟨h0, hj⟩

/-! ## pre-order: every entered node but the first has its parent entered earlier -/

theorem enterOrder_head (r : Rose) : (C04.enterOrder r)[0]? = some r.id := by
  cases r; simp [C04.enterOrder, Rose.id]

mutual
theorem enterOrder_parent : ∀ (r : Rose) (k : Nat) (v : Int), (C04.enterOrder r)[k]? = some v → 0 < k →
    ∃ j u, j < k ∧ (C04.enterOrder r)[j]? = some u ∧ (u, v) ∈ C05.edges r
  | .node i ks, k, v, h, hk => by
    rw [C04.enterOrder] at h ⊢
    rw [C05.edges]
    cases k with
    | zero => omega
    | succ k =>
      rcases enterOrderRev_parent ks k v h with hv | ⟨j, u, hj, hu, he⟩
      · obtain ⟨c, hc, rfl⟩ := List.mem_map.1 hv
        exact ⟨0, i, Nat.succ_pos k, rfl, List.mem_append_left _ (List.mem_map.2 ⟨c, hc, rfl⟩)⟩
      · exact ⟨j+1, u, Nat.succ_lt_succ hj, hu, List.mem_append_right _ he⟩
theorem enterOrderRev_parent : ∀ (ks : List Rose) (k : Nat) (v : Int), (C04.enterOrderRev ks)[k]? = some v →
    v ∈ ks.map Rose.id ∨ ∃ j u, j < k ∧ (C04.enterOrderRev ks)[j]? = some u ∧ (u, v) ∈ C05.edgesL ks
  | [], k, v, h => by simp [C04.enterOrderRev] at h
  | r :: rs, k, v, h => by
    rw [C04.enterOrderRev] at h ⊢
    rw [C05.edgesL, List.map_cons, List.mem_cons]
    by_cases hlt : k < (C04.enterOrderRev rs).length
    · rw [List.getElem?_append_left hlt] at h
      rcases enterOrderRev_parent rs k v h with hv | ⟨j, u, hj, hu, he⟩
      · exact Or.inl (Or.inr hv)
      · exact Or.inr ⟨j, u, hj, by rw [List.getElem?_append_left (by omega)]; exact hu, List.mem_append_right _ he⟩
    · rw [List.getElem?_append_right (by omega)] at h
      cases hj' : k - (C04.enterOrderRev rs).length with
      | zero =>
        rw [hj', enterOrder_head] at h
        exact Or.inl (Or.inl (Option.some.inj h).symm)
      | succ j'' =>
        rw [hj'] at h
        obtain ⟨j, u, hj, hu, he⟩ := enterOrder_parent r (j''+1) v h (Nat.succ_pos _)
        refine Or.inr ⟨(C04.enterOrderRev rs).length + j, u, by omega, ?_, List.mem_append_left _ he⟩
        rw [List.getElem?_append_right (Nat.le_add_right _ _), Nat.add_sub_cancel_left]
        exact hu
end

/-- the subtree at a node, as extracted by `get_subtree`, has root 0 and parents before children -/
theorem subtree_sorted (pids : List Int) (s : Rose) (h : Represents s (rangeI pids.length) pids)
    (hin : ∀ i ∈ s.ids, 0 ≤ i ∧ i.toNat < pids.length) :
    ∃ res, getSubtree pids s.id = some res ∧ res.newPid.head? = some (-1) ∧
      ∀ k (hk : k < res.newPid.length), 0 < k → 0 ≤ res.newPid[k] ∧ res.newPid[k] < (k : Int) := by
  obtain ⟨res, hres, hmap, hperm, hhead, hrows⟩ := C06.subtree_nodes pids s h hin
  have hb := toSubTopology_bound _ _ res (by unfold getSubtree at hres; exact hres)
  have hnd : res.mapping.Nodup := hperm.nodup_iff.2 h.2
  refine ⟨res, hres, hhead, ?_⟩
  intro k hk hk0
  obtain ⟨h0, hpar⟩ := hrows k hk hk0
  refine ⟨h0, ?_⟩
  have hkm : k < res.mapping.length := by omega
  have hq : res.newPid[k].toNat < res.mapping.length := by
    rcases hb.2 k hk with e | ⟨_, hlt⟩
    · omega
    · exact hlt
  have hrow : (C04.enterOrder s)[k]? = some (res.mapping[k]) := by
    rw [← hmap, List.getElem?_eq_getElem hkm]
  obtain ⟨j, u, hj, hu, he⟩ := enterOrder_parent s k _ hrow hk0
  rw [← hmap] at hu
  obtain ⟨hjm, hu'⟩ := List.getElem?_eq_some_iff.1 hu
  have hp := (C06.edge_parent pids s h u _ he).2.2
  rw [Py.getD_eq_getElem _ _ hq, Py.getD_eq_getElem _ _ hkm, hp, ← hu'] at hpar
  have := (List.getElem_inj hnd).1 hpar
  omega

/-! ## heap: writes to a copy never reach the original's arrays -/

theorem write_step_frame (g : Views.Heap) (N : Nat) (op : Views.Op)
    (hop : (∃ i c v, op = Views.Op.nodeWrite N i c v) ∨ (∃ k c v, op = Views.Op.ownerWrite N k c v)) :
    (Views.step g op).1.objs = g.objs ∧
    ∀ a, (∀ c a', g.colArr N c = some a' → a ≠ a') → (Views.step g op).1.arr a = g.arr a := by
  rcases hop with ⟨i, c, v, rfl⟩ | ⟨k, c, v, rfl⟩ <;>
  · simp only [Views.step]
    split
    · rename_i a' ha'
      split
      · exact ⟨rfl, fun a hne => C09.setArr_arr_ne g a' a _ v (hne c a' ha')⟩
      · exact ⟨rfl, fun _ _ => rfl⟩
    · exact ⟨rfl, fun _ _ => rfl⟩

theorem copy_cols_fresh (h : Views.Heap) (o : Nat) (ho : o < h.objs.length) (c : Views.Col) (a' : Nat)
    (hca : (Views.step h (.copy o)).1.colArr h.objs.length c = some a') : h.arrs.length ≤ a' := by
  have hob : h.objs[o]? = some h.objs[o] := List.getElem?_eq_getElem ho
  simp only [Views.step, hob] at hca
  rw [C09.newObject_eq] at hca
  obtain ⟨hN, hm⟩ := C09.colArr_mem _ _ _ _ hca
  simp only [List.getElem_append_right (Nat.le_refl _), Nat.sub_self, List.getElem_cons_zero] at hm
  obtain ⟨k, hk, e⟩ := C09.objCols_mem _ _ _ hm
  have : a' = h.arrs.length + k := congrArg Prod.snd e
  omega

theorem colArr_congr (g g' : Views.Heap) (e : g.objs = g'.objs) (N : Nat) (c : Views.Col) :
    g.colArr N c = g'.colArr N c := by
  unfold Views.Heap.colArr; rw [e]

theorem run_inv (I : Views.Heap → Prop) (ops : List Views.Op)
    (hstep : ∀ g, ∀ op ∈ ops, I g → I (Views.step g op).1) (h : Views.Heap) (h0 : I h) : I (Views.run h ops).1 := by
  unfold Views.run
  suffices ∀ acc : Views.Heap × List Views.Out, I acc.1 →
      I (ops.foldl (fun acc op => let r := Views.step acc.1 op; (r.1, acc.2 ++ [r.2])) acc).1 from this (h, []) h0
  induction ops with
  | nil => exact fun _ hacc => hacc
  | cons op ops ih =>
    intro acc hacc
    rw [List.foldl_cons]
    exact ih (fun g op' hop' => hstep g op' (List.mem_cons_of_mem _ hop')) _ (hstep acc.1 op (List.mem_cons_self ..) hacc)

theorem copy_then_writes (h : Views.Heap) (hw : C09.WFHeap h) (o : Nat) (ho : o < h.objs.length) (later : List Views.Op)
    (hl : ∀ op ∈ later, (∃ i c v, op = Views.Op.nodeWrite h.objs.length i c v) ∨
      (∃ k c v, op = Views.Op.ownerWrite h.objs.length k c v)) :
    ∀ a, a < h.arrs.length → (Views.run (Views.step h (.copy o)).1 later).1.arr a = h.arr a := by
  have hc := (C09.copy_fresh h hw o ho).2.2.1
  generalize hh1 : (Views.step h (.copy o)).1 = h1 at hc
  have hge : ∀ c a', h1.colArr h.objs.length c = some a' → h.arrs.length ≤ a' := by
    intro c a' hca; rw [← hh1] at hca; exact copy_cols_fresh h o ho c a' hca
  refine (run_inv (fun g => g.objs = h1.objs ∧ ∀ a, a < h.arrs.length → g.arr a = h.arr a) later ?_ h1 ⟨rfl, hc⟩).2
  intro g op hop hg
  obtain ⟨f1, f2⟩ := write_step_frame g h.objs.length op (hl op hop)
  refine ⟨f1.trans hg.1, fun a ha => ?_⟩
  rw [f2 a ?_]
  · exact hg.2 a ha
  · intro c a' hca
    rw [colArr_congr _ _ hg.1] at hca
    have := hge c a' hca
    intro e
    subst e
    exact Nat.lt_irrefl _ (Nat.lt_of_lt_of_le ha this)

/-! ## pruning -/

/-- a compacted table whose kept rows (old ids `m`, the root first) are closed under "parent of" is well formed -/
theorem prune_table_wf (pids : List Int) (hw : C07.WF pids) (m q : List Int)
    (hlen : q.length = m.length) (hm0 : m[0]? = some 0) (hnd : m.Nodup)
    (hval : ∀ v ∈ m, 0 ≤ v ∧ v < pids.length)
    (hrows : ∀ k (hk : k < q.length),
        let p := pids.getD (m.getD k 0).toNat (-1)
        (p = -1 → q[k] = -1) ∧ (p ≠ -1 → 0 ≤ q[k] ∧ m.getD q[k].toNat 0 = p))
    (hb : ∀ k (hk : k < q.length), q[k] = -1 ∨ (0 ≤ q[k] ∧ q[k].toNat < m.length)) : C07.WF q := by
  obtain ⟨hpos, hm0'⟩ := List.getElem?_eq_some_iff.1 hm0
  have hq0 : 0 < q.length := hlen ▸ hpos
  have hroot : q[0]? = some (-1) := by
    rw [List.getElem?_eq_getElem hq0, (hrows 0 hq0).1]
    rw [Py.getD_eq_getElem _ _ hpos, hm0']
    exact hw.par_root
  -- the depth of the old id in the old tree decreases from a kept row to its new parent
  refine C07.WF.ofWFr (wfr_of_measure hroot (fun j => Represent.D pids (m.getD j.toNat 0)) fun k v hkv hk0 => ?_)
  obtain ⟨hk, rfl⟩ := List.getElem?_eq_some_iff.1 hkv
  have hkm : k < m.length := hlen ▸ hk
  have hne : m[k] ≠ 0 := fun e => hk0 ((List.getElem_inj hnd).1 (e.trans hm0'.symm))
  have hv := hval _ (List.getElem_mem hkm)
  have hpv := hw.par_valid' m[k] (by omega) hv.2
  have hr := (hrows k hk).2
  rw [Int.toNat_natCast]
  simp only [Py.getD_eq_getElem _ _ hkm] at hr ⊢
  obtain ⟨h0, he⟩ := hr (by omega)
  have := hb k hk
  have := hw.toWFr.D_step m[k] (by omega) (by omega) hv.2
  rw [he]
  omega

/-- the root of a tree is never in the removed set when it is not marked itself -/
theorem root_not_removed (pids : List Int) (hw : C07.WF pids) (r : Rose) (h : C06.IsTree r pids)
    (marked : Int → Bool) (hm : marked 0 = false) : (0 : Int) ∉ C06.removedSet marked r false := by
  intro hin
  rcases C06.removedSet_sound marked r 0 hin with h1 | ⟨a, ha, he⟩
  · rw [hm] at h1; cases h1
  · have hp := (C06.edge_parent pids r h.1 a 0 he).2.2
    have ha' := (C06.isTree_mem h a).1 (C06.edges_src r a 0 he)
    rw [hw.par_root] at hp
    omega

/-- **pruning a well-formed tree (root spared) gives a well-formed tree** -/
theorem prune_wf (pids : List Int) (hw : C07.WF pids) (rm : List Int) (hr : ∀ v ∈ rm, 0 < v ∧ v < pids.length) :
    ∃ res, toSubtree pids rm = some res ∧ C07.WF res.newPid := by
  obtain ⟨r, hT⟩ := Represent.wf_represented pids hw
  obtain ⟨res, hres, hmap, hlen, hrows⟩ := C06.toSubtree_kept pids r hT rm
  have hb := toSubTopology_bound _ _ res (by unfold toSubtree at hres; exact hres)
  refine ⟨res, hres, ?_⟩
  have hmark : (fun i => rm.contains i) (0 : Int) = false := by
    simp only [List.contains_eq_mem, decide_eq_false_iff_not]
    intro h0
    have := (hr 0 h0).1
    omega
  have h0keep := root_not_removed pids hw r hT (fun i => rm.contains i) hmark
  have hmem : ∀ v ∈ res.mapping, 0 ≤ v ∧ v < pids.length := by
    intro v hv
    rw [hmap] at hv
    have := (C06.mem_rangeI _ _).1 (List.mem_filter.1 hv).1
    omega
  have hnd : res.mapping.Nodup := by
    rw [hmap]
    exact List.filter_sublist.nodup (Represent.rangeI_nodup _)
  have hm0 : res.mapping[0]? = some 0 := by
    rw [hmap]
    obtain ⟨n, hn⟩ : ∃ n, pids.length = n + 1 := ⟨pids.length - 1, by have := hw.pos; omega⟩
    rw [hn]
    have hp : (fun v => !decide (v ∈ C06.removedSet (fun i => rm.contains i) r false)) (Int.ofNat 0) = true := by
      show (!decide ((0 : Int) ∈ _)) = true
      rw [decide_eq_false h0keep]; rfl
    rw [rangeI, List.range_succ_eq_map, List.map_cons, List.filter_cons, if_pos hp]
    rfl
  exact prune_table_wf pids hw res.mapping res.newPid hlen hm0 hnd hmem hrows hb.2

/-- sorting a well-formed table rooted anywhere gives a sorted well-formed tree of the same size -/
theorem wfr_sorted (ps : List Int) (ρ : Nat) (hw : WFr ps ρ) :
    ∃ res, sortNodesImpl (rangeI ps.length) ps = .ok res ∧ C07.WF res.newPids ∧
      (∀ k (h : k < res.newPids.length), 0 < k → res.newPids[k] < (k : Int)) ∧
      res.newPids.length = ps.length := by
  obtain ⟨r, hrep, hperm, hid⟩ := wfr_represented ps ρ hw
  obtain ⟨res, hres, hwf, hs, hl⟩ := sorted_wf r _ ps (isTreeTable_of r ps ρ hrep hperm hid hw.root hw.unique)
  exact ⟨res, hres, hwf, hs, by rw [hl]; simp [rangeI]⟩

/-! ## the re-rooted table (before the final sort) is a well-formed tree rooted at the requested node -/

/-- the measure that decreases along the new parent pointers: position on the reversed path, or (off the path)
`n` plus the old depth -/
def redMu (pids path : List Int) (w : Int) : Nat :=
  if w ∈ path then path.idxOf w else pids.length + Represent.D pids w

theorem wfr_abstract (pids P path : List Int) (k : Nat) (hw : C07.WF pids) (hk : k < pids.length)
    (hhead : path.head? = some (k : Int)) (hlast : path.getLast? = some 0) (hnd : path.Nodup)
    (hval : ∀ v ∈ path, 0 ≤ v ∧ v < pids.length)
    (hlen : P.length = pids.length) (hk1 : P.getD k 0 = -1)
    (hrev : ∀ i (h : i + 1 < path.length), P.getD (path[i+1]).toNat 0 = path[i]'(Nat.lt_of_succ_lt h))
    (hoff : ∀ v, v < pids.length → (v : Int) ∉ path → P.getD v 0 = pids.getD v 0) : WFr P k := by
  obtain ⟨hplen, hp0⟩ := List.getElem?_eq_some_iff.1 (List.head?_eq_getElem?.symm.trans hhead)
  have hroot : P[k]? = some (-1) := by
    rw [List.getElem?_eq_getElem (hlen ▸ hk), ← Py.getD_eq_getElem P 0 (hlen ▸ hk), hk1]
  refine wfr_of_measure hroot (redMu pids path) fun v x hvx hvk => ?_
  obtain ⟨hv, rfl⟩ := List.getElem?_eq_some_iff.1 hvx
  unfold redMu
  by_cases hm : (v : Int) ∈ path
  · -- on the path: the new parent is the predecessor on the path
    obtain ⟨i, hi, e⟩ := List.getElem_of_mem hm
    cases i with
    | zero => rw [hp0] at e; omega
    | succ i =>
      have e2 := hrev i hi
      rw [e, Int.toNat_natCast, Py.getD_eq_getElem _ _ hv] at e2
      have hil : i < path.length := Nat.lt_of_succ_lt hi
      have hi0 := hval _ (List.getElem_mem hil)
      rw [if_pos hm, e2, if_pos (List.getElem_mem hil), ← e, hnd.idxOf_getElem, hnd.idxOf_getElem]
      exact ⟨hi0.1, hlen ▸ hi0.2, Nat.lt_succ_self i⟩
  · -- off the path: the old parent, one level up in the old tree
    have hv' : v < pids.length := hlen ▸ hv
    have e := hoff v hv' hm
    rw [Py.getD_eq_getElem _ _ hv, Py.getD_eq_getElem _ _ hv'] at e
    have h0 : v ≠ 0 := fun e0 => hm (by simpa [e0] using List.mem_of_getLast? hlast)
    have hpv := hw.2.1 v hv' (Nat.pos_of_ne_zero h0)
    have hD := hw.toWFr.D_step' v hv' h0
    have hpl : path.length ≤ pids.length :=
      C06.nodup_bound _ _ hnd (fun v hv => by have := hval v hv; omega)
    rw [if_neg hm, e]
    refine ⟨hpv.1, hlen ▸ hpv.2, ?_⟩
    split
    · rename_i hin
      have := List.idxOf_lt_length_of_mem hin
      omega
    · omega

theorem redirect_wfr (pids types : List Int) (hw : C07.WF pids) (k : Nat) (hk : k < pids.length) :
    WFr (redirect pids types (k : Int)).pids k := by
  obtain ⟨hhead, hlast, hnd, hval, hchain⟩ := C07.rootPath_spec pids hw k hk
  obtain ⟨hlen, hk1, hrev, hoff⟩ := C07.redirect_pids pids types hw k hk
  exact wfr_abstract pids _ _ k hw hk hhead hlast hnd hval hlen hk1 hrev hoff

end Pipeline
