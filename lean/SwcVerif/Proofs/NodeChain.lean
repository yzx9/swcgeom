/-! The two chains of `Tree.Node.branch` as predicates on lists of node ids, over any children function `K` and parent column `pids`.
(The namespace is that of `Refine/NodeBranch.lean`, which this file serves.) -/
namespace RefineNodeBranch

/-- a bottom-up chain as the first loop builds it: every node is followed by its parent (of which it is a child in the table), every
node but the last is not a furcation, and the last (the top) is a furcation or has no parent (the root) -/
inductive UpOK (K : Int → List Int) (pids : List Int) : List Int → Prop
  | top (c : Int) : (2 ≤ (K c).length ∨ pids.getD c.toNat (-1) = -1) → UpOK K pids [c]
  | step (c y : Int) (rest : List Int) : ¬ 2 ≤ (K c).length → pids.getD c.toNat (-1) = y → y ≠ -1 → c ∈ K y →
      UpOK K pids (y :: rest) → UpOK K pids (c :: y :: rest)

/-- the nodes the second loop appends below `c`: each is the ONLY child of its predecessor, and the last node of `c :: l` is a tip or a
furcation -/
inductive DownOK (K : Int → List Int) : Int → List Int → Prop
  | stop (c : Int) : ((K c).length = 0 ∨ 2 ≤ (K c).length) → DownOK K c []
  | step (c j : Int) (rest : List Int) : K c = [j] → DownOK K j rest → DownOK K c (j :: rest)

end RefineNodeBranch
