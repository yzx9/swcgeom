import SwcVerif.Model.Mst
import SwcVerif.Refine.PyRun
import Mathlib.Data.Finset.Card
import Mathlib.Algebra.Order.Field.Rat
/-! Lemmas for C17 (the greedy loop `Mst.step`): `getD`/`set`, a pigeonhole principle, counting; the first-minimum fold `firstMin`,
of which `Mst.argmin` is the instance at the mask `smask` and the cost `cellCost` (`argmin_eq`, `argmin_spec`); the mask update `cross`
on `Square` matrices; `stepAt`, the loop body with the chosen cell as a parameter and `satFlag` as its saturation test (`step_eq`,
`stepAt_len`). -/
namespace Mst

theorem getD_set {α} (l : List α) (i j : Nat) (v d : α) :
    (l.set i v).getD j d = if i = j ∧ j < l.length then v else l.getD j d := by
  simp only [List.getD_eq_getElem?_getD, List.getElem?_set]
  by_cases h : i = j
  · subst h; by_cases h2 : i < l.length <;> simp [h2]
  · simp [h]

theorem getD_set_of_lt {α} (l : List α) (j a : Nat) (v d : α) (hj : j < l.length) :
    (l.set j v).getD a d = if a = j then v else l.getD a d := by
  rw [getD_set]
  by_cases h : a = j
  · rw [if_pos h, if_pos ⟨h.symm, h ▸ hj⟩]
  · rw [if_neg h, if_neg fun h' => h h'.1.symm]

theorem getD_mem {α} (l : List α) (i : Nat) (d : α) (h : i < l.length) : l.getD i d ∈ l := by
  rw [Py.getD_eq_getElem l d h]; exact List.getElem_mem h

theorem getD_replicate {α} (n i : Nat) (v d : α) (h : i < n) : (List.replicate n v).getD i d = v := by
  simp [List.getD_eq_getElem?_getD, h]

theorem pigeon (f : Nat → Nat) (m n : Nat) (hlt : ∀ k, k < m → f k < n)
    (hne : ∀ a b, a < b → b < m → f a ≠ f b) : m ≤ n := by
  have := Finset.card_le_card_of_injOn (s := Finset.range m) (t := Finset.range n) f
    (fun k hk => Finset.mem_range.mpr (hlt k (Finset.mem_range.mp hk)))
    (fun a ha b hb h => by
      rcases Nat.lt_trichotomy a b with hab | hab | hab
      · exact absurd h (hne a b hab (Finset.mem_range.mp hb))
      · exact hab
      · exact absurd h.symm (hne b a hab (Finset.mem_range.mp ha)))
  rwa [Finset.card_range, Finset.card_range] at this

theorem length_filter_set {α} (p : α → Bool) (l : List α) (j : Nat) (v d : α) (hj : j < l.length)
    (hold : p (l.getD j d) = false) :
    ((l.set j v).filter p).length = (l.filter p).length + if p v then 1 else 0 := by
  rw [Py.getD_eq_getElem l d hj] at hold
  rw [← List.countP_eq_length_filter, ← List.countP_eq_length_filter, List.countP_set hj, hold, if_neg Bool.false_ne_true,
    Nat.sub_zero]

theorem exists_false_of_filter_lt (l : List Bool) (h : (l.filter id).length < l.length) :
    ∃ j, j < l.length ∧ l.getD j false = false := by
  obtain ⟨x, hx, hpx⟩ := List.length_filter_lt_length_iff_exists.mp h
  obtain ⟨j, hj, rfl⟩ := List.mem_iff_getElem.mp hx
  exact ⟨j, hj, by rw [Py.getD_eq_getElem l false hj]; exact Bool.eq_false_iff.mpr hpx⟩

theorem all_true_of_filter_eq (l : List Bool) (h : (l.filter id).length = l.length) :
    ∀ j, j < l.length → l.getD j false = true :=
  fun j hj => List.length_filter_eq_length_iff.mp h _ (getD_mem l j false hj)

theorem filter_id_range_eq_zero (n : Nat) (hn : 0 < n) :
    (((List.range n).map (· == 0)).filter id).length = 1 := by
  cases n with
  | zero => omega
  | succ m =>
    rw [List.range_succ_eq_map]
    simp [Function.comp_def]

theorem filter_eq_zero (l : List Int) (w : Int) (h : ∀ a, a < l.length → l.getD a 0 ≠ w) :
    (l.filter (· = w)).length = 0 := by
  rw [List.length_eq_zero_iff, List.filter_eq_nil_iff]
  intro x hx
  obtain ⟨a, ha, rfl⟩ := List.mem_iff_getElem.mp hx
  rw [decide_eq_true_eq, ← Py.getD_eq_getElem l 0 ha]
  exact h a ha

/-! ## the first-minimum fold -/
def pick (masked : Nat → Nat → Bool) (cost : Nat → Nat → Rat)
    (b : Option (Rat × Nat × Nat)) (ij : Nat × Nat) : Option (Rat × Nat × Nat) :=
  if masked ij.1 ij.2 then b
  else
    let c := cost ij.1 ij.2
    match b with
    | none => some (c, ij.1, ij.2)
    | some (cb, _, _) => if c < cb then some (c, ij.1, ij.2) else b

def Good (masked : Nat → Nat → Bool) (cost : Nat → Nat → Rat) (seen : List (Nat × Nat)) :
    Option (Rat × Nat × Nat) → Prop
  | none => ∀ ij ∈ seen, masked ij.1 ij.2 = true
  | some (c, i, j) => (i, j) ∈ seen ∧ masked i j = false ∧ c = cost i j ∧
      ∀ ij ∈ seen, masked ij.1 ij.2 = false → c ≤ cost ij.1 ij.2

theorem good_pick (masked cost) (seen : List (Nat × Nat)) (b) (x : Nat × Nat) (h : Good masked cost seen b) :
    Good masked cost (seen ++ [x]) (pick masked cost b x) := by
  have hx : x ∈ seen ++ [x] := List.mem_append_right _ (List.mem_singleton_self x)
  unfold pick
  cases hm : masked x.1 x.2
  · rw [if_neg Bool.false_ne_true]
    match b, h with
    | none, h =>
      exact ⟨hx, hm, rfl, List.forall_mem_append.mpr
        ⟨fun ij hij hf => absurd (h ij hij) (hf ▸ Bool.false_ne_true), List.forall_mem_singleton.mpr fun _ => le_refl _⟩⟩
    | some (c, i, j), ⟨h1, h2, h3, h4⟩ =>
      show Good masked cost _ (if cost x.1 x.2 < c then some (cost x.1 x.2, x.1, x.2) else some (c, i, j))
      by_cases hc : cost x.1 x.2 < c
      · rw [if_pos hc]
        exact ⟨hx, hm, rfl, List.forall_mem_append.mpr
          ⟨fun ij hij hf => le_trans (le_of_lt hc) (h4 ij hij hf), List.forall_mem_singleton.mpr fun _ => le_refl _⟩⟩
      · rw [if_neg hc]
        exact ⟨List.mem_append_left _ h1, h2, h3, List.forall_mem_append.mpr
          ⟨h4, List.forall_mem_singleton.mpr fun _ => not_lt.mp hc⟩⟩
  · rw [if_pos rfl]
    match b, h with
    | none, h => exact List.forall_mem_append.mpr ⟨h, List.forall_mem_singleton.mpr hm⟩
    | some (c, i, j), ⟨h1, h2, h3, h4⟩ =>
      exact ⟨List.mem_append_left _ h1, h2, h3, List.forall_mem_append.mpr
        ⟨h4, List.forall_mem_singleton.mpr fun hf => absurd hm (hf ▸ Bool.false_ne_true)⟩⟩

theorem good_foldl (masked cost) (l : List (Nat × Nat)) : ∀ (seen : List (Nat × Nat)) (b),
    Good masked cost seen b → Good masked cost (seen ++ l) (l.foldl (pick masked cost) b) := by
  induction l with
  | nil => intro seen b h; rwa [List.append_nil]
  | cons x t ih =>
    intro seen b h
    have := ih (seen ++ [x]) _ (good_pick masked cost seen b x h)
    rwa [List.append_assoc] at this

def cells (n : Nat) : List (Nat × Nat) := (List.range n).flatMap fun i => (List.range n).map fun j => (i, j)

theorem mem_cells (n i j : Nat) : (i, j) ∈ cells n ↔ i < n ∧ j < n := by
  simp [cells, List.mem_flatMap, List.mem_map, List.mem_range]

def firstMin (masked : Nat → Nat → Bool) (cost : Nat → Nat → Rat) (n : Nat) : Nat × Nat :=
  match (cells n).foldl (pick masked cost) none with
  | none => (0, 0)
  | some (_, i, j) => (i, j)

theorem firstMin_spec (masked : Nat → Nat → Bool) (cost : Nat → Nat → Rat) (n : Nat) (hn : 0 < n) :
    (firstMin masked cost n).1 < n ∧ (firstMin masked cost n).2 < n ∧
    ((∃ i j, i < n ∧ j < n ∧ masked i j = false) →
      masked (firstMin masked cost n).1 (firstMin masked cost n).2 = false ∧
      ∀ a b, a < n → b < n → masked a b = false → cost (firstMin masked cost n).1 (firstMin masked cost n).2 ≤ cost a b) := by
  have hg := good_foldl masked cost (cells n) [] none (fun _ h => absurd h List.not_mem_nil)
  rw [List.nil_append] at hg
  unfold firstMin
  match (cells n).foldl (pick masked cost) none, hg with
  | none, hg =>
    exact ⟨hn, hn, fun ⟨i, j, hi, hj, ho⟩ => absurd (hg (i, j) ((mem_cells n i j).mpr ⟨hi, hj⟩)) (ho ▸ Bool.false_ne_true)⟩
  | some (c, i, j), ⟨h1, h2, h3, h4⟩ =>
    obtain ⟨hi, hj⟩ := (mem_cells n i j).mp h1
    exact ⟨hi, hj, fun _ => ⟨h2, fun a b ha hb ho => h3 ▸ h4 (a, b) ((mem_cells n a b).mpr ⟨ha, hb⟩) ho⟩⟩

def smask (s : St) (i j : Nat) : Bool := (s.mask.getD i []).getD j true

theorem argmin_eq (dis : List (List Rat)) (bf : Rat) (s : St) (n : Nat) :
    argmin dis bf s n = firstMin (smask s) (cellCost dis bf s) n := rfl

/-- if some cell is unmasked, `argmin` returns an unmasked cell of least cost -/
theorem argmin_spec (dis : List (List Rat)) (bf : Rat) (s : St) (n : Nat)
    (hex : ∃ i j, i < n ∧ j < n ∧ smask s i j = false) :
    (argmin dis bf s n).1 < n ∧ (argmin dis bf s n).2 < n ∧
    smask s (argmin dis bf s n).1 (argmin dis bf s n).2 = false ∧
    ∀ i j, i < n → j < n → smask s i j = false →
      cellCost dis bf s (argmin dis bf s n).1 (argmin dis bf s n).2 ≤ cellCost dis bf s i j := by
  have hn : 0 < n := hex.elim fun i ⟨_, hi, _⟩ => Nat.zero_lt_of_lt hi
  obtain ⟨h1, h2, h3⟩ := firstMin_spec (smask s) (cellCost dis bf s) n hn
  rw [argmin_eq]
  exact ⟨h1, h2, h3 hex⟩

/-! ## masking a row and a column -/
def cross (m : List (List Bool)) (k : Nat) (r : List Bool) : List (List Bool) :=
  (m.set k r).map (fun row => row.set k true)

def Square (n : Nat) (m : List (List Bool)) : Prop := m.length = n ∧ ∀ r ∈ m, r.length = n

theorem cross_square {n : Nat} {m : List (List Bool)} {r : List Bool} (k : Nat)
    (hm : Square n m) (hr : r.length = n) : Square n (cross m k r) := by
  refine ⟨by simp [cross, hm.1], ?_⟩
  intro r' hr'
  simp only [cross, List.mem_map] at hr'
  obtain ⟨row, hrow, rfl⟩ := hr'
  rw [List.length_set]
  rcases List.mem_or_eq_of_mem_set hrow with h | h
  · exact hm.2 row h
  · rw [h]; exact hr

theorem cross_if_square {n : Nat} {m : List (List Bool)} (hm : Square n m) (fl : Bool) (i : Nat) :
    Square n (if fl then cross m i (List.replicate n true) else m) := by
  split
  · exact cross_square i hm List.length_replicate
  · exact hm

theorem cross_get {n : Nat} {m : List (List Bool)} {r : List Bool} {k a b : Nat}
    (hm : Square n m) (hr : r.length = n) (hk : k < n) (ha : a < n) (hb : b < n) :
    ((cross m k r).getD a []).getD b true =
      if b = k then true else if a = k then r.getD b true else (m.getD a []).getD b true := by
  have hrow : (if a = k then r else m.getD a []).length = n := by
    split
    · exact hr
    · exact hm.2 _ (getD_mem m a [] (hm.1 ▸ ha))
  unfold cross
  rw [Py.getD_map _ (m.set k r) [] [] (by rw [List.length_set, hm.1]; exact ha), getD_set_of_lt m k a r [] (hm.1 ▸ hk),
    getD_set_of_lt _ k b true true (hrow ▸ hk)]
  exact congrArg (ite (b = k) true) (apply_ite (fun row : List Bool => row.getD b true) (a = k) r (m.getD a []))

theorem cross2_open {n : Nat} {m : List (List Bool)} {c : List Bool} (hm : Square n m) (hc : c.length = n) (fl : Bool)
    {i j a b : Nat} (hi : i < n) (hj : j < n) (ha : a < n) (hb : b < n) :
    ((cross (if fl then cross m i (List.replicate n true) else m) j c).getD a []).getD b true = false ↔
      b ≠ j ∧ (if a = j then c.getD b true = false
        else ¬ (fl = true ∧ (a = i ∨ b = i)) ∧ (m.getD a []).getD b true = false) := by
  rw [cross_get (cross_if_square hm fl i) hc hj ha hb]
  by_cases hbj : b = j
  · simp [hbj]
  · rw [if_neg hbj]
    by_cases haj : a = j
    · simp [hbj, haj]
    · rw [if_neg haj, if_neg haj]
      cases fl
      · simp [hbj]
      · rw [if_pos rfl, cross_get hm List.length_replicate hi ha hb]
        by_cases hbi : b = i
        · simp [hbi, hbj]
        · rw [if_neg hbi]
          by_cases hai : a = i
          · rw [if_pos hai, getD_replicate n b true true hb]; simp [hai]
          · rw [if_neg hai]
            exact ⟨fun h => ⟨hbj, fun h' => h'.2.elim hai hbi, h⟩, fun h => h.2.2⟩

/-! ## one step, with the chosen cell as a parameter -/
def satFlag (limit : Option Nat) (excl : Bool) (f i : Nat) : Bool :=
  match limit with
  | none => false
  | some k => decide (f ≥ k) && (!excl || i != 0)

theorem satFlag_iff (limit : Option Nat) (excl : Bool) (f i : Nat) :
    satFlag limit excl f i = true ↔ ∃ k, limit = some k ∧ k ≤ f ∧ (excl = false ∨ i ≠ 0) := by
  cases limit with
  | none => simp [satFlag]
  | some k => cases excl <;> simp [satFlag]

def stepAt (dis : List (List Rat)) (limit : Option Nat) (excl : Bool) (n : Nat) (s : St) (i j : Nat) : St :=
  let furc := s.furc.set i (s.furc.getD i 0 + 1)
  let mask1 := if satFlag limit excl (furc.getD i 0) i then cross s.mask i (List.replicate n true) else s.mask
  let conn := s.conn.set j true
  ⟨s.pid.set j (i : Int), s.acc.set j (s.acc.getD i 0 + (dis.getD i []).getD j 0), furc, conn, cross mask1 j conn⟩

theorem init_len (n : Nat) : (init n).pid.length = n ∧ (init n).acc.length = n ∧ (init n).furc.length = n ∧
    (init n).conn.length = n ∧ Square n (init n).mask := by
  refine ⟨List.length_replicate, List.length_replicate, List.length_replicate, ?_, ?_, ?_⟩
  · rw [init, List.length_map, List.length_range]
  · rw [init, List.length_map, List.length_range]
  · intro r hr
    obtain ⟨i, _, rfl⟩ := List.mem_map.mp hr
    rw [List.length_map, List.length_range]

theorem stepAt_len {n : Nat} {s : St} (dis : List (List Rat)) (limit : Option Nat) (excl : Bool) (i j : Nat)
    (h : s.pid.length = n ∧ s.acc.length = n ∧ s.furc.length = n ∧ s.conn.length = n ∧ Square n s.mask) :
    (stepAt dis limit excl n s i j).pid.length = n ∧ (stepAt dis limit excl n s i j).acc.length = n ∧
    (stepAt dis limit excl n s i j).furc.length = n ∧ (stepAt dis limit excl n s i j).conn.length = n ∧
    Square n (stepAt dis limit excl n s i j).mask := by
  obtain ⟨hpid, hacc, hfurc, hconn, hmask⟩ := h
  have hc : (s.conn.set j true).length = n := List.length_set.trans hconn
  refine ⟨List.length_set.trans hpid, List.length_set.trans hacc, List.length_set.trans hfurc, hc, ?_⟩
  exact cross_square j (cross_if_square hmask _ i) hc

theorem step_eq (dis : List (List Rat)) (bf : Rat) (limit : Option Nat) (excl : Bool) (n : Nat) (s : St) :
    step dis bf limit excl n s = stepAt dis limit excl n s (argmin dis bf s n).1 (argmin dis bf s n).2 := rfl

end Mst
