import SwcVerif.Model.Assemble
/-! Lengths in the model of the assembler (`Model/Assemble.lean`). -/
namespace Asm

theorem chainRows_length (p L m : Nat) : (chainRows p L m).length = m + 1 := by simp [chainRows]

theorem chains_length : ∀ (ks : List BT) (p L : Nat), (chains ks p L).2.length = ks.length
  | [], _, _ => rfl
  | _ :: ks, p, _ => congrArg Nat.succ (chains_length ks p _)

end Asm
