import SwcVerif.Model.Num
import Mathlib.Algebra.Order.Field.Basic
/-! Python's `abs` and `min` of `Model/Num.lean`, over an ordered field, are `|·|` and `min`. -/
variable {K : Type} [Field K] [LinearOrder K] [IsStrictOrderedRing K]

theorem absK_eq (x : K) : absK x = |x| := by
  unfold absK
  split_ifs with h
  · exact (abs_of_neg h).symm
  · exact (abs_of_nonneg (not_lt.mp h)).symm

theorem minK_eq (a b : K) : minK a b = min a b := by
  unfold minK
  split_ifs with h
  · exact (min_eq_right h.le).symm
  · exact (min_eq_left (not_lt.mp h)).symm
