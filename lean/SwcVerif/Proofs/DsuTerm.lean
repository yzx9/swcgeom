import SwcVerif.Proofs.DsuForest
import Mathlib.Algebra.Order.BigOperators.Group.Finset
import Mathlib.Data.Finset.Card
/-! Pointer jumping (`get_dsu`) stops on EVERY table — cycles included.

Variant: `Φ g = Σ_x |orbit of x under g|`.  An in-place update `g[i] := g[g[i]]` never enlarges an orbit
(every new step is one or two old steps).  It strictly shrinks the orbit of `i` unless `g i` lies on a cycle
of length ≥ 2 that does not contain `i`; such a cycle is still there when the pass reaches its first node
`z`, and the update at `z` removes `g z` from the orbit of `z`.  So every pass that changes anything lowers
`Φ ≤ n²`, and the `while` loop stops within `n² + 1` passes (the model allows `n² + 2`). -/
namespace Dsu
open Classical

def Reach (g : Nat → Nat) (x y : Nat) : Prop := ∃ k, iter g k x = y

/-- every path of the updated function is a path of the old one -/
theorem iter_stepF (g : Nat → Nat) (i : Nat) : ∀ (k x : Nat), ∃ m, iter (stepF g i) k x = iter g m x
  | 0, x => ⟨0, rfl⟩
  | k+1, x => by
    obtain ⟨m, hm⟩ := iter_stepF g i k (stepF g i x)
    show ∃ m, iter (stepF g i) k (stepF g i x) = iter g m x
    rw [hm]
    by_cases e : x = i
    · exact ⟨m + 2, by rw [e, stepF_same]; rfl⟩
    · exact ⟨m + 1, by rw [stepF_other g e]; rfl⟩

theorem reach_stepF {g : Nat → Nat} {i x y : Nat} (h : Reach (stepF g i) x y) : Reach g x y := by
  obtain ⟨k, hk⟩ := h
  obtain ⟨m, hm⟩ := iter_stepF g i k x
  exact ⟨m, by rw [← hm, hk]⟩

noncomputable def orbF (n : Nat) (g : Nat → Nat) (x : Nat) : Finset Nat :=
  (Finset.range n).filter (fun y => Reach g x y)

noncomputable def Phi (n : Nat) (g : Nat → Nat) : Nat := ∑ x ∈ Finset.range n, (orbF n g x).card

theorem mem_orbF {n : Nat} {g : Nat → Nat} {x y : Nat} : y ∈ orbF n g x ↔ y < n ∧ Reach g x y := by
  simp only [orbF, Finset.mem_filter, Finset.mem_range]

theorem orbF_subset (n : Nat) (g : Nat → Nat) (i x : Nat) : orbF n (stepF g i) x ⊆ orbF n g x := by
  intro y hy
  rw [mem_orbF] at hy ⊢
  exact ⟨hy.1, reach_stepF hy.2⟩

theorem Phi_le (n : Nat) (g : Nat → Nat) (i : Nat) : Phi n (stepF g i) ≤ Phi n g :=
  Finset.sum_le_sum (fun x _ => Finset.card_le_card (orbF_subset n g i x))

theorem Phi_lt (n : Nat) (g : Nat → Nat) (i x y : Nat) (hx : x < n) (hy : y < n) (h1 : Reach g x y)
    (h2 : ¬ Reach (stepF g i) x y) : Phi n (stepF g i) < Phi n g := by
  apply Finset.sum_lt_sum (fun x _ => Finset.card_le_card (orbF_subset n g i x))
  refine ⟨x, Finset.mem_range.2 hx, ?_⟩
  apply Finset.card_lt_card
  exact ⟨orbF_subset n g i x, fun hsub => h2 (mem_orbF.1 (hsub (mem_orbF.2 ⟨hy, h1⟩))).2⟩

theorem Phi_bound (n : Nat) (g : Nat → Nat) : Phi n g ≤ n * n := by
  have := Finset.sum_le_card_nsmul (Finset.range n) (fun x => (orbF n g x).card) n
    (fun x _ => (Finset.card_filter_le _ _).trans_eq (Finset.card_range n))
  rwa [Finset.card_range] at this

/-- `p` lies on a cycle of length at least two -/
def CycAt (g : Nat → Nat) (p : Nat) : Prop := (∃ m, 1 ≤ m ∧ iter g m p = p) ∧ g p ≠ p

theorem iter_comm (g : Nat → Nat) (a b x : Nat) : iter g a (iter g b x) = iter g b (iter g a x) := by
  rw [← iter_add, ← iter_add, Nat.add_comm]

/-- `g` is injective on a cycle: `m - 1` further steps bring `g y` back to `y` -/
theorem cyc_inj {g : Nat → Nat} {p m : Nat} (hm : 1 ≤ m) (e : iter g m p = p) (a b : Nat)
    (hab : g (iter g a p) = g (iter g b p)) : iter g a p = iter g b p := by
  obtain ⟨m, rfl⟩ : ∃ m', m = m' + 1 := ⟨m - 1, by omega⟩
  have back : ∀ j, iter g m (g (iter g j p)) = iter g j p := fun j => by
    show iter g (m + 1) (iter g j p) = iter g j p
    rw [iter_comm, e]
  rw [← back a, ← back b, hab]

theorem CycAt.iter {g : Nat → Nat} {p : Nat} (h : CycAt g p) : ∀ j, CycAt g (Dsu.iter g j p)
  | 0 => h
  | j+1 => by
    obtain ⟨⟨m, hm, e⟩, hne⟩ := CycAt.iter h j
    rw [iter_succ']
    exact ⟨⟨m, hm, by rw [show g (Dsu.iter g j p) = Dsu.iter g 1 (Dsu.iter g j p) from rfl, iter_comm, e]⟩,
      fun hfix => hne (cyc_inj hm e 1 0 hfix)⟩

/-- a node that would not be updated is not on a cycle of length at least two -/
theorem CycAt.updates {g : Nat → Nat} {i : Nat} (h : CycAt g i) : g (g i) ≠ g i :=
  (h.iter 1).2

/-- **updating a node of a cycle (length ≥ 2) removes its successor from its orbit** -/
theorem cycle_strict {g : Nat → Nat} {i : Nat} (h : CycAt g i) : ¬ Reach (stepF g i) i (g i) := by
  obtain ⟨⟨m, hm, e⟩, hne⟩ := h
  -- `g` is injective on the cycle, so the orbit of `i` under the updated function stays on the cycle and off `g i`
  have key : ∀ k, (∃ j, iter (stepF g i) k i = iter g j i) ∧ iter (stepF g i) k i ≠ g i := by
    intro k
    induction k with
    | zero => exact ⟨⟨0, rfl⟩, fun e' => hne e'.symm⟩
    | succ k ih =>
      obtain ⟨⟨j, ej⟩, _⟩ := ih
      rw [iter_succ', ej]
      by_cases hi : iter g j i = i
      · rw [hi, stepF_same]
        exact ⟨⟨2, rfl⟩, fun e' => hne (cyc_inj hm e 1 0 e')⟩
      · rw [stepF_other g hi]
        exact ⟨⟨j + 1, (iter_succ' g j i).symm⟩, fun e' => hi (cyc_inj hm e j 0 e')⟩
  rintro ⟨k, hk⟩
  exact (key k).2 hk

/-- an update that does NOT shrink the orbit of `i` reveals a cycle of length ≥ 2 through `g i` -/
theorem cyc_of_not_strict {g : Nat → Nat} {i : Nat} (hupd : g i ≠ g (g i)) (h : Reach (stepF g i) i (g i)) :
    CycAt g (g i) := by
  have hpi : g i ≠ i := by
    intro e; apply hupd; rw [e, e]
  obtain ⟨k, hk⟩ := h
  cases k with
  | zero => exact absurd hk.symm hpi
  | succ k =>
    have hk' : iter (stepF g i) k (g (g i)) = g i := by rw [← stepF_same g i]; exact hk
    obtain ⟨m, hm⟩ := reach_stepF ⟨k, hk'⟩
    exact ⟨⟨m + 1, by omega, hm⟩, fun e' => hupd e'.symm⟩

/-! ## a whole pass, at the level of functions -/

theorem foldF_le (n : Nat) : ∀ (is : List Nat) (g : Nat → Nat), Phi n (is.foldl stepF g) ≤ Phi n g
  | [], g => Nat.le_refl _
  | i :: t, g => Nat.le_trans (foldF_le n t (stepF g i)) (Phi_le n g i)

/-- a cycle (length ≥ 2) all of whose nodes are still to be processed makes the pass strict -/
theorem foldF_cycle_strict (n : Nat) : ∀ (is : List Nat) (g : Nat → Nat) (p : Nat), (∀ i ∈ is, i < n) → Closed n g →
    CycAt g p → (∀ j, iter g j p ∈ is) → Phi n (is.foldl stepF g) < Phi n g := by
  intro is
  induction is with
  | nil => intro g p _ _ _ hall; exact absurd (hall 0) (by simp)
  | cons i t ih =>
    intro g p his hcl hcyc hall
    have hi := his i List.mem_cons_self
    rw [List.foldl_cons]
    by_cases hon : ∃ j, iter g j p = i
    · obtain ⟨j, hj⟩ := hon
      have hci : CycAt g i := hj ▸ hcyc.iter j
      have hstrict := Phi_lt n g i i (g i) hi (hcl i hi) ⟨1, rfl⟩ (cycle_strict hci)
      exact Nat.lt_of_le_of_lt (foldF_le n t _) hstrict
    · have hoff : ∀ j, iter g j p ≠ i := fun j e => hon ⟨j, e⟩
      have hsame : ∀ j, iter (stepF g i) j p = iter g j p := by
        intro j
        induction j with
        | zero => rfl
        | succ j ihj =>
          rw [iter_succ', ihj, iter_succ', stepF_other g (hoff j)]
      have hcyc' : CycAt (stepF g i) p := by
        obtain ⟨⟨m, hm, e⟩, hne⟩ := hcyc
        exact ⟨⟨m, hm, by rw [hsame, e]⟩, by rw [stepF_other g (j := p) (hoff 0)]; exact hne⟩
      have := ih (stepF g i) p (fun j hj => his j (List.mem_cons_of_mem _ hj)) (stepF_closed hcl i hi) hcyc'
        (fun j => by
          rw [hsame]
          rcases List.mem_cons.1 (hall j) with e | e
          · exact absurd e (hoff j)
          · exact e)
      exact Nat.lt_of_lt_of_le this (Phi_le n g i)

/-- **a pass that changes anything lowers `Φ`** -/
theorem foldF_strict {n : Nat} : ∀ (is : List Nat) (g : Nat → Nat), (∀ i ∈ is, i < n) → Closed n g →
    (∀ x, x < n → CycAt g x → x ∈ is) → ¬ (∀ i ∈ is, g (g i) = g i) → Phi n (is.foldl stepF g) < Phi n g := by
  intro is
  induction is with
  | nil => intro g _ _ _ hn; exact absurd (fun _ hi => nomatch hi) hn
  | cons i t ih =>
    intro g his hcl hH hn
    have hi := his i List.mem_cons_self
    by_cases hfix : g (g i) = g i
    · rw [List.foldl_cons, stepF_id hfix]
      refine ih g (fun j hj => his j (List.mem_cons_of_mem _ hj)) hcl (fun x hx hc => ?_)
        (fun hall => hn (List.forall_mem_cons.2 ⟨hfix, hall⟩))
      rcases List.mem_cons.1 (hH x hx hc) with e | e
      · subst e; exact absurd hfix hc.updates
      · exact e
    · by_cases hs : Reach (stepF g i) i (g i)
      · -- not strict at `i`: a cycle through `g i`, all of it still to come
        have hcyc := cyc_of_not_strict (fun e => hfix e.symm) hs
        exact foldF_cycle_strict n (i :: t) g (g i) his hcl hcyc (fun j =>
          hH _ (iter_closed hcl j (g i) (hcl i hi)) (hcyc.iter j))
      · rw [List.foldl_cons]
        exact Nat.lt_of_le_of_lt (foldF_le n t _) (Phi_lt n g i i (g i) hi (hcl i hi) ⟨1, rfl⟩ hs)

/-- **the `while` loop of `get_dsu` stops on every closed pointer array**, within `Φ + 1` passes -/
theorem jumpLoop_terminates {n : Nat} : ∀ (fuel : Nat) (l : List Nat) (g : Nat → Nat), Tab l n g → Closed n g →
    Phi n g < fuel → ∃ res, jumpLoop fuel l = some res :=
  jumpLoop_stops (Closed n) (fun _ h => h) (fun _ i h hi => stepF_closed h i hi) (Phi n)
    (fun g hcl hn => foldF_strict _ g (fun i hi => List.mem_range.1 hi) hcl (fun x hx _ => List.mem_range.2 hx)
      (fun hall => hn (fun i hi => hall i (List.mem_range.2 hi))))

end Dsu
