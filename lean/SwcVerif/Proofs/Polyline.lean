import SwcVerif.Model.Resample
import Mathlib.Analysis.InnerProductSpace.PiL2
/-! Resampling never makes a polyline longer.

`goV` is `np.interp`'s segment search (`Resample.interp1.go`) acting on *points* of a real normed space
instead of on one coordinate column.  For sorted abscissae `xp` (whatever they are — the code uses the
cumulated segment lengths it computed in floating point) the sampled points run along the original
polyline in order, so by the triangle inequality the polyline through them is no longer than the original
one (`plen_samples_le`): `arc x` is the length of the original polyline up to the sample at `x`, and two samples
are no farther apart than the difference of their `arc`s.  Two facts relate `goV` to the scalar model: a linear
map commutes with it (`goV_map`) and so does the cast ℚ → ℝ (`go_cast`).  Nothing uses these two: `Props/C16Length.lean` proves the
bridge it needs directly on the three coordinate columns, from the same identity on one segment (`seg_cast`). -/
set_option linter.unusedSectionVars false
set_option linter.unusedVariables false
namespace Polyline
open Resample

variable {E : Type*} [SeminormedAddCommGroup E] [NormedSpace ℝ E]

/-- `Resample.interp1.go` on points -/
noncomputable def goV (x : ℝ) : ℝ → E → List ℝ → List E → E
  | xa, fa, xb :: xr, fb :: fr =>
    if x < xb then fa + ((x - xa) / (xb - xa)) • (fb - fa) else goV x xb fb xr fr
  | _, fa, _, _ => fa

/-- `np.interp` for one abscissa, on points -/
noncomputable def interpV (xp : List ℝ) (fp : List E) (x : ℝ) : E :=
  match xp, fp with
  | x0 :: xr, f0 :: fr => if x < x0 then f0 else goV x x0 f0 xr fr
  | _, _ => 0

/-- true arc length of the original polyline from its first point to the sample at `x` -/
noncomputable def arc (x : ℝ) : ℝ → E → List ℝ → List E → ℝ
  | xa, fa, xb :: xr, fb :: fr =>
    if x < xb then ((x - xa) / (xb - xa)) * ‖fb - fa‖ else ‖fb - fa‖ + arc x xb fb xr fr
  | _, _, _, _ => 0

/-- length of the polyline through the points -/
noncomputable def plen : List E → ℝ
  | a :: b :: t => ‖b - a‖ + plen (b :: t)
  | _ => 0

/-- nondecreasing -/
def MonoR : List ℝ → Prop
  | a :: b :: t => a ≤ b ∧ MonoR (b :: t)
  | _ => True

theorem plen_nonneg : ∀ l : List E, 0 ≤ plen l
  | [] => le_rfl
  | [_] => le_rfl
  | a :: b :: t => add_nonneg (norm_nonneg _) (plen_nonneg (b :: t))

private theorem seg_dist (fa v : E) {t t' : ℝ} (h : t ≤ t') : ‖fa + t' • v - (fa + t • v)‖ = (t' - t) * ‖v‖ := by
  rw [add_sub_add_left_eq_sub, ← sub_smul, norm_smul_of_nonneg (sub_nonneg.mpr h)]

private theorem frac_le_one {x xa xb : ℝ} (hab : xa ≤ xb) (h : x < xb) : (x - xa) / (xb - xa) ≤ 1 :=
  div_le_one_of_le₀ (sub_le_sub_right h.le xa) (sub_nonneg.mpr hab)

/-- the sample is no farther from the first point than its arc length, which lies between 0 and the total -/
theorem start_le_arc (x : ℝ) (xr : List ℝ) (fr : List E) (xa : ℝ) (fa : E) (hm : MonoR (xa :: xr)) (hx : xa ≤ x) :
    ‖goV x xa fa xr fr - fa‖ ≤ arc x xa fa xr fr ∧ 0 ≤ arc x xa fa xr fr ∧ arc x xa fa xr fr ≤ plen (fa :: fr) := by
  fun_induction goV x xa fa xr fr with
  | case1 xa fa xb xr fb fr h =>
    have h0 : 0 ≤ (x - xa) / (xb - xa) := div_nonneg (sub_nonneg.mpr hx) (sub_nonneg.mpr hm.1)
    rw [arc, if_pos h, add_sub_cancel_left, norm_smul, Real.norm_of_nonneg h0, plen]
    exact ⟨le_rfl, mul_nonneg h0 (norm_nonneg _),
      (mul_le_of_le_one_left (norm_nonneg _) (frac_le_one hm.1 h)).trans (le_add_of_nonneg_right (plen_nonneg _))⟩
  | case2 xa fa xb xr fb fr h ih =>
    obtain ⟨i1, i2, i3⟩ := ih hm.2 (not_lt.mp h)
    rw [arc, if_neg h, plen]
    exact ⟨(norm_sub_le_norm_sub_add_norm_sub _ fb _).trans (by rw [add_comm]; exact add_le_add_right i1 _),
      add_nonneg (norm_nonneg _) i2, add_le_add_right i3 _⟩
  | case3 xa fa xr fr hne =>
    rw [arc.eq_2 _ _ _ _ _ hne, sub_self, norm_zero]
    exact ⟨le_rfl, le_rfl, plen_nonneg _⟩

/-- **1-Lipschitz in arc length**: two samples are no farther apart than the arc between them -/
theorem dist_le_arc (x x' : ℝ) (hxx : x ≤ x') (xr : List ℝ) (fr : List E) (xa : ℝ) (fa : E) (hm : MonoR (xa :: xr)) :
    ‖goV x' xa fa xr fr - goV x xa fa xr fr‖ ≤ arc x' xa fa xr fr - arc x xa fa xr fr := by
  fun_induction goV x xa fa xr fr with
  | case1 xa fa xb xr fb fr h =>
    rw [goV, arc, arc, if_pos h]
    by_cases h' : x' < xb
    · -- both on the segment `fa — fb`
      rw [if_pos h', if_pos h', seg_dist fa _ (div_le_div_of_nonneg_right (sub_le_sub_right hxx xa) (sub_nonneg.mpr hm.1)), sub_mul]
    · -- `x` on the first segment, `x'` later: go through `fb = fa + 1 • (fb - fa)`
      obtain ⟨i1, _, _⟩ := start_le_arc x' xr fr xb fb hm.2 (not_lt.mp h')
      have e := seg_dist fa (fb - fa) (frac_le_one hm.1 h)
      rw [one_smul, add_sub_cancel] at e
      rw [if_neg h', if_neg h']
      exact (norm_sub_le_norm_sub_add_norm_sub _ fb _).trans (by rw [e]; linarith)
  | case2 xa fa xb xr fb fr h ih =>
    have h' : ¬ x' < xb := fun h' => h (lt_of_le_of_lt hxx h')
    rw [goV, arc, arc, if_neg h, if_neg h', if_neg h', add_sub_add_left_eq_sub]
    exact ih hm.2
  | case3 xa fa xr fr hne =>
    rw [goV.eq_2 _ _ _ _ _ hne, arc.eq_2 _ _ _ _ _ hne, arc.eq_2 _ _ _ _ _ hne, sub_self, norm_zero, sub_self]

/-- samples taken at nondecreasing abscissae: the polyline through them is no longer than the arc between
the first and the last of them -/
theorem plen_samples (xr : List ℝ) (fr : List E) (xa : ℝ) (fa : E) (hm : MonoR (xa :: xr)) :
    ∀ (s : List ℝ) (a : ℝ), MonoR (a :: s) →
      plen ((a :: s).map fun x => goV x xa fa xr fr) ≤
        arc ((a :: s).getLast (List.cons_ne_nil _ _)) xa fa xr fr - arc a xa fa xr fr
  | [], a, _ => by simp [plen]
  | b :: s, a, hs => by
    have ih := plen_samples xr fr xa fa hm s b hs.2
    have d := dist_le_arc a b hs.1 xr fr xa fa hm
    simp only [List.map_cons, plen] at ih ⊢
    rw [List.getLast_cons (List.cons_ne_nil _ _)]
    linarith

theorem plen_map_const (c : E) : ∀ l : List ℝ, plen (l.map fun _ => c) = 0
  | [] => rfl
  | [_] => rfl
  | _ :: y :: l => by
    have := plen_map_const c (y :: l)
    simp only [List.map_cons, plen, sub_self, norm_zero, zero_add] at this ⊢
    exact this

theorem MonoR.head_le : ∀ (l : List ℝ) (b : ℝ), MonoR (b :: l) → ∀ x ∈ b :: l, b ≤ x
  | [], b, _, x, hx => by rw [List.mem_singleton.mp hx]
  | c :: l, b, hb, x, hx => by
    rcases List.mem_cons.mp hx with rfl | hx
    · exact le_rfl
    · exact hb.1.trans (MonoR.head_le l c hb.2 x hx)

/-- **resampling never makes a polyline longer** -/
theorem plen_samples_le (xp : List ℝ) (fp : List E) (hm : MonoR xp) (s : List ℝ) (hs : MonoR s)
    (h0 : ∀ x0 ∈ xp.head?, ∀ a ∈ s.head?, x0 ≤ a) :
    plen (s.map (interpV xp fp)) ≤ plen fp := by
  match xp, fp, s with
  | _, fp, [] => exact plen_nonneg fp
  | [], _, _ :: _ | _ :: _, [], _ :: _ => exact (plen_map_const 0 _).trans_le (plen_nonneg _)
  | x0 :: xr, f0 :: fr, a :: s =>
    have ha : x0 ≤ a := h0 x0 rfl a rfl
    -- all samples are at or after `x0`, so the clamp at the left end is never taken
    have hall : ∀ x ∈ a :: s, x0 ≤ x := fun x hx => ha.trans (MonoR.head_le s a hs x hx)
    have e : (a :: s).map (interpV (x0 :: xr) (f0 :: fr)) = (a :: s).map fun x => goV x x0 f0 xr fr :=
      List.map_congr_left fun x hx => if_neg (not_lt.mpr (hall x hx))
    rw [e]
    have h1 := plen_samples xr fr x0 f0 hm s a hs
    obtain ⟨_, i2, _⟩ := start_le_arc a xr fr x0 f0 hm ha
    obtain ⟨_, _, i3⟩ := start_le_arc _ xr fr x0 f0 hm (hall _ (List.getLast_mem (List.cons_ne_nil a s)))
    linarith


theorem goV_map {F : Type*} [SeminormedAddCommGroup F] [NormedSpace ℝ F] (φ : E →ₗ[ℝ] F) (x : ℝ) :
    ∀ (xr : List ℝ) (fr : List E) (xa : ℝ) (fa : E),
      φ (goV x xa fa xr fr) = goV x xa (φ fa) xr (fr.map φ)
  | [], fr, xa, fa => by cases fr <;> simp [goV]
  | xb :: xr, [], xa, fa => by simp [goV]
  | xb :: xr, fb :: fr, xa, fa => by
    simp only [goV, List.map_cons]
    split
    · rw [φ.map_add, φ.map_smul, φ.map_sub]
    · exact goV_map φ x xr fr xb fb

theorem seg_cast (x xa xb fa fb : ℚ) :
    ((fa + (x - xa) * ((fb - fa) / (xb - xa)) : ℚ) : ℝ) = fa + (((x : ℝ) - xa) / (xb - xa)) • ((fb : ℝ) - fa) := by
  rw [smul_eq_mul]
  push_cast
  ring

/-- the cast ℚ → ℝ commutes with the scalar model of `np.interp` -/
theorem go_cast (x : ℚ) : ∀ (xr fr : List ℚ) (xa fa : ℚ),
    ((interp1.go x xa fa xr fr : ℚ) : ℝ) =
      goV (x : ℝ) (xa : ℝ) (fa : ℝ) (xr.map (fun q : ℚ => (q : ℝ))) (fr.map (fun q : ℚ => (q : ℝ)))
  | [], _, _, _ | _ :: _, [], _, _ => rfl
  | xb :: xr, fb :: fr, xa, fa => by
    rw [interp1.go, List.map_cons, List.map_cons, goV, apply_ite (Rat.cast (K := ℝ))]
    exact ite_congr (propext Rat.cast_lt.symm) (fun _ => seg_cast x xa xb fa fb) fun _ => go_cast x xr fr xb fb

end Polyline
