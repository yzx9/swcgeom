import SwcVerif.Gen.AlgoAffine
import SwcVerif.Proofs.AffineMat
import SwcVerif.Refine.PyRun
import Mathlib.Tactic.Ring
import Mathlib.Tactic.FieldSimp
import Mathlib.Algebra.Order.Field.Basic
/-! # Refinement: the GENERATED affine transform classes (`Gen/AlgoAffine.lean`) against the arithmetic of `Gen/Matrices.lean`

`Gen/AlgoAffine.lean` is the translation of the control flow of `swcgeom/transforms/geometry.py` (constructors, `__call__`, `apply`,
`TranslateOrigin.transform`), of the matrix builders of `swcgeom/utils/transforms.py`, of `SWCLike.xyz / xyzw` and of
`Transforms.__call__`.  Here: over any linearly ordered field `K` (true division of the float type = field division) the generated
functions move row `i` of a tree to `applyPoint M (xᵢ, yᵢ, zᵢ)` with `M = aboutRoot tm root` for `center ∈ {root, soma}` (root = the FIRST
row whose parent is −1) and `M = tm` otherwise, and return ids / parents / types / radii as they are.  Trees of every size ≥ 1. -/
namespace RefineAffine
open Gen.Algo Gen.Mat Gen.Affine

variable {K : Type} [Field K] [LinearOrder K] [Inhabited K]

/-- a point of a tree -/
abbrev Pt (K : Type) := K × K × K

/-- the three coordinate columns of a list of points -/
def colX (pts : List (Pt K)) : List K := pts.map (·.1)
def colY (pts : List (Pt K)) : List K := pts.map (·.2.1)
def colZ (pts : List (Pt K)) : List K := pts.map (·.2.2)

/-- a 4×4 matrix as a list of rows -/
def Is44 (m : List (List K)) : Prop := m.length = 4 ∧ ∀ r ∈ m, r.length = 4

theorem is44_explicit {m : List (List K)} (h : Is44 m) :
    ∃ a0 a1 a2 a3 b0 b1 b2 b3 c0 c1 c2 c3 d0 d1 d2 d3 : K,
      m = [[a0, a1, a2, a3], [b0, b1, b2, b3], [c0, c1, c2, c3], [d0, d1, d2, d3]] := by
  obtain ⟨r0, r1, r2, r3, rfl⟩ := List.length_eq_four.1 h.1
  obtain ⟨a0, a1, a2, a3, rfl⟩ := List.length_eq_four.1 (h.2 r0 (by simp))
  obtain ⟨b0, b1, b2, b3, rfl⟩ := List.length_eq_four.1 (h.2 r1 (by simp))
  obtain ⟨c0, c1, c2, c3, rfl⟩ := List.length_eq_four.1 (h.2 r2 (by simp))
  obtain ⟨d0, d1, d2, d3, rfl⟩ := List.length_eq_four.1 (h.2 r3 (by simp))
  exact ⟨_, _, _, _, _, _, _, _, _, _, _, _, _, _, _, _, rfl⟩

theorem is44_lit (a0 a1 a2 a3 b0 b1 b2 b3 c0 c1 c2 c3 d0 d1 d2 d3 : K) :
    Is44 [[a0, a1, a2, a3], [b0, b1, b2, b3], [c0, c1, c2, c3], [d0, d1, d2, d3]] :=
  ⟨rfl, by simp only [List.forall_mem_cons, List.length_cons, List.length_nil, List.not_mem_nil, false_imp_iff, implies_true, and_self]⟩

theorem is44_mmul (a b : List (List K)) (ha : Is44 a) : Is44 (mmul a b) :=
  ⟨(List.length_map _).trans ha.1, fun r hr => by obtain ⟨_, _, rfl⟩ := List.mem_map.1 hr; rfl⟩

/-! ### affine matrices (last row `0 0 0 1`): `w = 1` at every point, so `apply` never divides by zero -/

def IsAffine (m : List (List K)) : Prop := Is44 m ∧ m.getD 3 [] = [0, 0, 0, 1]

theorem isAffine_aff (a0 a1 a2 a3 b0 b1 b2 b3 c0 c1 c2 c3 : K) : IsAffine (aff a0 a1 a2 a3 b0 b1 b2 b3 c0 c1 c2 c3) :=
  ⟨is44_lit .., rfl⟩

theorem IsAffine.eq_aff {m : List (List K)} (h : IsAffine m) :
    ∃ a0 a1 a2 a3 b0 b1 b2 b3 c0 c1 c2 c3 : K, m = aff a0 a1 a2 a3 b0 b1 b2 b3 c0 c1 c2 c3 := by
  obtain ⟨a0, a1, a2, a3, b0, b1, b2, b3, c0, c1, c2, c3, d0, d1, d2, d3, rfl⟩ := is44_explicit h.1
  obtain ⟨rfl, rfl, rfl, rfl⟩ : d0 = 0 ∧ d1 = 0 ∧ d2 = 0 ∧ d3 = 1 := by simpa using h.2
  exact ⟨_, _, _, _, _, _, _, _, _, _, _, _, rfl⟩

theorem aboutRoot_affine {m : List (List K)} (h : IsAffine m) (x y z : K) : IsAffine (aboutRoot m x y z) := by
  obtain ⟨a0, a1, a2, a3, b0, b1, b2, b3, c0, c1, c2, c3, rfl⟩ := h.eq_aff
  rw [aboutRoot_aff]
  exact isAffine_aff ..

theorem affine_translate3d (tx ty tz : K) : IsAffine (translate3d tx ty tz) := isAffine_aff ..
theorem affine_scale3d (sx sy sz : K) : IsAffine (scale3d sx sy sz) := isAffine_aff ..
theorem affine_rotate3d_x (c s : K) : IsAffine (rotate3d_x c s) := isAffine_aff ..
theorem affine_rotate3d_y (c s : K) : IsAffine (rotate3d_y c s) := isAffine_aff ..
theorem affine_rotate3d_z (c s : K) : IsAffine (rotate3d_z c s) := isAffine_aff ..
theorem affine_rotate3d (nx ny nz c s : K) : IsAffine (rotate3d nx ny nz c s) := rotate3d_eq_aff nx ny nz c s ▸ isAffine_aff ..

/-! ### the matrix builders, translated a second time, are the builders of `Gen/Matrices.lean` -/

theorem fneg_eq (x : K) : Py.fneg x = -x := by simp [Py.fneg]

theorem translate3d_refines (tx ty tz : K) : af_translate3d tx ty tz = some (translate3d tx ty tz) := rfl
theorem scale3d_refines (sx sy sz : K) : af_scale3d sx sy sz = some (scale3d sx sy sz) := rfl
theorem rotate3d_x_refines (c s : K) : af_rotate3d_x c s = some (rotate3d_x c s) := by
  simp [af_rotate3d_x, af_rotate3d_x.body, Py.finish, rotate3d_x, fneg_eq]
theorem rotate3d_y_refines (c s : K) : af_rotate3d_y c s = some (rotate3d_y c s) := by
  simp [af_rotate3d_y, af_rotate3d_y.body, Py.finish, rotate3d_y, fneg_eq]
theorem rotate3d_z_refines (c s : K) : af_rotate3d_z c s = some (rotate3d_z c s) := by
  simp [af_rotate3d_z, af_rotate3d_z.body, Py.finish, rotate3d_z, fneg_eq]

/-! ### numpy `dot` on 4×4 matrices is `mmul` -/

theorem dot2_eq_mmul (a b : List (List K)) (ha : Is44 a) (hb : Is44 b) : Py.dot2 a b = some (mmul a b) := by
  obtain ⟨a0, a1, a2, a3, b0, b1, b2, b3, c0, c1, c2, c3, d0, d1, d2, d3, rfl⟩ := is44_explicit ha
  obtain ⟨e0, e1, e2, e3, f0, f1, f2, f3, g0, g1, g2, g3, h0, h1, h2, h3, rfl⟩ := is44_explicit hb
  rfl

/-! ### `np.stack(…, axis=1)` / `.T` on the columns of a tree -/

theorem transpose2_table {α β γ : Type} (xs : List α) (hne : xs ≠ []) (ys : List γ) (F : α → γ → β) :
    Py.transpose2 (xs.map fun a => ys.map (F a)) = some (ys.map fun c => xs.map fun a => F a c) := by
  obtain ⟨x, xs, rfl⟩ := List.exists_cons_of_ne_nil hne
  have hall : ((xs.map fun a => ys.map (F a)).all fun r => decide (r.length = (ys.map (F x)).length)) = true := by simp
  rw [List.map_cons, Py.transpose2, if_pos hall]
  congr 1
  refine List.ext_getElem (by simp) fun i h1 h2 => ?_
  have hi : i < ys.length := by simpa using h2
  simp [hi, List.filterMap_map]

theorem xyz_refines (pts : List (Pt K)) :
    swc_xyz (colX pts) (colY pts) (colZ pts) = some (pts.map fun p => [p.1, p.2.1, p.2.2]) := by
  have t := transpose2_table [(·.1), (·.2.1), (·.2.2)] (List.cons_ne_nil _ _) pts fun c (p : Pt K) => c p
  simp only [List.map_cons, List.map_nil] at t
  simp only [swc_xyz, swc_xyz.body, Py.stack1, List.isEmpty_cons, Bool.false_eq_true, if_false, colX, colY, colZ, t]
  rfl

theorem xyzw_refines (pts : List (Pt K)) :
    swc_xyzw (colX pts) (colY pts) (colZ pts) = some (pts.map fun p => [p.1, p.2.1, p.2.2, 1]) := by
  have t := transpose2_table [(·.1), (·.2.1), (·.2.2), fun _ => (1 : K)] (List.cons_ne_nil _ _) pts fun c (p : Pt K) => c p
  simp only [List.map_cons, List.map_nil] at t
  simp only [swc_xyzw, swc_xyzw.body, Py.seq, Py.stack1, List.isEmpty_cons, Bool.false_eq_true, if_false, Py.onesLike, colX, colY, colZ,
    List.map_map, Function.comp_def, t]
  rfl

/-! ### `AffineTransform.apply` -/

/-- the homogeneous coordinate `w` of the image of a point -/
def wOf (tm : List (List K)) (p : Pt K) : K := dotK (tm.getD 3 []) [p.1, p.2.1, p.2.2, 1]

/-- the stated map on every point: `Gen.Affine.applyPoint` (the arithmetic of `apply` on one node, `Gen/Matrices.lean`) -/
def mapPts (tm : List (List K)) (pts : List (Pt K)) : List (Pt K) := pts.map fun p => applyPoint tm p.1 p.2.1 p.2.2

theorem wOf_affine {m : List (List K)} (h : IsAffine m) (p : Pt K) : wOf m p = 1 := by
  rw [wOf, h.2]
  simp [dotK]

theorem dotRow_eq_dotK (u v : List K) : Py.dotRow u v = dotK v u := by
  rw [Py.dotRow, dotK, List.zipWith_comm]
  simp only [mul_comm]

theorem transpose2_44 (tm : List (List K)) (h44 : Is44 tm) : ∃ tmT, Py.transpose2 tm = some tmT ∧ Is44 tmT ∧ Py.transpose2 tmT = some tm := by
  obtain ⟨a0, a1, a2, a3, b0, b1, b2, b3, c0, c1, c2, c3, d0, d1, d2, d3, rfl⟩ := is44_explicit h44
  exact ⟨[[a0, b0, c0, d0], [a1, b1, c1, d1], [a2, b2, c2, d2], [a3, b3, c3, d3]], rfl, is44_lit .., rfl⟩

theorem dot2_rows (X : List (List K)) (hX : ∀ r ∈ X, r.length = 4) (tm tmT : List (List K)) (hT : Is44 tmT)
    (hTT : Py.transpose2 tmT = some tm) :
    Py.dot2 X tmT = some (X.map fun r => tm.map fun c => Py.dotRow r c) := by
  have : (X.all fun r => decide (r.length = tmT.length)) = true := by
    simp only [List.all_eq_true, decide_eq_true_eq, hT.1]
    exact hX
  simp [Py.dot2, hTT, this]

theorem mapOpt_fdiv {α : Type} (F : Py.Fld K) (hF : ∀ a b : K, F.div a b = a / b) (pts : List α) (f g : α → K)
    (hg : ∀ p ∈ pts, g p ≠ 0) :
    Py.mapOpt (fun p => Py.fdiv p.1 p.2) (List.zip (pts.map f) (pts.map g)) = some (pts.map fun p => f p / g p) := by
  induction pts with
  | nil => rfl
  | cons p ps ih =>
    simp only [List.map_cons, List.zip_cons_cons, Py.mapOpt, ih fun q hq => hg q (List.mem_cons_of_mem _ hq)]
    simp only [Py.fdiv, lt_or_gt_of_ne (hg p List.mem_cons_self), if_true, hF]

theorem idx_four {α : Type} (a b c d : α) :
    Py.idx [a, b, c, d] 0 = some a ∧ Py.idx [a, b, c, d] 1 = some b ∧ Py.idx [a, b, c, d] 2 = some c ∧ Py.idx [a, b, c, d] 3 = some d :=
  ⟨rfl, rfl, rfl, rfl⟩

/-- **`AffineTransform.apply`** (generated): on a tree with at least one node whose points all have `w ≠ 0` under the 4×4 matrix `tm`,
row `i` moves to `applyPoint tm (xᵢ, yᵢ, zᵢ)`; ids, parents, types, radii are returned as they are (so is the number of rows). -/
theorem apply_refines (F : Py.Fld K) (hF : ∀ a b : K, F.div a b = a / b) (ids pids types : List Int) (rs : List K)
    (pts : List (Pt K)) (hne : pts ≠ []) (tm : List (List K)) (h44 : Is44 tm) (hw : ∀ p ∈ pts, wOf tm p ≠ 0) :
    affine_apply F ids pids types (colX pts) (colY pts) (colZ pts) rs tm
      = some (ids, pids, types, colX (mapPts tm pts), colY (mapPts tm pts), colZ (mapPts tm pts), rs) := by
  obtain ⟨tmT, hT, hT44, hTT⟩ := transpose2_44 tm h44
  have hd := dot2_rows (pts.map fun p => [p.1, p.2.1, p.2.2, (1 : K)]) (List.forall_mem_map.2 fun _ _ => rfl) tm tmT hT44 hTT
  obtain ⟨r0, r1, r2, r3, rfl⟩ := List.length_eq_four.1 h44.1
  have hw' : ∀ p ∈ pts, Py.dotRow [p.1, p.2.1, p.2.2, (1 : K)] r3 ≠ 0 := fun p hp => by
    simpa [wOf, dotRow_eq_dotK] using hw p hp
  have hdiv := fun f => mapOpt_fdiv F hF pts f (fun p => Py.dotRow [p.1, p.2.1, p.2.2, (1 : K)] r3) hw'
  simp -implicitDefEqProofs only [affine_apply, affine_apply.body, Py.seq_eq_bindS, Py.bindS_next, Py.bind_some, xyzw_refines, hT, hd, List.map_map, Function.comp_def,
    transpose2_table _ hne]
  simp -implicitDefEqProofs only [List.map_cons, List.map_nil, (idx_four _ _ _ _).2.2.2, Py.idivRows, Py.mapOpt, List.length_map, if_true,
    hdiv, Py.seq_eq_bindS, Py.bind_some, Py.bindS_next, (idx_four _ _ _ _).1, (idx_four _ _ _ _).2.1, (idx_four _ _ _ _).2.2.1, Py.finish_ret,
    Option.map_some]
  simp [colX, colY, colZ, mapPts, applyPoint, mapply, dotRow_eq_dotK]

/-! ### `AffineTransform.__call__` -/

/-- `np.nonzero(pid == -1)[0][0]`: the position of the FIRST row whose parent is −1 -/
theorem root_index (pids : List Int) (h : (-1) ∈ pids) :
    Py.idx (Py.nonzero (Py.eqMask pids (-1))) 0 = some ((pids.idxOf (-1) : Nat) : Int) := by
  rw [Py.nonzero, Py.idx_head, Py.nonzeroFrom_eqMask, if_pos (List.idxOf_lt_length_of_mem h), Int.zero_add]

theorem idx_map_of_getElem? {α β : Type} (f : α → β) {l : List α} {k : Nat} {a : α} (h : l[k]? = some a) :
    Py.idx (l.map f) (k : Int) = some (f a) := by
  obtain ⟨hk, rfl⟩ := List.getElem?_eq_some_iff.1 h
  rw [Py.idx_nat _ _ (by simpa using hk), List.getElem?_map, h]; rfl

/-- `center` other than `"root"` / `"soma"` (in particular `"origin"`): `__call__` applies `self.tm` as it is -/
theorem call_origin (F : Py.Fld K) (center : String) (h1 : center ≠ "root") (h2 : center ≠ "soma") (tm0 : List (List K))
    (ids pids types : List Int) (xs ys zs rs : List K) :
    affine_call F center tm0 ids pids types xs ys zs rs = affine_apply F ids pids types xs ys zs rs tm0 := by
  simp only [affine_call, affine_call.body, Py.seq, Py.bind, h1, h2, decide_false, Bool.or_self, Bool.false_eq_true, if_false]
  cases affine_apply F ids pids types xs ys zs rs tm0 <;> rfl

/-- `center ∈ {"root", "soma"}`: `__call__` applies `self.tm` conjugated by the translation to the root (the first row whose parent
is −1; without such a row the call raises: `Py.idx … = none`) -/
theorem call_root (F : Py.Fld K) (center : String) (hc : center = "root" ∨ center = "soma") (tm0 : List (List K)) (h44 : Is44 tm0)
    (ids pids types : List Int) (rs : List K) (pts : List (Pt K)) (hroot : (-1) ∈ pids) (root : Pt K)
    (hr : pts[pids.idxOf (-1)]? = some root) :
    affine_call F center tm0 ids pids types (colX pts) (colY pts) (colZ pts) rs
      = affine_apply F ids pids types (colX pts) (colY pts) (colZ pts) rs (aboutRoot tm0 root.1 root.2.1 root.2.2) := by
  have hcen : (decide (center = "root") || decide (center = "soma")) = true := by simpa using hc
  have hrow := idx_map_of_getElem? (fun p : Pt K => [p.1, p.2.1, p.2.2]) hr
  obtain ⟨x, y, z⟩ := root
  have i3 : Py.idx [x, y, z] 0 = some x ∧ Py.idx [x, y, z] 1 = some y ∧ Py.idx [x, y, z] 2 = some z := ⟨rfl, rfl, rfl⟩
  have d1 := dot2_eq_mmul (translate3d x y z) tm0 (affine_translate3d x y z).1 h44
  have d2 := dot2_eq_mmul (mmul (translate3d x y z) tm0) (translate3d (-x) (-y) (-z)) (is44_mmul _ _ (affine_translate3d x y z).1)
    (affine_translate3d _ _ _).1
  simp -implicitDefEqProofs only [affine_call, affine_call.body, Py.seq_eq_bindS, Py.bindS_next, Py.bind_some, hcen, if_true,
    root_index pids hroot, xyz_refines, hrow, i3.1, i3.2.1, i3.2.2, translate3d_refines, fneg_eq, d1, d2, aboutRoot]
  cases affine_apply F ids pids types (colX pts) (colY pts) (colZ pts) rs
    (mmul (mmul (translate3d x y z) tm0) (translate3d (-x) (-y) (-z))) <;> rfl

/-- **`AffineTransform.__call__` ∘ `apply`** (generated), `center ∈ {root, soma}`: row `i` moves to
`applyPoint (aboutRoot tm root) (xᵢ, yᵢ, zᵢ)` where `root` is the position of the FIRST row whose parent is −1;
ids, parents, types, radii (and the number of rows) are unchanged. -/
theorem call_root_refines (F : Py.Fld K) (hF : ∀ a b : K, F.div a b = a / b) (center : String) (hc : center = "root" ∨ center = "soma")
    (tm0 : List (List K)) (h44 : Is44 tm0) (ids pids types : List Int) (rs : List K) (pts : List (Pt K)) (hroot : (-1) ∈ pids)
    (root : Pt K) (hr : pts[pids.idxOf (-1)]? = some root)
    (hw : ∀ p ∈ pts, wOf (aboutRoot tm0 root.1 root.2.1 root.2.2) p ≠ 0) :
    affine_call F center tm0 ids pids types (colX pts) (colY pts) (colZ pts) rs
      = some (ids, pids, types, colX (mapPts (aboutRoot tm0 root.1 root.2.1 root.2.2) pts),
          colY (mapPts (aboutRoot tm0 root.1 root.2.1 root.2.2) pts), colZ (mapPts (aboutRoot tm0 root.1 root.2.1 root.2.2) pts), rs) := by
  rw [call_root F center hc tm0 h44 ids pids types rs pts hroot root hr]
  exact apply_refines F hF ids pids types rs pts (List.ne_nil_of_mem (List.mem_of_getElem? hr)) _ (is44_mmul _ _ (is44_mmul _ _ (affine_translate3d _ _ _).1)) hw

/-- … and for any other `center` (`"origin"`): row `i` moves to `applyPoint tm (xᵢ, yᵢ, zᵢ)`. -/
theorem call_origin_refines (F : Py.Fld K) (hF : ∀ a b : K, F.div a b = a / b) (center : String) (h1 : center ≠ "root")
    (h2 : center ≠ "soma") (tm0 : List (List K)) (h44 : Is44 tm0) (ids pids types : List Int) (rs : List K) (pts : List (Pt K))
    (hne : pts ≠ []) (hw : ∀ p ∈ pts, wOf tm0 p ≠ 0) :
    affine_call F center tm0 ids pids types (colX pts) (colY pts) (colZ pts) rs
      = some (ids, pids, types, colX (mapPts tm0 pts), colY (mapPts tm0 pts), colZ (mapPts tm0 pts), rs) := by
  rw [call_origin F center h1 h2]
  exact apply_refines F hF ids pids types rs pts hne tm0 h44 hw

/-- the matrix `__call__` applies: `aboutRoot tm root` for `center ∈ {root, soma}` and `tm` otherwise -/
def effective (center : String) (tm : List (List K)) (root : Pt K) : List (List K) :=
  if center = "root" ∨ center = "soma" then aboutRoot tm root.1 root.2.1 root.2.2 else tm

theorem effective_of_root {center : String} (hc : center = "root" ∨ center = "soma") (tm : List (List K)) (root : Pt K) :
    effective center tm root = aboutRoot tm root.1 root.2.1 root.2.2 := if_pos hc

theorem effective_of_not_root {center : String} (hc : ¬ (center = "root" ∨ center = "soma")) (tm : List (List K)) (root : Pt K) :
    effective center tm root = tm := if_neg hc

/-- **the generated `AffineTransform.__call__` on an affine matrix**, both centre modes in one statement: every tree with a root row (first
parent −1) at position `< n`; row `i` ↦ `applyPoint (effective center tm root) (xᵢ, yᵢ, zᵢ)`; ids / parents / types / radii unchanged; no
exception. -/
theorem call_affine (F : Py.Fld K) (hF : ∀ a b : K, F.div a b = a / b) (center : String) (tm : List (List K)) (ha : IsAffine tm)
    (ids pids types : List Int) (rs : List K) (pts : List (Pt K)) (hroot : (-1) ∈ pids) (root : Pt K)
    (hr : pts[pids.idxOf (-1)]? = some root) :
    affine_call F center tm ids pids types (colX pts) (colY pts) (colZ pts) rs
      = some (ids, pids, types, colX (mapPts (effective center tm root) pts), colY (mapPts (effective center tm root) pts),
          colZ (mapPts (effective center tm root) pts), rs) := by
  by_cases hc : center = "root" ∨ center = "soma"
  · rw [effective_of_root hc]
    exact call_root_refines F hF center hc tm ha.1 ids pids types rs pts hroot root hr
      fun p _ => (wOf_affine (aboutRoot_affine ha ..) p).trans_ne one_ne_zero
  · rw [effective_of_not_root hc]
    exact call_origin_refines F hF center (fun h => hc (.inl h)) (fun h => hc (.inr h)) tm ha.1 ids pids types rs pts
      (List.ne_nil_of_mem (List.mem_of_getElem? hr)) fun p _ => (wOf_affine ha p).trans_ne one_ne_zero

/-! ### `TranslateOrigin.transform` -/

theorem translate_origin_refines (F : Py.Fld K) (hF : ∀ a b : K, F.div a b = a / b) (ids pids types : List Int) (rs : List K)
    (pts : List (Pt K)) (hroot : (-1) ∈ pids) (root : Pt K) (hr : pts[pids.idxOf (-1)]? = some root) :
    translate_origin F ids pids types (colX pts) (colY pts) (colZ pts) rs
      = some (ids, pids, types, colX (mapPts (translate3d (-root.1) (-root.2.1) (-root.2.2)) pts),
          colY (mapPts (translate3d (-root.1) (-root.2.1) (-root.2.2)) pts),
          colZ (mapPts (translate3d (-root.1) (-root.2.1) (-root.2.2)) pts), rs) := by
  have hrow : ∀ j : Int, Py.idx2 (pts.map fun p => [p.1, p.2.1, p.2.2, (1 : K)]) ((pids.idxOf (-1) : Nat) : Int) j
      = Py.idx [root.1, root.2.1, root.2.2, (1 : K)] j := fun j => by
    rw [Py.idx2, idx_map_of_getElem? (fun p : Pt K => [p.1, p.2.1, p.2.2, (1 : K)]) hr]; rfl
  obtain ⟨x, y, z⟩ := root
  obtain ⟨i0, i1, i2, _⟩ := idx_four x y z (1 : K)
  have hap := apply_refines F hF ids pids types rs pts (List.ne_nil_of_mem (List.mem_of_getElem? hr)) (translate3d (-x) (-y) (-z))
    (affine_translate3d ..).1 fun p _ => (wOf_affine (affine_translate3d ..) p).trans_ne one_ne_zero
  simp -implicitDefEqProofs only [translate_origin, translate_origin.body, Py.seq_eq_bindS, Py.bindS_next, Py.bind_some, root_index pids hroot, xyzw_refines, hrow, i0, i1, i2,
    fneg_eq, translate3d_refines, hap, Py.finish, Option.map_some]

/-! ### the constructors: which matrix, which centre -/

theorem affine_init_eq (tm : List (List K)) (center : String) :
    affine_init tm center none none = some (tm, center, [], ()) := rfl

theorem translate_init_default (tx ty tz : K) :
    translate_init tx ty tz [] = some (translate3d tx ty tz, defaultCenterAffineTransform, [], ()) := rfl

theorem translate_init_center (tx ty tz : K) (c : String) :
    translate_init tx ty tz [("center", c)] = some (translate3d tx ty tz, c, [], ()) := by
  simp [translate_init, translate_init.body, Py.bind, Py.finish, translate3d_refines, Py.kwOnly, Py.Dict.getD, Py.Dict.get?, affine_init_eq]

theorem scale_init_eq (sx sy sz : K) (c : String) :
    scale_init sx sy sz c [] = some (scale3d sx sy sz, c, [], ()) := rfl

theorem rotate_x_init_eq (c s : K) (cen : String) : rotate_x_init c s cen [] = some (rotate3d_x c s, cen, [], ()) := by
  simp [rotate_x_init, rotate_x_init.body, Py.bind, Py.finish, rotate3d_x_refines, Py.kwOnly, affine_init_eq]
theorem rotate_y_init_eq (c s : K) (cen : String) : rotate_y_init c s cen [] = some (rotate3d_y c s, cen, [], ()) := by
  simp [rotate_y_init, rotate_y_init.body, Py.bind, Py.seq, Py.finish, rotate3d_y_refines, Py.kwOnly, affine_init_eq]
theorem rotate_z_init_eq (c s : K) (cen : String) : rotate_z_init c s cen [] = some (rotate3d_z c s, cen, [], ()) := by
  simp [rotate_z_init, rotate_z_init.body, Py.bind, Py.seq, Py.finish, rotate3d_z_refines, Py.kwOnly, affine_init_eq]
/-- `Rotate(n, θ)`: the matrix `rotate3d(n, θ)` (the parameter `rot`), the stated centre, and — always — the deprecation warning of the
`fmt` parameter (call site 0), because the constructor passes `fmt=` on -/
theorem rotate_init_eq (rot : List (List K)) (cen : String) : rotate_init rot cen [] = some (rot, cen, [0], ()) := rfl

/-! ### `Transforms.__call__`: left-to-right composition -/

theorem transforms_call_refines {X : Type} [Inhabited X] (fs : List (X → Option X)) (x : X) :
    transforms_call fs x = fs.foldlM (fun x f => f x) x := by
  have key : ∀ (fs : List (X → Option X)) (v : transforms_call.V X),
      (Py.finish default (Py.bindS (Py.forEach transforms_call.for1 fs v) fun v => .ret v v.x)).map (·.2)
        = fs.foldlM (fun x f => f x) v.x := by
    intro fs
    induction fs with
    | nil => intro v; rfl
    | cons f fs ih =>
      intro v
      simp only [List.foldlM_cons, Py.forEach, transforms_call.for1]
      cases f v.x with
      | none => rfl
      | some y => exact ih { v with transform := f, x := y }
  exact key fs _

end RefineAffine
