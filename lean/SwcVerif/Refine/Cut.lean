import SwcVerif.Gen.AlgoCut
import SwcVerif.Props.C06Gen
import SwcVerif.Refine.PyRun
import SwcVerif.Refine.Node
/-! Refinement for C06: the definitions GENERATED from `swcgeom/core/tree_utils.py::to_subtree` and `cut_tree`
(both overloads, with the closures `_enter` / `_leave` that call the USER's callback) equal the models `Sub.toSubtree`,
`Sub.cutTreeEnter`, `Sub.cutTreeLeave` on every tree table. -/
namespace RefineCut
open Gen.Algo Sub Py Trav C06

/-! ## `to_subtree` -/

/-- `for i in removals: new_ids[i] = REMOVAL` as a function on the id column (`none` = IndexError); `-2` is the value the generated code
has for `REMOVAL` (`RefineSub.removal_eq`) -/
def markAll : List Int → List Int → Option (List Int)
  | l, [] => some l
  | l, i :: is => (setIdx l i (-2)).bind (fun l' => markAll l' is)

theorem for1_loop : ∀ (rm : List Int) (v : to_subtree.V),
    forEach to_subtree.for1 rm v =
      Py.bind (markAll v.new_ids rm) fun l => .next { v with new_ids := l, i := rm.getLast?.getD v.i }
  | [], v => rfl
  | i :: is, v => by
    simp only [forEach, to_subtree.for1, markAll]
    cases setIdx v.new_ids i (-2) with
    | none => rfl
    | some l' => simp only [Py.bind, Option.bind_some, for1_loop is, List.getLast?_cons, Option.getD_some]

theorem toSubtree_unfold (fuel : Nat) (ids pids rm : List Int) :
    to_subtree fuel ids pids rm =
      (markAll ids rm).bind fun l => (propagate_removal fuel (l, pids)).bind to_sub_topology := by
  simp only [to_subtree, to_subtree.body, seq_eq_bindS, bindS_next, for1_loop, bindS_bind, finish_bind, finish_ret, map_bind,
    Option.map_some, Option.bind_fun_some]

def markCol (M : Int → Bool) (n : Nat) : List Int := (rangeI n).map fun i => if M i then -2 else i

theorem length_markCol (M : Int → Bool) (n : Nat) : (markCol M n).length = n := by simp [markCol, rangeI]

theorem markCol_getElem? (M : Int → Bool) (n k : Nat) :
    (markCol M n)[k]? = if k < n then some (if M (k : Int) then -2 else (k : Int)) else none := by
  by_cases h : k < n <;> simp [markCol, rangeI, h]

theorem markCol_set (M : Int → Bool) (n k : Nat) : (markCol M n).set k (-2) = markCol (upd M (k : Int) true) n := by
  apply List.ext_getElem?
  intro i
  rw [List.getElem?_set, length_markCol, markCol_getElem?, markCol_getElem?]
  by_cases hki : k = i
  · subst hki; simp [upd]
  · have : ¬ (i : Int) = (k : Int) := by omega
    simp [hki, upd, this]

/-- marking node ids (all inside the table) succeeds and writes `REMOVAL` at exactly those rows -/
theorem markAll_inrange (n : Nat) : ∀ (rm : List Int) (M : Int → Bool), (∀ i ∈ rm, 0 ≤ i ∧ i.toNat < n) →
    markAll (markCol M n) rm = some (markCol (fun j => M j || rm.contains j) n)
  | [], M, _ => by simp [markAll]
  | i :: is, M, hin => by
    obtain ⟨k, rfl⟩ := Int.eq_ofNat_of_zero_le (hin i List.mem_cons_self).1
    have hk : k < n := (hin k List.mem_cons_self).2
    rw [markAll, setIdx_nat _ k _ (by rwa [length_markCol]), Option.bind_some, markCol_set,
      markAll_inrange n is _ fun j hj => hin j (List.mem_cons_of_mem _ hj)]
    congr 2
    funext j
    by_cases hj : j = k <;> simp [upd, hj]

theorem absMark_markCol (M : Int → Bool) (n : Nat) (hM : ∀ j, M j = true → 0 ≤ j ∧ j.toNat < n) : absMark (markCol M n) = M := by
  funext j
  cases hMj : M j
  · by_cases hj : 0 ≤ j ∧ j.toNat < n
    · have : ¬ j = -2 := by omega
      simp [absMark, List.getD_eq_getElem?_getD, markCol_getElem?, hj, hMj, Int.toNat_of_nonneg hj.1, this]
    · by_cases h0 : 0 ≤ j
      · have : ¬ j.toNat < n := fun c => hj ⟨h0, c⟩
        simp [absMark, List.getD_eq_getElem?_getD, markCol_getElem?, this]
      · simp [absMark, h0]
  · have hj := hM j hMj
    simp [absMark, List.getD_eq_getElem?_getD, markCol_getElem?, hj, hMj, Int.toNat_of_nonneg hj.1]

theorem eq_markCol (l : List Int) (n : Nat) (hl : l.length = n) (h : ∀ k, k < n → l[k]? = some (k : Int) ∨ l[k]? = some (-2)) :
    l = markCol (absMark l) n := by
  apply List.ext_getElem?
  intro k
  rw [markCol_getElem?]
  by_cases hk : k < n
  · have : ¬ (k : Int) = -2 := by omega
    rcases h k hk with e | e <;> simp [absMark, e, hk, this]
  · simp [hk]; omega

/-- **`to_subtree` as translated IS the model `Sub.toSubtree`**: on every tree table (a `Tree` object: ids = positions, root 0) and every
list of node ids to remove, the generated loop writing `REMOVAL` into a copy of the id column, the generated `propagate_removal` and the
generated `to_sub_topology` (through `to_subtree_impl`) return the new parents and the new→old mapping of the model — which
`C06.toSubtree_kept` characterises as exactly the nodes neither removed nor below a removed node.  Fuel: `2·|tree| + 1` suffices. -/
theorem toSubtree_refines (pids : List Int) (r : Rose) (h : IsTree r pids) (rm : List Int)
    (hrm : ∀ i ∈ rm, 0 ≤ i ∧ i.toNat < pids.length) (F : Nat) :
    to_subtree (2 * r.size + F + 1) (rangeI pids.length) pids rm =
      (toSubtree pids rm).map (fun s => ((Py.range (s.mapping.length : Int), s.newPid), s.mapping)) := by
  have hm1 : markAll (rangeI pids.length) rm = some (markCol (fun j => rm.contains j) pids.length) := by
    simpa [markCol] using markAll_inrange pids.length rm (fun _ => false) hrm
  obtain ⟨l2, hp2, hlen2, habs2, hget2⟩ := generated_propagateRemoval pids r h _ (length_markCol (fun j => rm.contains j) _) F
  rw [length_markCol] at hlen2
  -- the propagated id column is the model's marked column
  have hl2 : l2 = markCol (propagateRemoval pids (fun i => rm.contains i)) pids.length := by
    rw [eq_markCol l2 pids.length hlen2 fun k hk => (hget2 k).elim
      (fun e => by rw [e, markCol_getElem?, if_pos hk]; split <;> simp) Or.inr]
    congr 1
    funext j
    rw [habs2 j, absMark_markCol _ _ (by simpa using hrm)]
  -- the kept ids are the unmarked ones: distinct
  have hnd : (((List.zip l2 pids).filter (fun ip => !decide (ip.1 = -2))).map (·.1)).Nodup := by
    have e := kept_rows pids (propagateRemoval pids (fun i => rm.contains i))
    simp only [RefineSub.removal_eq, ne_eq, decide_not] at e
    rw [hl2, markCol, e, List.map_map]
    show (List.map (fun j => j) _).Nodup
    rw [List.map_id']
    exact (h.2.1.nodup_iff.1 h.1.2).sublist List.filter_sublist
  rw [toSubtree_unfold, hm1, Option.bind_some, hp2, Option.bind_some, RefineSub.toSubTopology_refines l2 pids hlen2 hnd, hl2]
  rfl

/-! ## `cut_tree`: the closures `_enter` / `_leave` call the USER's callback, an arbitrary stateful function

The model's wrappers (`Sub.cutEnter` / `Sub.cutLeave`, here with the user callback's state threaded through: `cutEnterS` / `cutLeaveS`) work on
(`removals`, user state); the translated closures also capture the tree's id column, which they read and never write. -/
section wrappers
variable {σ X Y : Type}

/-- a wrapper over (`removals`, user state) as a callback over the closure's state (`removals`, the id column, user state) -/
def withIds (f : List Int × σ → Int → X → (List Int × σ) × Y) : List Int × List Int × σ → Int → X → (List Int × List Int × σ) × Y :=
  fun s n x => let r := f (s.1, s.2.2) n x; ((r.1.1, s.2.1, r.1.2), r.2)

def AddsNode (f : List Int × σ → Int → X → (List Int × σ) × Y) : Prop := ∀ st m x, ∀ i ∈ (f st m x).1.1, i ∈ st.1 ∨ i = m

def IdsInv (n : Nat) (rem ids : List Int) : Prop := ids = rangeI n ∧ ∀ i ∈ rem, 0 ≤ i ∧ i.toNat < n

theorem IdsInv.idx {n : Nat} {rem ids : List Int} (hP : IdsInv n rem ids) {j : Int} (hj : 0 ≤ j ∧ j.toNat < n) : Py.idx ids j = some j := by
  rw [hP.1]; exact RefineNode.idx_rangeI n j hj.1 (by omega)

theorem mem_ite_append {b : Bool} {l : List Int} {m i : Int} (h : i ∈ (if b then l ++ [m] else l)) : i ∈ l ∨ i = m := by
  cases b with
  | false => exact Or.inl h
  | true => simpa using h

theorem IdsInv.withIds {n : Nat} {s : List Int × List Int × σ} (hP : IdsInv n s.1 s.2.1) {j : Int} (hj : 0 ≤ j ∧ j.toNat < n)
    {f : List Int × σ → Int → X → (List Int × σ) × Y} (hf : AddsNode f) (x : X) :
    IdsInv n (withIds f s j x).1.1 (withIds f s j x).1.2.1 :=
  ⟨hP.1, fun i hi => (hf _ j x i hi).elim (hP.2 i) fun e => e ▸ hj⟩
end wrappers

theorem traverse_withIds {σ T K : Type} [Inhabited σ] [Inhabited T] [Inhabited K]
    (fe : List Int × List Int × σ → Int → Option T → Option ((List Int × List Int × σ) × T))
    (fl : List Int × List Int × σ → Int → List K → Option ((List Int × List Int × σ) × K))
    (E : List Int × σ → Int → Option T → (List Int × σ) × T) (L : List Int × σ → Int → List K → (List Int × σ) × K)
    (he : ∀ s n pv, Py.idx s.2.1 n = some n → fe s n pv = some (withIds E s n pv))
    (hl : ∀ s n ks, Py.idx s.2.1 n = some n → fl s n ks = some (withIds L s n ks)) (hE : AddsNode E) (hL : AddsNode L)
    (pids : List Int) (r : Rose) (h : IsTree r pids) (s0 : σ) (F : Nat) :
    unwrapCb (traverse_dfs (wrapE fe) (wrapL fl) (2 * r.size + F + 1) (rangeI pids.length, pids) 0 (some ([], rangeI pids.length, s0))) =
      some (((spec E L r none ([], s0)).1.1, rangeI pids.length, (spec E L r none ([], s0)).1.2), (spec E L r none ([], s0)).2) ∧
    ∀ i ∈ (spec E L r none ([], s0)).1.1, 0 ≤ i ∧ i.toNat < pids.length := by
  obtain ⟨hcall, e2, p2⟩ := RefineClosures.traverse_closures_abs (fun s : List Int × List Int × σ => (s.1, s.2.2)) (fun s => IdsInv pids.length s.1 s.2.1)
    (fun j => 0 ≤ j ∧ j.toNat < pids.length) fe fl (withIds E) (withIds L) E L
    (fun s n pv hp hn => ⟨he s n pv (hp.idx hn), rfl, hp.withIds hn hE pv⟩)
    (fun s n ks hp hn => ⟨hl s n ks (hp.idx hn), rfl, hp.withIds hn hL ks⟩)
    (rangeI pids.length) pids r h.1 ([], rangeI pids.length, s0) ⟨rfl, by simp⟩ (fun j hj => (isTree_mem h j).1 hj) F
  rw [h.2.2.1] at hcall
  simp only at e2
  rw [hcall, e2]
  exact ⟨congrArg some (Prod.ext (Prod.ext rfl (Prod.ext p2.1 rfl)) rfl), p2.2⟩

/-! ## `cut_tree(tree, enter=…)` -/
section enter
variable {σ T : Type} [Inhabited σ] [Inhabited T]

/-- the model's `_enter` wrapper (`Sub.cutEnter`) for a STATEFUL user callback: state = (`removals`, user state) -/
def cutEnterS (ue : σ → Int → Option T → σ × (T × Bool)) :
    (List Int × σ) → Int → Option (T × Bool) → (List Int × σ) × (T × Bool) :=
  fun s n parent =>
    match parent with
    | some (pv, true) => ((s.1 ++ [n], s.2), (pv, true))
    | _ =>
      let r := ue s.2 n (parent.map (·.1))
      ((if r.2.2 then s.1 ++ [n] else s.1, r.1), r.2)

theorem cutEnterS_rem (ue : σ → Int → Option T → σ × (T × Bool)) : AddsNode (cutEnterS ue) := by
  intro st m pv i hi
  match pv with
  | some (p, true) => simpa [cutEnterS] using hi
  | some (p, false) | none => exact mem_ite_append hi

theorem cutEnter_closure (ue : σ → Int → Option T → σ × (T × Bool)) (s : List Int × List Int × σ) (n : Int) (pv : Option (T × Bool))
    (hn : Py.idx s.2.1 n = some n) :
    cut_enter ue s n pv = some (withIds (cutEnterS ue) s n pv) := by
  match pv with
  | some (p, true) => simp [cut_enter, cut_enter.body, Py.seq, Py.bind, hn, Py.finish, withIds, cutEnterS]
  | some (p, false) =>
    rcases hu : ue s.2.2 n (some p) with ⟨c, t, _ | _⟩ <;>
      simp [cut_enter, cut_enter.body, Py.seq, Py.bind, hn, Py.finish, withIds, cutEnterS, Py.skip, hu]
  | none =>
    rcases hu : ue s.2.2 n none with ⟨c, t, _ | _⟩ <;>
      simp [cut_enter, cut_enter.body, Py.seq, Py.bind, hn, Py.finish, withIds, cutEnterS, Py.skip, hu]

/-- **`cut_tree(tree, enter=…)` as translated, for EVERY user callback** (an arbitrary stateful function `ue`; `s0` is its state before the
call): on every tree table the generated closure `_enter`, run by the generated traversal, collects exactly the removal list of the model's
wrapper (`cutEnterS` = `Sub.cutEnter` with the callback's state threaded through) and leaves the callback in the model's final state; the
generated `to_subtree` then returns the model's table for that removal list.  Nothing raises; fuel `2·|tree| + 1` suffices. -/
theorem cutTreeEnter_refines (pids : List Int) (r : Rose) (h : IsTree r pids) (ue : σ → Int → Option T → σ × (T × Bool)) (s0 : σ) (F : Nat) :
    cut_tree_enter ue (2 * r.size + F + 1) (rangeI pids.length) pids s0 =
      (toSubtree pids (spec (cutEnterS ue) Sub.noLeave r none ([], s0)).1.1).map
        (fun t => ((spec (cutEnterS ue) Sub.noLeave r none ([], s0)).1.2, ((Py.range (t.mapping.length : Int), t.newPid), t.mapping))) := by
  obtain ⟨hcall, hrem⟩ := traverse_withIds (cut_enter ue) Py.noLeave (cutEnterS ue) Sub.noLeave (fun s n pv => cutEnter_closure ue s n pv)
    (fun _ _ _ _ => rfl) (cutEnterS_rem ue) (fun _ _ _ _ => Or.inl) pids r h s0 F
  simp only [cut_tree_enter, cut_tree_enter.body, seq_eq_bindS, bindS_next, hcall, Py.bind, toSubtree_refines pids r h _ hrem F]
  cases toSubtree pids (spec (cutEnterS ue) Sub.noLeave r none ([], s0)).1.1 <;> rfl

/-- `cut_tree` calls the user's `enter` on nodes of the tree only -/
theorem cutTreeEnter_congr (pids : List Int) (r : Rose) (h : IsTree r pids) (ue ue' : σ → Int → Option T → σ × (T × Bool))
    (hue : ∀ c n pv, 0 ≤ n ∧ n.toNat < pids.length → ue c n pv = ue' c n pv) (s0 : σ) (F : Nat) :
    cut_tree_enter ue (2 * r.size + F + 1) (rangeI pids.length) pids s0 =
      cut_tree_enter ue' (2 * r.size + F + 1) (rangeI pids.length) pids s0 := by
  have e : spec (cutEnterS ue) Sub.noLeave r none ([], s0) = spec (cutEnterS ue') Sub.noLeave r none ([], s0) :=
    (RefineClosures.spec_abs id (fun _ => True) (fun j => 0 ≤ j ∧ j.toNat < pids.length) (cutEnterS ue') Sub.noLeave (cutEnterS ue) Sub.noLeave
      (fun s n pv _ hn => ⟨by simp only [cutEnterS, hue _ n _ hn, id], trivial⟩) (fun _ _ _ _ _ => ⟨rfl, trivial⟩) r none ([], s0) trivial
      fun j hj => (isTree_mem h j).1 hj).1
  rw [cutTreeEnter_refines pids r h ue, cutTreeEnter_refines pids r h ue', e]

/-- a user callback without state of its own: the stateful wrapper is the model's `Sub.cutEnter` -/
theorem cutEnterS_pure (ue : Int → Option T → T × Bool) (s0 : σ) (r : Rose) (pv : Option (T × Bool)) (rem : List Int) :
    spec (cutEnterS (fun (s : σ) n pv => (s, ue n pv))) Sub.noLeave r pv (rem, s0) =
      (((spec (cutEnter ue) Sub.noLeave r pv rem).1, s0), (spec (cutEnter ue) Sub.noLeave r pv rem).2) :=
  RefineClosures.spec_fst _ _ _ _ (fun s c n pv => by
    match pv with
    | some (p, true) | some (p, false) | none => rfl) (fun _ _ _ _ => rfl) r pv rem s0

/-- **`cut_tree(tree, enter=…)` as translated = the model `Sub.cutTreeEnter`** (user callbacks as the model takes them: functions of the node
and the parent's value), so `C06.cutEnter_removed` / `C06.toSubtree_kept` speak about the generated code -/
theorem cutTreeEnter_refines_model (pids : List Int) (r : Rose) (h : IsTree r pids) (ue : Int → Option T → T × Bool) (s0 : σ) (F : Nat) :
    cut_tree_enter (fun (s : σ) n pv => (s, ue n pv)) (2 * r.size + F + 1) (rangeI pids.length) pids s0 =
      (cutTreeEnter pids ue).map (fun t => (s0, ((Py.range (t.mapping.length : Int), t.newPid), t.mapping))) := by
  rw [cutTreeEnter_refines pids r h _ s0 F, cutEnterS_pure]
  unfold cutTreeEnter
  simp only
  rw [run_tree h]

end enter

/-! ## `cut_tree(tree, leave=…)` -/
section leave
variable {σ K : Type} [Inhabited σ] [Inhabited K]

/-- the model's `_leave` wrapper (`Sub.cutLeave`) for a STATEFUL user callback -/
def cutLeaveS (ul : σ → Int → List K → σ × (K × Bool)) : (List Int × σ) → Int → List K → (List Int × σ) × K :=
  fun s n ks =>
    let r := ul s.2 n ks
    ((if r.2.2 then s.1 ++ [n] else s.1, r.1), r.2.1)

theorem cutLeaveS_rem (ul : σ → Int → List K → σ × (K × Bool)) : AddsNode (cutLeaveS ul) :=
  fun _ _ _ _ hi => mem_ite_append hi

theorem cutLeave_closure (ul : σ → Int → List K → σ × (K × Bool)) (s : List Int × List Int × σ) (n : Int) (ks : List K)
    (hn : Py.idx s.2.1 n = some n) :
    cut_leave ul s n ks = some (withIds (cutLeaveS ul) s n ks) := by
  cases hr : (ul s.2.2 n ks).2.2 <;>
    simp [cut_leave, cut_leave.body, Py.seq, Py.bind, Py.finish, withIds, cutLeaveS, Py.skip, hr, hn]

/-- **`cut_tree(tree, leave=…)` as translated, for EVERY user callback** (an arbitrary stateful function `ul` with state `s0` before the call):
the generated closure `_leave`, run by the generated traversal, collects the removal list of the model's wrapper (`cutLeaveS` = `Sub.cutLeave`
with the callback's state threaded through) and leaves the callback in the model's final state; the generated `to_subtree` returns the model's
table for that list.  Nothing raises; fuel `2·|tree| + 1` suffices. -/
theorem cutTreeLeave_refines (pids : List Int) (r : Rose) (h : IsTree r pids) (ul : σ → Int → List K → σ × (K × Bool)) (s0 : σ) (F : Nat) :
    cut_tree_leave ul (2 * r.size + F + 1) (rangeI pids.length) pids s0 =
      (toSubtree pids (spec Sub.noEnter (cutLeaveS ul) r none ([], s0)).1.1).map
        (fun t => ((spec Sub.noEnter (cutLeaveS ul) r none ([], s0)).1.2, ((Py.range (t.mapping.length : Int), t.newPid), t.mapping))) := by
  obtain ⟨hcall, hrem⟩ := traverse_withIds Py.noEnter (cut_leave ul) Sub.noEnter (cutLeaveS ul) (fun _ _ _ _ => rfl)
    (fun s n ks => cutLeave_closure ul s n ks) (fun _ _ _ _ => Or.inl) (cutLeaveS_rem ul) pids r h s0 F
  simp only [cut_tree_leave, cut_tree_leave.body, seq_eq_bindS, bindS_next, hcall, Py.bind, toSubtree_refines pids r h _ hrem F]
  cases toSubtree pids (spec Sub.noEnter (cutLeaveS ul) r none ([], s0)).1.1 <;> rfl

theorem cutLeaveS_pure (ul : Int → List K → K × Bool) (s0 : σ) (r : Rose) (pv : Option Unit) (rem : List Int) :
    spec Sub.noEnter (cutLeaveS (fun (s : σ) n ks => (s, ul n ks))) r pv (rem, s0) =
      (((spec Sub.noEnter (cutLeave ul) r pv rem).1, s0), (spec Sub.noEnter (cutLeave ul) r pv rem).2) :=
  RefineClosures.spec_fst _ _ _ _ (fun _ _ _ _ => rfl) (fun _ _ _ _ => rfl) r pv rem s0

/-- **`cut_tree(tree, leave=…)` as translated = the model `Sub.cutTreeLeave`** -/
theorem cutTreeLeave_refines_model (pids : List Int) (r : Rose) (h : IsTree r pids) (ul : Int → List K → K × Bool) (s0 : σ) (F : Nat) :
    cut_tree_leave (fun (s : σ) n ks => (s, ul n ks)) (2 * r.size + F + 1) (rangeI pids.length) pids s0 =
      (cutTreeLeave pids ul).map (fun t => (s0, ((Py.range (t.mapping.length : Int), t.newPid), t.mapping))) := by
  rw [cutTreeLeave_refines pids r h _ s0 F, cutLeaveS_pure]
  unfold cutTreeLeave
  simp only
  rw [run_tree h]

end leave

/-! ## `CutByFurcationOrder._enter` : the callback `CutByFurcationOrder.__call__` hands to `cut_tree` -/

theorem isFurcation_generated (pids : List Int) (j : Int) (hj : 0 ≤ j ∧ j.toNat < pids.length) :
    node_is_furcation (rangeI pids.length) pids j = some (isFurcation pids j) := by
  rw [RefineNode.node_is_furcation_eq, RefineNode.idx_rangeI _ j hj.1 (by omega), Option.map_some, List.count_eq_length_filter]
  rfl

/-- **`CutByFurcationOrder._enter` as translated IS the model's callback `Sub.orderEnter`** on every node of a tree object (it raises nothing) -/
theorem orderEnter_refines (pids : List Int) (m j : Int) (pl : Option Int) (hj : 0 ≤ j ∧ j.toNat < pids.length) :
    order_enter (rangeI pids.length) pids m j pl = some (orderEnter pids m j pl) := by
  cases pl with
  | none => simp [order_enter, order_enter.body, Py.seq, Py.finish, orderEnter]
  | some l =>
    cases hf : isFurcation pids j <;>
      simp [order_enter, order_enter.body, Py.seq, Py.bind, Py.finish, orderEnter, isFurcation_generated pids j hj, hf]

/-- `CutByFurcationOrder(m).__call__` = `cut_tree(x, enter=self._enter)`: the generated `_enter` as the user callback of the generated `cut_tree`
(callback state: "has not raised") -/
def orderCallback (pids : List Int) (m : Int) : Bool → Int → Option Int → Bool × (Int × Bool) :=
  fun ok n pv => match order_enter (rangeI pids.length) pids m n pv with
    | some r => (ok, r)
    | none => (false, default)

/-- **the translated `CutByFurcationOrder` pipeline equals the model `Sub.cutByOrder`** on every tree table: the generated `cut_tree` run with the
generated `_enter` never raises and returns the model's table -/
theorem cutByOrder_refines (pids : List Int) (r : Rose) (h : IsTree r pids) (m : Int) (F : Nat) :
    cut_tree_enter (orderCallback pids m) (2 * r.size + F + 1) (rangeI pids.length) pids true =
      (cutByOrder pids m).map (fun t => (true, ((Py.range (t.mapping.length : Int), t.newPid), t.mapping))) :=
  (cutTreeEnter_congr pids r h _ _ (fun c n pv hn => by simp only [orderCallback, orderEnter_refines pids m n pv hn]) true F).trans
    (cutTreeEnter_refines_model pids r h (orderEnter pids m) true F)

/-! ## `CutByType.__call__` : the `leave` closure over the `removals` SET -/

theorem mem_select {α : Type} (a : List α) (m : List Bool) (x : α) :
    x ∈ select a m ↔ ∃ k : Nat, a[k]? = some x ∧ m[k]? = some true := by
  have : x ∈ select a m ↔ (x, true) ∈ List.zip a m := by simp [select, List.mem_filterMap]
  rw [this, List.mem_iff_getElem?]
  simp only [List.getElem?_zip_eq_some]

theorem mem_foldl_add : ∀ (l acc : List Int) (x : Int), x ∈ l.foldl Py.Set.add acc ↔ x ∈ acc ∨ x ∈ l
  | [], acc, x => by simp
  | a :: l, acc, x => by
    rw [List.foldl_cons, mem_foldl_add l, List.mem_cons, ← or_assoc]
    refine or_congr_left ?_
    unfold Py.Set.add
    split
    · rename_i ha; exact ⟨Or.inl, fun h => h.elim id fun e => e ▸ by simpa using ha⟩
    · simp

theorem mem_ofList (l : List Int) (x : Int) : x ∈ Py.Set.ofList l ↔ x ∈ l := by
  simp [Py.Set.ofList, mem_foldl_add]

/-- the node ids `x.id()[x.type() != ty]` of a tree object -/
theorem mem_select_neMask (types : List Int) (ty i : Int) :
    i ∈ select (rangeI types.length) (neMask types ty) ↔ (0 ≤ i ∧ i.toNat < types.length) ∧ types.getD i.toNat 0 ≠ ty := by
  rw [mem_select]
  constructor
  · rintro ⟨k, h1, h2⟩
    obtain ⟨_, ⟨hk, rfl⟩, rfl⟩ : ∃ a, (k < types.length ∧ k = a) ∧ (a : Int) = i := by
      simpa [rangeI, List.getElem?_eq_some_iff] using h1
    simpa [neMask, hk] using h2
  · rintro ⟨⟨h0, h1⟩, h2⟩
    exact ⟨i.toNat, by simp [rangeI, h1]; omega, by simpa [neMask, h1] using h2⟩

/-- what the translated closure `leave` computes on a node whose handle is its id: its state is (the `removals` set, the id column) -/
def typeLeaveL (s : List Int × List Int) (n : Int) (kc : List Bool) : (List Int × List Int) × Bool :=
  let rem' := if s.1.contains n && kc.any id then s.1.filter (fun y => y ≠ n) else s.1
  ((rem', s.2), !rem'.contains n)

theorem typeLeave_closure (s : List Int × List Int) (n : Int) (kc : List Bool) (hn : Py.idx s.2 n = some n) :
    type_leave s n kc = some (typeLeaveL s n kc) := by
  by_cases hc : n ∈ s.1
  · by_cases ha : true ∈ kc <;>
      simp [type_leave, type_leave.body, Py.seq, Py.bind, hn, Py.finish, typeLeaveL, Py.skip, hc, ha, Py.any, Py.Set.remove]
  · simp [type_leave, type_leave.body, Py.seq, Py.bind, hn, Py.finish, typeLeaveL, Py.skip, hc, Py.any, Py.Set.remove]

/-- a set of node ids ↦ the model's membership function -/
def absSet (l : List Int) : Int → Bool := fun i => l.contains i

theorem absSet_filter_ne (l : List Int) (j : Int) : absSet (l.filter (fun y => y ≠ j)) = upd (absSet l) j false := by
  funext x
  by_cases hx : x = j <;> simp [absSet, upd, hx]

theorem typeLeaveL_step (n : Nat) (s : List Int × List Int) (j : Int) (kc : List Bool) (hP : IdsInv n s.1 s.2) :
    typeLeave (absSet s.1) j kc = (absSet (typeLeaveL s j kc).1.1, (typeLeaveL s j kc).2) ∧ IdsInv n (typeLeaveL s j kc).1.1 (typeLeaveL s j kc).1.2 := by
  simp only [typeLeave, typeLeaveL, show absSet s.1 j = s.1.contains j from rfl]
  split
  · exact ⟨by rw [← absSet_filter_ne]; rfl, hP.1, fun i hi => hP.2 i (List.mem_filter.1 hi).1⟩
  · exact ⟨rfl, hP⟩

/-- `Sub.toSubtree` depends on the membership of its removal list only -/
theorem toSubtree_filter (pids l : List Int) (hl : ∀ i ∈ l, 0 ≤ i ∧ i.toNat < pids.length) :
    toSubtree pids ((rangeI pids.length).filter (absSet l)) = toSubtree pids l := by
  have : (fun i => ((rangeI pids.length).filter (absSet l)).contains i) = fun i => l.contains i := by
    funext i
    rw [Bool.eq_iff_iff]
    simpa [absSet, mem_rangeI] using hl i
  unfold toSubtree
  rw [this]

/-- **`CutByType.__call__` as translated IS the model `Sub.cutByType`**: on every tree table with a type column of the same length, the set
`set(x.id()[x.type() != self.type])`, the generated closure `leave` (which takes a node out of the set when one of its children is kept) run
by the generated traversal, and the generated `to_subtree` return the model's table — `C06.cutByType_kept` characterises it.  Nothing raises
(in particular `removals.remove` never meets an absent element); fuel `2·|tree| + 1` suffices. -/
theorem cutByType_refines (pids types : List Int) (ty : Int) (r : Rose) (h : IsTree r pids) (hl : types.length = pids.length) (F : Nat) :
    cut_by_type (2 * r.size + F + 1) (rangeI pids.length) pids types ty =
      (cutByType pids types ty).map (fun t => ((Py.range (t.mapping.length : Int), t.newPid), t.mapping)) := by
  have hin : ∀ j ∈ r.ids, 0 ≤ j ∧ j.toNat < pids.length := fun j hj => (isTree_mem h j).1 hj
  -- the initial set
  have hmem0 := fun i => (mem_ofList _ i).trans (mem_select_neMask types ty i)
  rw [hl] at hmem0
  generalize hrem0 : Py.Set.ofList (select (rangeI pids.length) (neMask types ty)) = rem0 at hmem0
  have habs0 : absSet rem0 =
      fun i => decide (0 ≤ i) && decide (i.toNat < pids.length) && (types.getD i.toNat 0 != ty) := by
    funext i
    rw [Bool.eq_iff_iff]
    simp [absSet, hmem0 i]
  obtain ⟨hcall, e2, p2⟩ := RefineClosures.traverse_closures_abs (fun s : List Int × List Int => absSet s.1) (fun s => IdsInv pids.length s.1 s.2)
    (fun j => 0 ≤ j ∧ j.toNat < pids.length) Py.noEnter type_leave Sub.noEnter typeLeaveL Sub.noEnter typeLeave
    (fun s n pv hp _ => ⟨rfl, rfl, hp⟩)
    (fun s n ks hp hn => ⟨typeLeave_closure s n ks (hp.idx hn), typeLeaveL_step _ s n ks hp⟩)
    (rangeI pids.length) pids r h.1 (rem0, rangeI pids.length) ⟨rfl, fun i hi => ((hmem0 i).1 hi).1⟩ hin F
  rw [h.2.2.1] at hcall
  simp only at e2
  have hmodel : cutByType pids types ty = toSubtree pids (spec Sub.noEnter typeLeaveL r none (rem0, rangeI pids.length)).1.1 := by
    unfold cutByType
    simp only
    rw [run_tree h, ← habs0, e2, toSubtree_filter pids _ p2.2]
  simp only [cut_by_type, cut_by_type.body, seq_eq_bindS, bindS_next, bindS_bind, finish_bind, finish_ret, map_bind, hrem0, hcall,
    Option.bind_some, p2.1, toSubtree_refines pids r h _ p2.2 F, hmodel, Option.map_some, Option.bind_fun_some]

end RefineCut
