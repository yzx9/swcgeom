import SwcVerif.Gen.AlgoNormalizer
import SwcVerif.Refine.PyRun
import SwcVerif.Model.Dsu
/-! Refinement for C18 / C01: the definitions GENERATED from `swc_utils/normalizer.py::reset_index_` and
`mark_roots_as_somas_` (DataFrame columns as variables, `np.where` with broadcast scalars, `df.loc[row, col]`), on every table that
has a root: `mark_roots_as_somas_` returns the columns of the model `Dsu.markRootsAsSomas` (`markRoots_refines`); `reset_index_` has no
model function, `resetIndex_refines` states the columns it returns. -/
namespace RefineNorm
open Gen.Algo Dsu Py

theorem where_map3 {α : Type} (l : List α) (c : α → Bool) (f g : α → Int) :
    where_ (l.map c) (l.map f) (l.map g) = l.map (fun x => if c x then f x else g x) := by
  simp [where_, List.zip_eq_zipWith, List.zipWith_map_left, List.zipWith_map_right, List.zipWith_self]

theorem argmax_firstRoot : ∀ (pids : List Int), (-1 : Int) ∈ pids →
    (eqMask pids (-1)).idxOf true = firstRootLoc pids ∧ firstRootLoc pids < pids.length := by
  intro pids
  induction pids with
  | nil => intro h; simp at h
  | cons p ps ih =>
    intro h
    by_cases hp : p = -1
    · simp [eqMask, firstRootLoc, hp]
    · obtain ⟨e, hl⟩ := ih ((List.mem_cons.1 h).resolve_left fun c => hp c.symm)
      simp only [eqMask] at e ⊢
      simp [firstRootLoc, hp, List.idxOf_cons, e]
      omega

theorem argmaxMask_root (pids : List Int) (h : (-1 : Int) ∈ pids) :
    argmaxMask (eqMask pids (-1)) = some ((firstRootLoc pids : Nat) : Int) := by
  obtain ⟨e, hl⟩ := argmax_firstRoot pids h
  have hne : (eqMask pids (-1)).isEmpty = false := by
    cases pids with
    | nil => simp at h
    | cons a l => simp [eqMask]
  have hlen : (eqMask pids (-1)).length = pids.length := by simp [eqMask]
  simp only [argmaxMask, hne, Bool.false_eq_true, if_false, e, hlen]
  rw [Nat.mod_eq_of_lt hl]

theorem where_zipWith {α : Type} (c : α → Bool) (g : α → Int) : ∀ (q : List α) (a : List Int),
    where_ (q.map c) a (q.map g) = List.zipWith (fun x y => if c x then y else g x) q a := by
  intro q
  induction q with
  | nil => intro a; rfl
  | cons x q ih =>
    intro a
    cases a with
    | nil => rfl
    | cons y a => exact congrArg (List.cons _) (ih a)

/-- **`mark_roots_as_somas_` as translated equals the model** on every table with a root (equally long columns) -/
theorem markRoots_refines (ids pids types : List Int) (ut : Option Int) (h1 : ids.length = pids.length)
    (hr : (-1 : Int) ∈ pids) :
    mark_roots_as_somas_ ids pids types ut =
      some ((markRootsAsSomas ids pids types ut).1, (markRootsAsSomas ids pids types ut).2, ()) := by
  have hl := (argmax_firstRoot pids hr).2
  simp only [mark_roots_as_somas_, mark_roots_as_somas_.body, seq, Py.bind, argmaxMask_root pids hr, idx_nat_getD ids _ 0 (h1 ▸ hl),
    neMask, List.map_map, Function.comp_def, where_zipWith, List.zipWith_self, markRootsAsSomas]
  cases ut with
  | none =>
    simp only [Option.isSome_none, Bool.false_eq_true, if_false, skip]
    rw [setIdx_nat _ _ _ (by simpa using hl)]
    simp only [finish, Option.map, decide_eq_true_eq]
  | some t =>
    simp only [Option.isSome_some, if_true, Option.getD_some]
    rw [setIdx_nat _ _ _ (by simpa using hl)]
    simp only [finish, Option.map, decide_eq_true_eq, List.zip_eq_zipWith, List.map_zipWith, List.zipWith_map_left]

/-- **`reset_index_` as translated**: every id is shifted by the first root's id, every parent too except the `-1` markers -/
theorem resetIndex_refines (ids pids : List Int) (h1 : ids.length = pids.length) (hr : (-1 : Int) ∈ pids) :
    reset_index_ ids pids =
      some (ids.map (fun i => i - ids.getD (firstRootLoc pids) 0),
            pids.map (fun p => if p = -1 then -1 else p - ids.getD (firstRootLoc pids) 0), ()) := by
  simp only [reset_index_, reset_index_.body, seq, Py.bind, argmaxMask_root pids hr,
    idx_nat_getD ids _ 0 (h1 ▸ (argmax_firstRoot pids hr).2), finish, Option.map]
  simp only [eqMask, List.map_map, Function.comp_def, where_map3, Int.sub_eq_add_neg, decide_eq_true_eq]

end RefineNorm
