import SwcVerif.Gen.AlgoResampleTree
/-! Refinement of the GENERATED tree-level drivers of C16 (`Gen/AlgoResampleTree.lean`, translated from `swcgeom/transforms/tree.py` on every
run): `Resampler.__call__` is the composition `bt_assemble ∘ (map of the branch resampler over the branches dictionary) ∘ bt_from_tree`
of the generated pieces, for every callback, every fuel, every input (`TreeSmoother.__call__`: `Refine/ResampleTree2.lean`). -/
namespace RefineResamTree
open Gen.Algo

section resample
variable {σ : Type} [Inhabited σ]

/-- `[self.resampler(br) for br in brs]` with a state-passing resampler: state after, results appended to `acc` -/
def mapBrs (resample : σ → List Int → σ × List Int) : σ → List (List Int) → List (List Int) → σ × List (List Int)
  | s, acc, [] => (s, acc)
  | s, acc, br :: brs => mapBrs resample (resample s br).1 (acc ++ [(resample s br).2]) brs

/-- `{k: [self.resampler(br) for br in brs] for k, brs in d.items()}`: keys in dictionary order, branches in list order -/
def mapDict (resample : σ → List Int → σ × List Int) :
    σ → Py.Dict Int (List (List Int)) → Py.Dict Int (List (List Int)) → σ × Py.Dict Int (List (List Int))
  | s, acc, [] => (s, acc)
  | s, acc, (k, brs) :: rest =>
    mapDict resample (mapBrs resample s [] brs).1 (Py.Dict.set acc k (mapBrs resample s [] brs).2) rest

variable (resample : σ → List Int → σ × List Int)
  (pair : σ → List (List Int) → List Int → σ × List ((List Int) × Int)) (dupFirst dupLast : List Int → Int → Bool)

theorem for2_loop (brs : List (List Int)) (v : resam_tree.V σ) :
    ∃ br', Py.forEach (resam_tree.for2 resample pair dupFirst dupLast) brs v
      = .next { v with br := br', cbs := (mapBrs resample v.cbs v.c2_ brs).1, c2_ := (mapBrs resample v.cbs v.c2_ brs).2 } := by
  induction brs generalizing v with
  | nil => exact ⟨v.br, rfl⟩
  | cons x xs ih =>
    simp only [Py.forEach, resam_tree.for2]
    obtain ⟨b, h⟩ := ih { v with br := x, cbs := (resample v.cbs x).1, c2_ := v.c2_ ++ [(resample v.cbs x).2] }
    exact ⟨b, by simpa [mapBrs] using h⟩

theorem for3_loop (d : Py.Dict Int (List (List Int))) (v : resam_tree.V σ) :
    ∃ k' brs' br' c2', Py.forEach (resam_tree.for3 resample pair dupFirst dupLast) d v
      = .next { v with k := k', brs := brs', br := br', c2_ := c2',
                       cbs := (mapDict resample v.cbs v.c1_ d).1, c1_ := (mapDict resample v.cbs v.c1_ d).2 } := by
  induction d generalizing v with
  | nil => exact ⟨v.k, v.brs, v.br, v.c2_, rfl⟩
  | cons x xs ih =>
    obtain ⟨k, brs⟩ := x
    simp only [Py.forEach, resam_tree.for3, Py.seq, Py.bindS]
    obtain ⟨b, hb⟩ := for2_loop resample pair dupFirst dupLast brs { v with k := k, brs := brs, c2_ := [] }
    rw [hb]
    simp only []
    obtain ⟨k', brs', br', c2', h⟩ := ih { v with k := k, brs := brs, br := b, cbs := (mapBrs resample v.cbs [] brs).fst,
                                                   c2_ := (mapBrs resample v.cbs [] brs).snd,
                                                   c1_ := Py.Dict.set v.c1_ k (mapBrs resample v.cbs [] brs).snd }
    exact ⟨k', brs', br', c2', by simpa [mapDict] using h⟩

/-- The generated `Resampler.__call__` IS the composition of the generated `BranchTree.from_tree`, the map of the branch resampler over
the `branches` dictionary (keys in dictionary order, branches in list order, the callback state threaded through and handed on to the
assembler's `pair`) and the generated `BranchTreeAssembler.__call__` — for every callback, fuel and input (no hypothesis). -/
theorem resam_tree_eq (fuel : Nat) (ids pids : List Int) (cbs : σ) :
    resam_tree resample pair dupFirst dupLast fuel ids pids cbs
      = (bt_from_tree fuel ids pids).bind fun t =>
          bt_assemble pair dupFirst dupLast fuel t.id t.pid (mapDict resample cbs [] t.branches).2 (mapDict resample cbs [] t.branches).1 := by
  simp only [resam_tree, resam_tree.body, Py.seq, Py.bind, Py.bindS]
  cases hb : bt_from_tree fuel ids pids with
  | none => simp [Py.finish]
  | some t =>
    simp only []
    obtain ⟨k', brs', br', c2', h⟩ := for3_loop resample pair dupFirst dupLast t.branches
      { (default : resam_tree.V σ) with ids := ids, pids := pids, cbs := cbs, t := t, c1_ := [] }
    rw [h]
    simp only [Option.bind]
    cases ha : bt_assemble pair dupFirst dupLast fuel t.id t.pid (mapDict resample cbs [] t.branches).2 (mapDict resample cbs [] t.branches).1 with
    | none => simp [Py.finish]
    | some r => simp [Py.finish]

end resample
end RefineResamTree
