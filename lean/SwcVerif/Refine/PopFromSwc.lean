import SwcVerif.Gen.AlgoPopFront
import SwcVerif.Refine.PopFront
import SwcVerif.Props.C19
import SwcVerif.Refine.Cut
/-! Refinement for `Populations.from_swc` as translated (`Gen.Algo.pops_from_swc`, Gen/AlgoPopFront.lean): the file matching and the
construction of one `Population(LazyLoadingTrees([join(d, p) …]), root=d)` per root, for EVERY list of roots and EVERY directory listing
(`find_swcs`, `join` arbitrary functions). -/
namespace RefineFromSwc
open Gen.Algo Pop Py RefinePop RefinePopFront

/-! ## the constructors on a FRESH container with arbitrary file identifiers -/

theorem lazy_init_for1_loop (xs : List Int) (v : lazy_init.V) :
    forEach lazy_init.for1 xs v =
      .next { v with c0_ := v.c0_ ++ xs.map (fun _ => none), underscore_ := xs.getLast?.getD v.underscore_ } :=
  forEach_comp _ (fun l y => { v with c0_ := l, underscore_ := y }) _ (fun _ _ _ => rfl) xs v.c0_ v.underscore_

/-- `LazyLoadingTrees(swcs)`: the files, no tree loaded -/
theorem lazy_init_eq (g0 : LazyLoadingTrees) (swcs : List Int) :
    lazy_init g0 swcs = some (⟨swcs, swcs.map (fun _ => none)⟩, ()) := by
  simp only [lazy_init, lazy_init.body, seq, bindS, lazy_init_for1_loop]
  simp [finish]

/-- the container after the constructor's probe `swcs[0]`: the first file (if any) is loaded -/
def probed (swcs : List Int) : LazyLoadingTrees :=
  ⟨swcs, (swcs.map (fun _ => (none : Option Int))).set 0 (some (swcs.headD 0))⟩

/-- **`Population(LazyLoadingTrees(swcs), root=d)` on a fresh container**, arbitrary file identifiers: the only read is the probe of the
first file, and only when there is one -/
theorem pop_init_fresh (p0 : Population) (swcs : List Int) (root : String) (log : List Int) :
    pop_init readLog p0 ⟨swcs, swcs.map (fun _ => none)⟩ root log =
      some (⟨probed swcs, root⟩, log ++ swcs.take 1, ()) := by
  rw [pop_init_eq]
  cases swcs with
  | nil => simp [probed]
  | cons a rest =>
    have hg : getIdx 0 (rest.length + 1) = some 0 := C19.getIdx_nat (Nat.succ_pos _)
    have hidx : pop_get_idx 0 ((rest.length : Int) + 1) = some 0 := (getIdx_refines 0 (rest.length + 1)).trans (by rw [hg]; rfl)
    simp [lazy_getitem, lazy_getitem.body, seq, Py.bind, lazy_len_eq, hidx, lazy_load, lazy_load.body, Py.idx, Py.normIdx, Py.setIdx,
      finish, readLog, probed]

/-! ## `Populations.__init__` -/

theorem pops_init_for1_loop (ps : List Population) (v : pops_init.V) :
    forEach pops_init.for1 ps v =
      .next { v with c0_ := v.c0_ ++ ps.map (fun p => (p.trees.swcs.length : Int)), p := ps.getLast?.getD v.p } :=
  forEach_comp _ (fun l y => { v with c0_ := l, p := y }) _ (fun _ _ _ => by simp only [pops_init.for1, pop_len_eq, Py.bind])
    ps v.c0_ v.p

theorem pops_init_for2_loop (ps : List Population) (v : pops_init.V) :
    forEach pops_init.for2 ps v = .next { v with c4_ := v.c4_ ++ ps.map (fun _ => ""), i := ps.getLast?.getD v.i } :=
  forEach_comp _ (fun l y => { v with c4_ := l, i := y }) _ (fun _ _ _ => rfl) ps v.c4_ v.i

/-- **`Populations(populations)` (`labels=None`) as translated**: `len` = the least population length (`ValueError` from `min` on no population),
the populations as given, empty labels -/
theorem pops_init_eq (s0 : Populations) (ps : List Population) :
    pops_init s0 ps = (Py.minInt (ps.map (fun p => (p.trees.swcs.length : Int)))).map fun m => (⟨m, ps, ps.map (fun _ => "")⟩, ()) := by
  simp only [pops_init, pops_init.body, seq, bindS, Py.bind, pops_init_for1_loop, List.nil_append]
  cases hm : Py.minInt (ps.map (fun p => (p.trees.swcs.length : Int))) with
  | none => simp [finish]
  | some m => simp [pops_init_for2_loop, finish, Py.len]

/-! ## `Populations.from_swc` -/

section
variable (find : String → List Int) (join : String → Int → Int)

theorem fs_for1_loop (ds : List String) (v : pops_from_swc.V (List Int)) :
    forEach (pops_from_swc.for1 readLog find join) ds v = .next { v with c0_ := v.c0_ ++ ds.map find, d := ds.getLast?.getD v.d } :=
  forEach_comp _ (fun l y => { v with c0_ := l, d := y }) _ (fun _ _ _ => rfl) ds v.c0_ v.d

theorem fs_for2_loop (ds : List String) (v : pops_from_swc.V (List Int)) :
    forEach (pops_from_swc.for2 readLog find join) ds v =
      .next { v with c3_ := v.c3_ ++ ds.map (fun _ => v.inter), underscore_ := ds.getLast?.getD v.underscore_ } :=
  forEach_comp _ (fun l y => { v with c3_ := l, underscore_ := y }) _ (fun _ _ _ => rfl) ds v.c3_ v.underscore_

theorem fs_for3_loop (hd : List Int) (as : List (List Int)) (v : pops_from_swc.V (List Int)) (hv : Py.idx v.fs 0 = some hd) :
    forEach (pops_from_swc.for3 readLog find join) as v =
      .next { v with c5_ := v.c5_ ++ as.map (fun a => decide (hd = a)), a := as.getLast?.getD v.a } :=
  forEach_comp _ (fun l y => { v with c5_ := l, a := y }) _ (fun _ _ _ => by simp only [pops_from_swc.for3, Py.bind, hv])
    as v.c5_ v.a

theorem fs_for4_loop (ps : List Int) (v : pops_from_swc.V (List Int)) :
    forEach (pops_from_swc.for4 readLog find join) ps v = .next { v with c9_ := v.c9_ ++ ps.map (join v.d), p := ps.getLast?.getD v.p } :=
  forEach_comp _ (fun l y => { v with c9_ := l, p := y }) _ (fun _ _ _ => rfl) ps v.c9_ v.p

/-- the population built for root `d` from the matched names: files `join d p`, the first one probed -/
def build1 (d : String) (names : List Int) : Population := ⟨probed (names.map (join d)), d⟩
/-- the file read while building it -/
def reads1 (d : String) (names : List Int) : List Int := (names.map (join d)).take 1

theorem fs_for5_loop : ∀ (ds : List String) (k : Nat) (v : pops_from_swc.V (List Int)), k + ds.length ≤ v.fs.length →
    ∃ v', forEach (pops_from_swc.for5 readLog find join) (Py.enumFrom (k : Int) ds) v = .next v' ∧
      v'.c8_ = v.c8_ ++ List.zipWith (build1 join) ds (v.fs.drop k) ∧
      v'.cbs = v.cbs ++ (List.zipWith (reads1 join) ds (v.fs.drop k)).flatten
  | [], k, v, _ => ⟨v, rfl, by simp, by simp⟩
  | a :: ds, k, v, hk => by
    have hlt : k < v.fs.length := Nat.lt_of_lt_of_le (Nat.lt_add_of_pos_right (Nat.succ_pos _)) hk
    have hidx : Py.idx v.fs (k : Int) = some v.fs[k] := by rw [Py.idx_natCast, List.getElem?_eq_getElem hlt]
    have hk1 : ((k : Int) + 1) = ((k + 1 : Nat) : Int) := rfl
    simp only [Py.enumFrom, forEach, pops_from_swc.for5, seq, bindS, Py.bind, hidx, fs_for4_loop, lazy_init_eq, List.nil_append,
      pop_init_fresh, hk1]
    refine (fs_for5_loop ds (k + 1) _ (by simp only [List.length_cons] at hk; simp only []; omega)).imp fun v' h => ⟨h.1, ?_, ?_⟩
    · rw [h.2.1, ← List.getElem_cons_drop hlt]
      simp only [List.zipWith_cons_cons, build1, List.append_assoc, List.singleton_append]
    · rw [h.2.2, ← List.getElem_cons_drop hlt]
      simp only [List.zipWith_cons_cons, List.flatten_cons, reads1, List.append_assoc]
end

/-- `reduce(lambda a, b: set(a).intersection(set(b)), fs)`: TypeError (`none`) on no list, the first list ITSELF on one list -/
def interAll (fs0 : List (List Int)) : Option (List Int) :=
  Py.reduce1 (fun a b => Py.Set.inter (Py.Set.ofList a) (Py.Set.ofList b)) fs0

/-- the names each population is built from: with `intersect` every root gets the common names; otherwise its own listing — after the
assertion that all listings EQUAL the first (same names in the same order) when `check_same` -/
def matched (fs0 : List (List Int)) (inter check : Bool) : Option (List (List Int)) :=
  if inter then (interAll fs0).map (fun I => fs0.map (fun _ => I))
  else if check then (if Py.allB ((fs0.drop 1).map (fun a => decide (fs0.headD [] = a))) then some fs0 else none)
  else some fs0

theorem matched_length (fs0 : List (List Int)) (inter check : Bool) (fs : List (List Int)) (h : matched fs0 inter check = some fs) :
    fs.length = fs0.length := by
  unfold matched at h
  split at h
  · cases hi : interAll fs0 with
    | none => simp [hi] at h
    | some I => simp [hi] at h; subst h; simp
  · split at h
    · split at h
      · cases h; rfl
      · cases h
    · cases h; rfl

/-- the last two statements of `from_swc` (the constructor loop and `return cls(populations, labels=labels)`), as they occur in the generated body
(`body_split` checks by `rfl` that the generated body ends with exactly this) -/
def tailK (find : String → List Int) (join : String → Int → Int) : pops_from_swc.V (List Int) → Py.Res (pops_from_swc.V (List Int)) Populations :=
  (Py.seq (fun (v : pops_from_swc.V (List Int)) =>
      Py.bindS (((Py.seq (fun (v : pops_from_swc.V (List Int)) => .next { v with c8_ := ([] : List Population) })
        (fun (v : pops_from_swc.V (List Int)) => Py.forEach (pops_from_swc.for5 readLog find join) (Py.enumerate v.roots) v))) v)
        fun (v : pops_from_swc.V (List Int)) => .next { v with populations := v.c8_ })
      (fun (v : pops_from_swc.V (List Int)) => Py.bind (pops_init default v.populations) fun t15 => .ret v t15.1))

/-- the generated body of `Populations.from_swc` is: the listing statement, the matching statement, then `tailK` -/
theorem body_split (find : String → List Int) (join : String → Int → Int) :
    ∃ A B, pops_from_swc.body readLog find join = Py.seq A (Py.seq B (tailK find join)) := ⟨_, _, rfl⟩

def fromSwcResult (join : String → Int → Int) (roots : List String) (log : List Int) (fs : List (List Int)) : Option (List Int × Populations) :=
  (Py.minInt ((List.zipWith (build1 join) roots fs).map (fun p => (p.trees.swcs.length : Int)))).map fun m =>
    (log ++ (List.zipWith (reads1 join) roots fs).flatten,
      (⟨m, List.zipWith (build1 join) roots fs, (List.zipWith (build1 join) roots fs).map (fun _ => "")⟩ : Populations))

/-- **the construction part of `Populations.from_swc` as translated** (the generated body is `listing; matching; tailK`,
`body_split`): `tailK` from ANY state in which the matched names `fs` have one entry per root: one
`Population(LazyLoadingTrees([join(d, p) for p in fs[i]]), root=d)` per root IN ORDER, each constructor reading only its first file (if any),
then `Populations(...)` with `len` = the least length (ValueError when there is no root) and empty labels. -/
theorem pops_from_swc_tail (find : String → List Int) (join : String → Int → Int) (v : pops_from_swc.V (List Int)) (h : v.fs.length = v.roots.length) :
    (Py.finish default (tailK find join v)).map (fun r => (r.1.cbs, r.2)) = fromSwcResult join v.roots v.cbs v.fs := by
  obtain ⟨v', e, h8, hc⟩ := fs_for5_loop find join v.roots 0 { v with c8_ := [] } (by simp [h])
  have e' : forEach (pops_from_swc.for5 readLog find join) (Py.enumFrom 0 v.roots) { v with c8_ := [] } = _ := e
  simp only [tailK, Py.enumerate, seq, bindS, Py.bind, fromSwcResult, e', pops_init_eq, h8, List.drop_zero, List.nil_append]
  cases Py.minInt ((List.zipWith (build1 join) v.roots v.fs).map (fun p => (p.trees.swcs.length : Int))) <;> simp [finish, hc]

/-- non-vacuity (kernel-evaluated): two roots with the matched names [5, 7] — files 105, 107 / 205, 207, the first of each probed -/
example : (Py.finish default (tailK (fun _ => []) (fun d p => (if d = "a" then 100 else 200) + p)
      { (default : pops_from_swc.V (List Int)) with roots := ["a", "b"], fs := [[5, 7], [5, 7]], cbs := [] })).map (fun r => (r.1.cbs, r.2.len, r.2.populations.map (·.trees.swcs))) =
    some ([105, 205], 2, [[105, 107], [205, 207]]) := by decide +kernel

/-- **`Populations.from_swc` as translated, without `intersect` and without `check_same`** (every list of roots, every listing function, every
`join`): population `i` holds the files `join(roots[i], p)` for `p` in ITS OWN listing, in listing order -/
theorem pops_from_swc_plain (find : String → List Int) (join : String → Int → Int) (roots : List String) (log : List Int) :
    pops_from_swc readLog find join roots false false log = fromSwcResult join roots log (roots.map find) := by
  have hb : pops_from_swc.body readLog find join = Py.seq _ (Py.seq _ (tailK find join)) := rfl
  unfold pops_from_swc
  rw [hb]
  simp only [seq, bindS, fs_for1_loop, List.nil_append, Bool.false_eq_true, if_false, skip]
  exact pops_from_swc_tail find join _ (by simp)

/-- **`Populations.from_swc(…, intersect=False, check_same=True)` as translated**: AssertionError (`none`) unless every listing EQUALS the first
(same names, same order); then as without the check -/
theorem pops_from_swc_check (find : String → List Int) (join : String → Int → Int) (roots : List String) (log : List Int) :
    pops_from_swc readLog find join roots false true log =
      if Py.allB (((roots.map find).drop 1).map (fun a => decide ((roots.map find).headD [] = a))) then fromSwcResult join roots log (roots.map find)
      else none := by
  have hb : pops_from_swc.body readLog find join = Py.seq _ (Py.seq _ (tailK find join)) := rfl
  unfold pops_from_swc
  rw [hb]
  simp only [seq, bindS, fs_for1_loop, List.nil_append, Bool.false_eq_true, if_false, if_true]
  cases roots with
  | nil => exact pops_from_swc_tail find join _ rfl
  | cons r rs =>
    simp only [List.map_cons, List.drop_succ_cons, List.drop_zero, List.headD_cons]
    rw [fs_for3_loop find join (find r)]
    · simp only [List.nil_append]
      cases Py.allB ((rs.map find).map fun a => decide (find r = a))
      · rfl
      · exact pops_from_swc_tail find join _ (by simp)
    · exact Py.idx_head _

/-- **`Populations.from_swc(…, intersect=True)` as translated** (`check_same` is then not looked at): TypeError (`none`) on no root; otherwise EVERY
population is built from the SAME names `interAll` (the listing itself for one root, the running set intersection for more), in the same order -/
theorem pops_from_swc_intersect (find : String → List Int) (join : String → Int → Int) (roots : List String) (check : Bool) (log : List Int) :
    pops_from_swc readLog find join roots true check log =
      (interAll (roots.map find)).bind fun I => fromSwcResult join roots log (roots.map (fun _ => I)) := by
  have hb : pops_from_swc.body readLog find join = Py.seq _ (Py.seq _ (tailK find join)) := rfl
  unfold pops_from_swc interAll
  rw [hb]
  simp only [seq, bindS, fs_for1_loop, List.nil_append, if_true, Py.bind]
  cases Py.reduce1 _ (roots.map find) with
  | none => rfl
  | some I =>
    simp only [Option.bind_some]
    -- the warning about an empty intersection changes no variable that is read afterwards
    cases decide (Py.len I = 0) <;>
      simp only [Bool.false_eq_true, if_false, if_true, skip, fs_for2_loop, List.nil_append] <;>
      exact pops_from_swc_tail find join _ (by simp)

/-- **`Populations.from_swc` (`labels=None`) as translated — what the matching returns for EVERY list of roots, every listing function, every
`join`, both flags**: the listings `fs0 = [find_swcs(d) for d in roots]` are matched by `matched` (`intersect`: every root gets `interAll fs0`,
TypeError on no root; else `check_same`: AssertionError unless all listings equal the first; else each its own), then one
`Population(LazyLoadingTrees([join(d, p) for p in fs[i]]), root=d)` per root in order — each constructor reads only its first file —
and `Populations(...)` (`len` = the least length, ValueError on no root, empty labels) -/
theorem pops_from_swc_refines (find : String → List Int) (join : String → Int → Int) (roots : List String) (inter check : Bool) (log : List Int) :
    pops_from_swc readLog find join roots inter check log =
      (matched (roots.map find) inter check).bind (fromSwcResult join roots log) := by
  cases inter with
  | true =>
    rw [pops_from_swc_intersect]
    cases hI : interAll (roots.map find) <;> simp [matched, hI, List.map_map, Function.comp_def]
  | false =>
    cases check with
    | true => rw [pops_from_swc_check]; simp only [matched, Bool.false_eq_true, if_false, if_true]; split <;> simp
    | false => rw [pops_from_swc_plain]; simp [matched]

theorem mem_interAll (x : List Int) (xs : List (List Int)) (hx : xs ≠ []) (m : Int) :
    (∃ I, interAll (x :: xs) = some I ∧ (m ∈ I ↔ m ∈ x ∧ ∀ f ∈ xs, m ∈ f)) := by
  refine ⟨_, rfl, ?_⟩
  have key : ∀ (ys : List (List Int)) (acc : List Int),
      (m ∈ ys.foldl (fun a b => Py.Set.inter (Py.Set.ofList a) (Py.Set.ofList b)) acc ↔ m ∈ acc ∧ ∀ f ∈ ys, m ∈ f) := by
    intro ys
    induction ys with
    | nil => intro acc; simp
    | cons y ys ih =>
      intro acc
      rw [List.foldl_cons, ih]
      simp only [Py.Set.inter, List.mem_filter, List.contains_iff_mem, RefineCut.mem_ofList, List.mem_cons, forall_eq_or_imp]
      exact and_assoc
  exact key xs x

/-- **matching several directories yields rows of same-named files**: when every root is given the SAME list of names `I` (what `matched`
yields under `intersect=True`, the default — `pops_from_swc_intersect`), the populations `fromSwcResult` builds are `build1 join d I` for the
roots `d` in order, and the files of each are `join(d, I[j])` in the order of `I`; so row `j` consists of `join(d, I[j])` for each root `d` -/
theorem from_swc_rows (join : String → Int → Int) (roots : List String) (I : List Int) :
    List.zipWith (build1 join) roots (roots.map (fun _ => I)) = roots.map (fun d => build1 join d I) ∧
    ∀ d, (build1 join d I).trees.swcs = I.map (join d) := by
  constructor
  · induction roots with
    | nil => rfl
    | cons a rs ih => simp [ih]
  · intro d; rfl

/-- non-vacuity (kernel-evaluated): two roots, listings [1, 2, 3] and [3, 1]: common names [1, 3] (order of the first listing), files `100·root + name` -/
example : (pops_from_swc readLog (fun d => if d = "a" then [1, 2, 3] else [3, 1]) (fun d p => (if d = "a" then 100 else 200) + p) ["a", "b"] true false []).map
      (fun r => (r.1, r.2.len, r.2.populations.map (·.trees.swcs))) = some ([101, 201], 2, [[101, 103], [201, 203]]) := by decide +kernel
example : pops_from_swc readLog (fun d => if d = "a" then [1, 2, 3] else [3, 1]) (fun _ p => p) ["a", "b"] false true [] = none := by decide +kernel

end RefineFromSwc
