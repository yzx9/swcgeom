import SwcVerif.Refine.PyLemmas
import SwcVerif.Refine.PyRun
import Mathlib.Order.Basic
import Mathlib.Order.Defs.LinearOrder
/-! Specification lemmas for the numeric / 2-d / masked array part of `Model/Py.lean` (`mapOpt`, `full`, `full2`, `idx` / `idx2` at a
position given as a `Nat`, `setIdx2`, `setRowConst`, `setRow`, `setColConst`, `bcastCol`, `unravelIndex`, `maArgmin`). -/
namespace Py
variable {α β γ : Type}

theorem full_nat (n : Nat) (c : α) : full (n : Int) c = some (List.replicate n c) := by
  simp [full]

theorem full_neg (n : Int) (c : α) (h : n < 0) : full n c = none := by
  simp [full, h]

theorem full2_nat (r k : Nat) (c : α) : full2 (r : Int) (k : Int) c = some (List.replicate r (List.replicate k c)) := by
  have h1 : ¬ ((r : Int) < 0) := by omega
  have h2 : ¬ ((k : Int) < 0) := by omega
  simp [full2, h1, h2]

theorem idx2_nat (m : List (List α)) (i j : Nat) (d : α) (hi : i < m.length) (hj : j < (m.getD i []).length) :
    idx2 m (i : Int) (j : Int) = some ((m.getD i []).getD j d) := by
  simp only [idx2, idx_nat_getD m i [] hi, Option.bind_some, idx_nat_getD _ j d hj]

theorem setIdx2_nat (m : List (List α)) (i j : Nat) (x : α) (hi : i < m.length) (hj : j < (m.getD i []).length) :
    setIdx2 m (i : Int) (j : Int) x = some (m.set i ((m.getD i []).set j x)) := by
  simp only [setIdx2, idx_nat_getD m i [] hi, Option.bind_some, setIdx_nat _ j x hj, setIdx_nat m i _ hi]

theorem setRowConst_nat (m : List (List α)) (i : Nat) (c : α) (hi : i < m.length) :
    setRowConst m (i : Int) c = some (m.set i (List.replicate (m.getD i []).length c)) := by
  simp only [setRowConst, idx_nat_getD m i [] hi, Option.bind_some, setIdx_nat m i _ hi]
  congr 2
  exact List.map_const'

theorem broadcastTo_same (r : List α) : broadcastTo r r.length = some r := by
  simp [broadcastTo]

theorem setRow_nat (m : List (List α)) (i : Nat) (r : List α) (hi : i < m.length) (hr : r.length = (m.getD i []).length) :
    setRow m (i : Int) r = some (m.set i r) := by
  simp only [setRow, idx_nat_getD m i [] hi, Option.bind_some, ← hr, broadcastTo_same, setIdx_nat m i _ hi]

theorem setColConst_nat (m : List (List α)) (j : Nat) (c : α) (h : ∀ r ∈ m, j < r.length) :
    setColConst m (j : Int) c = some (m.map fun row => row.set j c) :=
  mapOpt_total _ _ m (fun r hr => setIdx_nat r j c (h r hr))

theorem bcastCol_same (f : α → β → γ) (m : List (List α)) (c : List β) (h : m.length = c.length) :
    bcastCol f m c = some (List.zipWith (fun row x => row.map (f · x)) m c) := by
  simp [bcastCol, h]

theorem unravelIndex_nat (i j n : Nat) (hi : i < n) (hj : j < n) :
    unravelIndex ((i * n + j : Nat) : Int) ((n : Int), (n : Int)) = some ((i : Int), (j : Int)) := by
  have h : i * n + j < n * n :=
    calc i * n + j < (i + 1) * n := by rw [Nat.succ_mul]; exact Nat.add_lt_add_left hj _
      _ ≤ n * n := Nat.mul_le_mul_right n hi
  have h' : ((i * n + j : Nat) : Int) < (n : Int) * (n : Int) := by exact_mod_cast h
  rw [unravelIndex, if_pos ⟨Int.natCast_nonneg _, h'⟩]
  simp only [Int.toNat_natCast]
  rw [Nat.mul_comm i n, Nat.mul_add_div (Nat.zero_lt_of_lt hi), Nat.div_eq_of_lt hj, Nat.mul_add_mod, Nat.mod_eq_of_lt hj]
  rfl

/-! ### `maArgmin`: the FIRST least unmasked cell in row-major order -/
section argmin
variable {K : Type} [LinearOrder K]

theorem argminFrom_append (xs ys : List (K × Bool)) : ∀ (k : Nat) (b : Option (K × Nat)),
    argminFrom (xs ++ ys) k b = argminFrom ys (k + xs.length) (argminFrom xs k b) := by
  induction xs with
  | nil => intro k b; rfl
  | cons x xs ih =>
    intro k b
    rw [List.cons_append, argminFrom, ih, List.length_cons, argminFrom, Nat.add_right_comm, Nat.add_assoc]

/-- `b` describes the first least unmasked cell of `l` (`none`: every cell of `l` is masked) -/
def Best (l : List (K × Bool)) : Option (K × Nat) → Prop
  | none => ∀ (p : Nat) (y : K) (m : Bool), l[p]? = some (y, m) → m = true
  | some (c, k) => l[k]? = some (c, false) ∧ ∀ (p : Nat) (y : K), l[p]? = some (y, false) → c ≤ y ∧ (p < k → c < y)

theorem getElem?_concat_eq_some (pre : List α) (x z : α) (p : Nat) :
    (pre ++ [x])[p]? = some z ↔ pre[p]? = some z ∨ (p = pre.length ∧ x = z) := by
  rcases Nat.lt_trichotomy p pre.length with h | h | h
  · rw [List.getElem?_append_left h]
    exact ⟨Or.inl, fun h' => h'.elim id fun h'' => absurd h''.1 (Nat.ne_of_lt h)⟩
  · subst h
    rw [List.getElem?_concat_length, List.getElem?_eq_none (Nat.le_refl _), Option.some.injEq]
    exact ⟨fun h' => Or.inr ⟨rfl, h'⟩, fun h' => h'.elim nofun (·.2)⟩
  · rw [List.getElem?_eq_none (by rw [List.length_append]; exact h), List.getElem?_eq_none (Nat.le_of_lt h)]
    exact ⟨nofun, fun h' => h'.elim nofun fun h'' => absurd h''.1 (Nat.ne_of_gt h)⟩

theorem best_keep {pre : List (K × Bool)} {b : Option (K × Nat)} (h : Best pre b) (x : K × Bool)
    (hx : x.2 = true ∨ ∃ c k, b = some (c, k) ∧ c ≤ x.1) : Best (pre ++ [x]) b := by
  match b, h with
  | none, h =>
    intro p y m hp
    rcases (getElem?_concat_eq_some pre _ _ _).mp hp with h' | ⟨_, rfl⟩
    · exact h p y m h'
    · exact hx.resolve_right fun ⟨_, _, e, _⟩ => nomatch e
  | some (c, k), ⟨h1, h2⟩ =>
    refine ⟨(getElem?_concat_eq_some pre _ _ _).mpr (Or.inl h1), fun p y hp => ?_⟩
    rcases (getElem?_concat_eq_some pre _ _ _).mp hp with h' | ⟨rfl, rfl⟩
    · exact h2 p y h'
    · obtain ⟨_, _, e, hle⟩ := hx.resolve_left Bool.false_ne_true
      cases e
      exact ⟨hle, fun hc => absurd hc (Nat.lt_asymm (List.getElem?_eq_some_iff.mp h1).1)⟩

theorem best_new {pre : List (K × Bool)} (xv : K) (h : ∀ (p : Nat) (y : K), pre[p]? = some (y, false) → xv < y) :
    Best (pre ++ [(xv, false)]) (some (xv, pre.length)) := by
  refine ⟨List.getElem?_concat_length, fun p y hp => ?_⟩
  rcases (getElem?_concat_eq_some pre _ _ _).mp hp with h' | ⟨rfl, h'⟩
  · exact ⟨le_of_lt (h p y h'), fun _ => h p y h'⟩
  · cases h'; exact ⟨le_refl _, fun hc => absurd hc (Nat.lt_irrefl _)⟩

theorem best_step (pre : List (K × Bool)) (x : K × Bool) (b : Option (K × Nat)) (h : Best pre b) :
    Best (pre ++ [x]) (argminStep b x pre.length) := by
  obtain ⟨xv, xm⟩ := x
  cases xm with
  | true => exact best_keep h _ (Or.inl rfl)
  | false =>
    match b, h with
    | none, h => exact best_new xv fun p y hp => nomatch h p y false hp
    | some (c, k), h =>
      show Best _ (if xv < c then some (xv, pre.length) else some (c, k))
      by_cases hlt : xv < c
      · rw [if_pos hlt]; exact best_new xv fun p y hp => lt_of_lt_of_le hlt (h.2 p y hp).1
      · rw [if_neg hlt]; exact best_keep h _ (Or.inr ⟨c, k, rfl, not_lt.mp hlt⟩)

theorem best_from : ∀ (xs pre : List (K × Bool)) (b : Option (K × Nat)), Best pre b →
    Best (pre ++ xs) (argminFrom xs pre.length b) := by
  intro xs
  induction xs with
  | nil => intro pre b h; simpa [argminFrom] using h
  | cons x xs ih =>
    intro pre b h
    have := ih (pre ++ [x]) _ (best_step pre x b h)
    simpa [argminFrom] using this

/-- **specification of `a.argmin()` on a masked array** (row-major cells `maCells a`): an empty array raises; otherwise the result is a
valid flat index `k`; if some cell is unmasked, cell `k` is unmasked, no unmasked cell is smaller, and every unmasked cell before it is
strictly larger (the FIRST minimum); if every cell is masked the result is `0` -/
theorem maArgmin_spec (a : Masked2 K) :
    (maCells a = [] → maArgmin a = none) ∧
    (maCells a ≠ [] → ∃ k : Nat, maArgmin a = some (k : Int) ∧ k < (maCells a).length ∧
      ((∀ (p : Nat) (y : K) (m : Bool), (maCells a)[p]? = some (y, m) → m = true) → k = 0) ∧
      ((∃ (p : Nat) (y : K), (maCells a)[p]? = some (y, false)) →
        ∃ c, (maCells a)[k]? = some (c, false) ∧ ∀ (p : Nat) (y : K), (maCells a)[p]? = some (y, false) → c ≤ y ∧ (p < k → c < y))) := by
  constructor
  · intro h; simp [maArgmin, h]
  · intro hne
    have hb := best_from (maCells a) [] none (by simp [Best])
    simp only [List.nil_append, List.length_nil] at hb
    have hpos : 0 < (maCells a).length := List.length_pos_iff.mpr hne
    have hemp : (maCells a).isEmpty = false := by simpa using hne
    match hr : argminFrom (maCells a) 0 none, hb with
    | none, hb =>
      exact ⟨0, by simp [maArgmin, hemp, hr], hpos, fun _ => rfl, fun ⟨p, y, hp⟩ => (nomatch hb p y false hp)⟩
    | some (c, k), ⟨h1, h2⟩ =>
      exact ⟨k, by simp [maArgmin, hemp, hr], (List.getElem?_eq_some_iff.mp h1).1, fun hall => (nomatch hall k c false h1),
        fun _ => ⟨c, h1, h2⟩⟩
end argmin

end Py
