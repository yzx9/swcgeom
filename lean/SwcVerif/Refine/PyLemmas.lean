import SwcVerif.Model.Py
import SwcVerif.Model.PyMore
import SwcVerif.Model.PyNonzero
/-! Generic lemmas about the functions of `Model/Py.lean` (indexing, dictionaries, masks, one pass of a `while` loop), used by every
refinement proof. Running a translated body and the `for` loops are in `Refine/PyRun.lean`. -/
namespace Py
variable {V R α β : Type}

theorem normIdx_nat (n k : Nat) (h : k < n) : normIdx n (k : Int) = some k := by
  simp [normIdx, h]

theorem normIdx_nat_none (n k : Nat) (h : ¬ k < n) : normIdx n (k : Int) = none := by
  simp [normIdx, h]

theorem idx_natCast (l : List α) (k : Nat) : idx l (k : Int) = l[k]? := by
  by_cases h : k < l.length <;> simp [idx, normIdx, h]

theorem idx_nat (l : List α) (k : Nat) (_ : k < l.length) : idx l (k : Int) = l[k]? := idx_natCast l k

theorem idx_nat_none (l : List α) (k : Nat) (h : ¬ k < l.length) : idx l (k : Int) = none := by
  rw [idx_natCast, List.getElem?_eq_none (Nat.le_of_not_lt h)]

theorem setIdx_nat (l : List α) (k : Nat) (v : α) (h : k < l.length) : setIdx l (k : Int) v = some (l.set k v) := by
  simp [setIdx, normIdx_nat _ _ h]

@[simp] theorem range_natCast (n : Nat) : range (n : Int) = (List.range n).map (fun (k : Nat) => (k : Int)) := by
  simp [range]

@[simp] theorem len_eq (l : List α) : len l = (l.length : Int) := rfl

theorem pop_append (l : List α) (x : α) : pop (l ++ [x]) = some (l, x) := by
  simp [pop]

@[simp] theorem pop_nil : pop ([] : List α) = none := rfl

theorem distinct_iff : ∀ l : List Int, distinct l = true ↔ l.Nodup
  | [] => by simp [distinct]
  | x :: xs => by simp [distinct, distinct_iff xs]

/-- `np.nonzero(l == x)[0][0]`, counted from `k`: the first position of `x` in `l`, IndexError when there is none -/
theorem nonzeroFrom_eqMask : ∀ (l : List Int) (x k : Int),
    (nonzeroFrom k (eqMask l x)).head? = if l.idxOf x < l.length then some (k + (l.idxOf x : Nat)) else none
  | [], _, _ => rfl
  | a :: l, x, k => by
    have ih := nonzeroFrom_eqMask l x (k + 1)
    rw [eqMask] at ih ⊢
    rw [List.map_cons, nonzeroFrom]
    by_cases h : a = x
    · simp [h]
    · simp [h, ih, List.idxOf_cons, beq_false_of_ne h, Int.add_assoc, Int.add_comm 1]

theorem whileF_next (cond : V → Option Bool) (body : V → Res V R) (f : Nat) (v v' : V)
    (hc : cond v = some true) (hb : body v = .next v') : whileF cond body (f + 1) v = whileF cond body f v' := by
  simp [whileF, hc, hb]

theorem whileF_brk (cond : V → Option Bool) (body : V → Res V R) (f : Nat) (v v' : V)
    (hc : cond v = some true) (hb : body v = .brk v') : whileF cond body (f + 1) v = .next v' := by
  simp [whileF, hc, hb]

theorem whileF_done (cond : V → Option Bool) (body : V → Res V R) (f : Nat) (v : V)
    (hc : cond v = some false) : whileF cond body (f + 1) v = .next v := by
  simp [whileF, hc]

end Py

namespace Py.Dict
variable {κ ν : Type} [DecidableEq κ]

@[simp] theorem get?_nil (k : κ) : get? ([] : Dict κ ν) k = none := rfl

theorem get?_cons (p : κ × ν) (d : Dict κ ν) (k : κ) :
    get? (p :: d) k = if p.1 = k then some p.2 else get? d k := by
  simp only [get?, List.find?_cons]
  by_cases h : p.1 = k <;> simp [h]

theorem get?_append_singleton (d : Dict κ ν) (k k' : κ) (v : ν) :
    get? (d ++ [(k, v)]) k' = match get? d k' with | some x => some x | none => if k = k' then some v else none := by
  induction d with
  | nil => simp [get?_cons]
  | cons p d ih =>
    simp only [List.cons_append, get?_cons]
    by_cases h : p.1 = k' <;> simp [h, ih]

theorem get?_map_set (d : Dict κ ν) (k k' : κ) (v : ν) :
    get? (d.map (fun p => if p.1 = k then (k, v) else p)) k' =
      if k' = k then (get? d k).map (fun _ => v) else get? d k' := by
  induction d with
  | nil => simp
  | cons p d ih =>
    simp only [List.map_cons, get?_cons]
    by_cases hp : p.1 = k
    · by_cases hk : k' = k
      · subst hk; simp [hp]
      · have : ¬ k = k' := fun c => hk c.symm
        have : ¬ p.1 = k' := fun c => hk (by rw [← c, hp])
        simp [hp, hk, *, ih]
    · by_cases hk : k' = k
      · subst hk; simp [hp, ih]
      · by_cases hq : p.1 = k' <;> simp [hp, hk, hq, ih]

/-- `d[k] = v` then read -/
theorem get?_set (d : Dict κ ν) (k k' : κ) (v : ν) : get? (set d k v) k' = if k' = k then some v else get? d k' := by
  unfold set contains
  cases h : get? d k with
  | none =>
    simp only [Option.isSome_none, Bool.false_eq_true, if_false, get?_append_singleton]
    by_cases hk : k' = k
    · subst hk; simp [h]
    · have : ¬ k = k' := fun c => hk c.symm
      cases get? d k' <;> simp [hk, this]
  | some x =>
    simp only [Option.isSome_some, if_true, get?_map_set, h]
    by_cases hk : k' = k <;> simp [hk]

theorem get?_setdefault (d : Dict κ ν) (k k' : κ) (v : ν) :
    get? (setdefault d k v) k' = match get? d k' with | some x => some x | none => if k' = k then some v else none := by
  unfold setdefault contains
  cases h : get? d k with
  | none =>
    simp only [Option.isSome_none, Bool.false_eq_true, if_false, get?_append_singleton]
    by_cases hk : k' = k
    · subst hk; simp [h]
    · have : ¬ k = k' := fun c => hk c.symm
      cases get? d k' <;> simp [hk, this]
  | some x =>
    simp only [Option.isSome_some, if_true]
    by_cases hk : k' = k
    · subst hk; simp [h]
    · cases get? d k' <;> simp [hk]

theorem get?_filter_ne (d : Dict κ ν) (k k' : κ) :
    get? (d.filter (fun p => p.1 ≠ k)) k' = if k' = k then none else get? d k' := by
  induction d with
  | nil => simp
  | cons p d ih =>
    simp only [ne_eq, decide_not] at ih ⊢
    simp only [List.filter_cons]
    by_cases hp : p.1 = k
    · by_cases hk : k' = k
      · subst hk; simpa [hp] using ih
      · have h1 : ¬ p.1 = k' := fun c => hk (by rw [← c, hp])
        have h2 : ¬ k = k' := fun c => hk c.symm
        simp [hp, hk, ih, get?_cons, h2]
    · by_cases hk : k' = k
      · subst hk; simpa [hp, get?_cons] using ih
      · simp [hp, hk, ih, get?_cons]

@[simp] theorem get?_filter_ne' (d : Dict κ ν) (k k' : κ) :
    get? (d.filter (fun p => !decide (p.1 = k))) k' = if k' = k then none else get? d k' := by
  have := get?_filter_ne d k k'
  simpa only [ne_eq, decide_not] using this

/-- `d.pop(k)` succeeds exactly on a present key, returns its value and removes the key -/
theorem pop_of_get? (d : Dict κ ν) (k : κ) (x : ν) (h : get? d k = some x) :
    pop d k = some (d.filter (fun p => p.1 ≠ k), x) := by
  simp [pop, h]

theorem pop_none (d : Dict κ ν) (k : κ) (h : get? d k = none) : pop d k = none := by
  simp [pop, h]

theorem get?_foldl_set_not_mem : ∀ (zs : List (κ × ν)) (d : Dict κ ν) (k : κ), k ∉ zs.map (·.1) →
    get? (zs.foldl (fun d p => set d p.1 p.2) d) k = get? d k := by
  intro zs
  induction zs with
  | nil => intro d k _; rfl
  | cons z zs ih =>
    intro d k hk
    simp only [List.map_cons, List.mem_cons, not_or] at hk
    simp only [List.foldl_cons]
    rw [ih _ k hk.2, get?_set, if_neg hk.1]

theorem get?_foldl_set_zip : ∀ (ks : List κ) (vs : List ν) (d : Dict κ ν), ks.Nodup → ks.length ≤ vs.length → ∀ x ∈ ks,
    get? ((List.zip ks vs).foldl (fun d p => set d p.1 p.2) d) x = vs[ks.idxOf x]? := by
  intro ks
  induction ks with
  | nil => intro vs d _ _ x hx; simp at hx
  | cons k ks ih =>
    intro vs d hnd hlen x hx
    cases vs with
    | nil => simp at hlen
    | cons w ws =>
      rw [List.nodup_cons] at hnd
      simp only [List.zip_cons_cons, List.foldl_cons]
      by_cases hxk : x = k
      · subst hxk
        have : x ∉ (List.zip ks ws).map (·.1) := by
          intro hm
          obtain ⟨z, hz, rfl⟩ := List.mem_map.1 hm
          exact hnd.1 (List.of_mem_zip hz).1
        rw [get?_foldl_set_not_mem _ _ _ this, get?_set]
        simp
      · have hxs : x ∈ ks := by
          simp only [List.mem_cons] at hx
          rcases hx with h | h
          · exact absurd h hxk
          · exact h
        rw [ih ws _ hnd.2 (by simpa using hlen) x hxs]
        have : (k :: ks).idxOf x = ks.idxOf x + 1 := by
          have hkx : (k == x) = false := by simp; exact fun c => hxk c.symm
          simp [List.idxOf_cons, hkx]
        rw [this]
        simp

theorem get?_ofZip_not_mem (ks : List κ) (vs : List ν) (x : κ) (h : x ∉ ks) : get? (ofZip ks vs) x = none := by
  unfold ofZip
  rw [get?_foldl_set_not_mem]
  · rfl
  · intro hm
    obtain ⟨z, hz, rfl⟩ := List.mem_map.1 hm
    exact h (List.of_mem_zip hz).1

/-- `dict(zip(ks, vs))` with distinct keys -/
theorem get?_ofZip (ks : List κ) (vs : List ν) (hnd : ks.Nodup) (hlen : ks.length ≤ vs.length) (x : κ) (hx : x ∈ ks) :
    get? (ofZip ks vs) x = vs[ks.idxOf x]? :=
  get?_foldl_set_zip ks vs [] hnd hlen x hx

theorem getD_eq (d : Dict κ ν) (k : κ) (dv : ν) : getD d k dv = (get? d k).getD dv := rfl

theorem get?_setdefault_self (d : Dict κ ν) (k : κ) (x : ν) : get? (setdefault d k x) k = some (getD d k x) := by
  rw [get?_setdefault, getD_eq]
  cases get? d k <;> simp

theorem getD_setdefault (d : Dict κ ν) (k k' : κ) (x : ν) : getD (setdefault d k x) k' x = getD d k' x := by
  rw [getD_eq, getD_eq, get?_setdefault]
  cases get? d k' <;> by_cases h : k' = k <;> simp [h]

theorem contains_iff (d : Dict κ ν) (k : κ) : contains d k = true ↔ k ∈ d.map (·.1) := by
  unfold contains get?
  induction d with
  | nil => simp
  | cons p d ih =>
    simp only [List.find?_cons, List.map_cons, List.mem_cons]
    by_cases h : p.1 = k
    · simp [h]
    · have h' : ¬ k = p.1 := fun c => h c.symm
      simp only [h, decide_false, Bool.false_eq_true, if_false, h', false_or] at *
      exact ih

theorem mem_setdefault (d : Dict κ ν) (k : κ) (v : ν) (q : κ × ν) :
    q ∈ setdefault d k v ↔ q ∈ d ∨ (k ∉ d.map (·.1) ∧ q = (k, v)) := by
  unfold setdefault
  by_cases h : contains d k = true
  · have := (contains_iff d k).1 h
    simp [h, this]
  · have hn : k ∉ d.map (·.1) := fun c => h ((contains_iff d k).2 c)
    simp [h, hn]

theorem keys_setdefault (d : Dict κ ν) (p : κ) (x : ν) (k : κ) :
    k ∈ (setdefault d p x).map (·.1) ↔ k ∈ d.map (·.1) ∨ k = p := by
  unfold setdefault
  by_cases h : contains d p = true
  · rw [if_pos h]
    exact ⟨Or.inl, fun c => c.elim id (· ▸ (contains_iff d p).1 h)⟩
  · rw [if_neg h]; simp

theorem mem_set_of_mem (d : Dict κ ν) (k : κ) (v : ν) (hk : k ∈ d.map (·.1)) (q : κ × ν) :
    q ∈ set d k v ↔ (q ∈ d ∧ q.1 ≠ k) ∨ q = (k, v) := by
  unfold set
  rw [if_pos ((contains_iff d k).2 hk)]
  simp only [List.mem_map]
  constructor
  · rintro ⟨p, hp, rfl⟩
    by_cases h : p.1 = k
    · simp [h]
    · simp [h, hp]
  · rintro (⟨hq, hne⟩ | rfl)
    · exact ⟨q, hq, by simp [hne]⟩
    · obtain ⟨p, hp, hpk⟩ := List.mem_map.1 hk
      exact ⟨p, hp, by simp [hpk]⟩

theorem keys_set_of_mem (d : Dict κ ν) (k : κ) (v : ν) (hk : k ∈ d.map (·.1)) (k' : κ) :
    k' ∈ (set d k v).map (·.1) ↔ k' ∈ d.map (·.1) := by
  simp only [List.mem_map]
  constructor
  · rintro ⟨q, hq, rfl⟩
    rcases (mem_set_of_mem d k v hk q).1 hq with ⟨h, _⟩ | rfl
    · exact ⟨q, h, rfl⟩
    · simpa using hk
  · rintro ⟨q, hq, rfl⟩
    by_cases h : q.1 = k
    · exact ⟨(k, v), (mem_set_of_mem d k v hk _).2 (Or.inr rfl), h.symm⟩
    · exact ⟨q, (mem_set_of_mem d k v hk q).2 (Or.inl ⟨hq, h⟩), rfl⟩

theorem get?_of_forall (d : Dict κ ν) (f : κ → ν) (h : ∀ p ∈ d, p.2 = f p.1) (k : κ) (hk : k ∈ d.map (·.1)) :
    get? d k = some (f k) := by
  induction d with
  | nil => simp at hk
  | cons p d ih =>
    rw [get?_cons]
    by_cases hp : p.1 = k
    · simp only [hp, if_true]
      rw [← hp]
      exact congrArg some (h p List.mem_cons_self)
    · simp only [hp, if_false]
      simp only [List.map_cons, List.mem_cons] at hk
      rcases hk with hk | hk
      · exact absurd hk.symm hp
      · exact ih (fun q hq => h q (List.mem_cons_of_mem _ hq)) hk

theorem get?_none_of_not_mem (d : Dict κ ν) (k : κ) (hk : k ∉ d.map (·.1)) : get? d k = none := by
  have : contains d k ≠ true := fun c => hk ((contains_iff d k).1 c)
  unfold contains at this
  cases h : get? d k with
  | none => rfl
  | some x => simp [h] at this

theorem get?_mem (d : Dict κ ν) (k : κ) (a : ν) (hg : get? d k = some a) : (k, a) ∈ d := by
  obtain ⟨⟨k', a'⟩, hp, rfl⟩ := Option.map_eq_some_iff.1 hg
  obtain rfl : k' = k := by simpa using List.find?_some hp
  exact List.mem_of_find?_eq_some hp

theorem get?_append (d e : Dict κ ν) (k : κ) : get? (d ++ e) k = (get? d k).or (get? e k) := by
  simp only [get?, List.find?_append, Option.map_or]

theorem set_fresh (d : Dict κ ν) (k : κ) (r : ν) (hk : k ∉ d.map (·.1)) : set d k r = d ++ [(k, r)] := by
  simp [set, contains, get?_none_of_not_mem d k hk]

theorem set_fresh_cons {k : κ} {ks : List κ} (hnd : (k :: ks).Nodup) {d : Dict κ ν}
    (hd : ∀ k' ∈ k :: ks, k' ∉ d.map (·.1)) (r : ν) :
    set d k r = d ++ [(k, r)] ∧ ∀ k' ∈ ks, k' ∉ (d ++ [(k, r)]).map (·.1) := by
  refine ⟨set_fresh d k r (hd k List.mem_cons_self), fun k' hk' => ?_⟩
  simp only [List.map_append, List.map_cons, List.map_nil, List.mem_append, List.mem_singleton, not_or]
  exact ⟨hd k' (List.mem_cons_of_mem _ hk'), fun c => (List.nodup_cons.1 hnd).1 (c ▸ hk')⟩

end Py.Dict
