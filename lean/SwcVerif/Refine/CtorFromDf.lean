import SwcVerif.Refine.CtorInit
/-! Refinement for `Tree.from_data_frame` as translated (`Gen/AlgoCtorInit.lean`): the columns are gathered in the order "standard names, then the
frame's other columns" and handed to the translated constructor.  Namespace `RefineCtorInit`, continued from `Refine/CtorInit.lean`. -/
namespace RefineCtorInit
open Gen.Algo Py

/-- `{k: df[k].to_numpy() for k in cols}` (`none` = KeyError) -/
def gatherCols (df : Dict String Arr) : List String → Dict String Arr → Option (Dict String Arr)
  | [], acc => some acc
  | k :: ks, acc => (Dict.get? df k).bind fun a => gatherCols df ks (Dict.set acc k a)

/-- the column order of `from_data_frame` -/
def dfCols (df : Dict String Arr) : List String :=
  STD.map (·.1) ++ (df.map (·.1)).filter fun k => !(STD.map (·.1)).contains k

theorem for1_loop (df : Dict String Arr) : ∀ (ks : List String) (v : from_data_frame.V), v.df = df →
    Py.forEach from_data_frame.for1 ks v =
      match gatherCols df ks v.c0_ with
      | some D => .next { v with c0_ := D, k := ks.getLast?.getD v.k }
      | none => .err
  | [], v, _ => rfl
  | k :: ks, v, hv => by
    subst hv
    simp only [gatherCols, Py.forEach, from_data_frame.for1]
    cases Dict.get? v.df k with
    | none => rfl
    | some a =>
      simp only [bind_some, Option.bind_some]
      rw [for1_loop v.df ks { v with k := k, c0_ := Dict.set v.c0_ k a } rfl]
      cases ks <;> rfl

/-- **`Tree.from_data_frame(df)` as translated** = the translated constructor on the gathered columns (row count `n`) -/
theorem from_data_frame_eq (h : Bufs) (df : Dict String Arr) (n : Int) :
    from_data_frame h df n = (gatherCols df (dfCols df) []).bind fun D => (tree_init h n D).map fun r => (r.1, r.2.1) := by
  have hc : (["id", "type", "x", "y", "z", "r", "pid"] ++
      List.filter (fun k_b => !(["id", "type", "x", "y", "z", "r", "pid"] : List String).contains k_b) (df.map (·.1))) = dfCols df := rfl
  simp only [from_data_frame, from_data_frame.body, seq_eq_bindS, bindS_next, hc]
  rw [for1_loop df _ _ rfl]
  cases gatherCols df (dfCols df) [] with
  | none => rfl
  | some D =>
    simp only [bindS_next, Option.bind_some]
    cases tree_init h n D <;> rfl

/-- the value `df[k]` as a total function (the default is never used where it matters) -/
def colOf (df : Dict String Arr) (k : String) : Arr := (Dict.get? df k).getD default

theorem colOf_eq {df : Dict String Arr} {k : String} {a : Arr} (ha : Dict.get? df k = some a) : colOf df k = a := by
  rw [colOf, ha]; rfl

theorem gatherCols_ok (df : Dict String Arr) : ∀ (ks : List String) (acc : Dict String Arr), ks.Nodup →
    (∀ k ∈ ks, k ∉ acc.map (·.1)) → (∀ k ∈ ks, ∃ a, Dict.get? df k = some a) →
    gatherCols df ks acc = some (acc ++ ks.map fun k => (k, colOf df k))
  | [], acc, _, _, _ => by simp [gatherCols]
  | k :: ks, acc, hnd, hdis, hall => by
    obtain ⟨a, ha⟩ := hall k List.mem_cons_self
    obtain ⟨hset, hdis'⟩ := Dict.set_fresh_cons hnd hdis a
    rw [gatherCols, ha, Option.bind_some, hset,
      gatherCols_ok df ks _ (List.nodup_cons.1 hnd).2 hdis' fun k2 hk2 => hall k2 (List.mem_cons_of_mem _ hk2),
      List.append_assoc, List.map_cons, colOf_eq ha]
    rfl

theorem mem_dfCols (df : Dict String Arr) (k : String) : k ∈ dfCols df ↔ k ∈ STD.map (·.1) ∨ k ∈ df.map (·.1) := by
  unfold dfCols
  generalize STD.map (·.1) = S
  by_cases c : k ∈ S <;> simp [c]

theorem dfCols_nodup (df : Dict String Arr) (hnd : (df.map (·.1)).Nodup) : (dfCols df).Nodup := by
  refine List.nodup_append.2 ⟨STD_nodup, hnd.filter _, ?_⟩
  intro a ha b hb hab
  subst hab
  have := (List.mem_filter.1 hb).2
  simp only [Bool.not_eq_true', List.contains_eq_mem, decide_eq_false_iff_not] at this
  exact this ha

/-- **`Tree.from_data_frame(df)` as translated**, for every heap, every frame with distinct column names whose column arrays are valid, containing the
seven standard columns, and every row count `n ≥ 0`: it succeeds, writes no existing buffer, and every standard column of the new tree has the
constructor's dtype, length `n`, the frame's values (cut / padded to `n`), and SHARES STORAGE with the frame's column array exactly when that
array already has the constructor's dtype (int32 / float32) and at least `n` elements — it is then the view `col[:n]`; every other column of the
frame is stored as the frame's own array object. -/
theorem from_data_frame_ok (h : Bufs) (df : Dict String Arr) (n : Int) (hn : 0 ≤ n) (hv : AllValid h df) (hnd : (df.map (·.1)).Nodup)
    (hstd : ∀ k ∈ STD.map (·.1), ∃ a, Dict.get? df k = some a) :
    ∃ hF nd, from_data_frame h df n = some (hF, nd) ∧ (∃ ext, hF = h ++ ext) ∧
      (∀ s ∈ STD, ∃ r, Dict.get? nd s.1 = some r ∧ ColOk h hF n (Dict.get? df s.1) s.2.1 s.2.2 r) ∧
      (∀ k, k ∉ STD.map (·.1) → Dict.get? nd k = Dict.get? df k) := by
  have hall : ∀ k ∈ dfCols df, ∃ a, Dict.get? df k = some a := fun k hk =>
    ((mem_dfCols df k).1 hk).elim (hstd k) fun c => Option.isSome_iff_exists.1 ((Py.Dict.contains_iff df k).2 c)
  have hD := gatherCols_ok df (dfCols df) [] (dfCols_nodup df hnd) (fun _ _ => List.not_mem_nil) hall
  rw [List.nil_append] at hD
  -- the gathered dict `D` has the keys `dfCols df` and shows the frame's columns
  generalize hDe : ((dfCols df).map fun k => (k, colOf df k)) = D at hD
  have hkeys : D.map (·.1) = dfCols df := by rw [← hDe, List.map_map]; exact List.map_id _
  have hgetD : ∀ k, Dict.get? D k = Dict.get? df k := by
    intro k
    by_cases hk : k ∈ dfCols df
    · obtain ⟨a, ha⟩ := hall k hk
      rw [Py.Dict.get?_of_forall D (colOf df) (by rw [← hDe]; intro p hp; obtain ⟨q, _, rfl⟩ := List.mem_map.1 hp; rfl) k (hkeys ▸ hk),
        ha, colOf_eq ha]
    · rw [Py.Dict.get?_none_of_not_mem D k (hkeys ▸ hk),
        Py.Dict.get?_none_of_not_mem df k fun c => hk ((mem_dfCols df k).2 (Or.inr c))]
  have hvD : AllValid h D := by
    intro p hp
    obtain ⟨k, hk, rfl⟩ := List.mem_map.1 (hDe ▸ hp)
    obtain ⟨a, ha⟩ := hall k hk
    rw [colOf_eq ha]
    exact hv (k, a) (Dict.get?_mem df k a ha)
  have hc : ∀ k ∈ STD.map (·.1), Dict.contains D k = true := by
    intro k hk
    obtain ⟨a, ha⟩ := hstd k hk
    rw [Dict.contains, hgetD, ha]; rfl
  obtain ⟨hF, nd, he, hfr, hcols, hx⟩ :=
    tree_init_given h n D hn hvD (hkeys ▸ dfCols_nodup df hnd) (hc "id" (by decide)) (hc "pid" (by decide))
  refine ⟨hF, nd, by rw [from_data_frame_eq, hD, Option.bind_some, he]; rfl, hfr, fun s hs => ?_, fun k hk => by rw [hx k hk, hgetD]⟩
  obtain ⟨r, hr, c⟩ := hcols s hs
  exact ⟨r, hr, hgetD s.1 ▸ c⟩
end RefineCtorInit
