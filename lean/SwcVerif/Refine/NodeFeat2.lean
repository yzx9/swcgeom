import SwcVerif.Refine.NodeFeat
import SwcVerif.Refine.Closures
import SwcVerif.Refine.Node
/-! Refinement for C10, second part: the definitions GENERATED from `swcgeom/analysis/features.py`
(`NodeFeatures.get_branch_order` with its closure `assign_depth`, `FurcationFeatures.nodes`, `TipFeatures.nodes`,
`_SubsetNodesFeatures.get_count` / `get_radial_distance`, `BranchFeatures.get_length` / `calc_angle`), for EVERY table (no bound on sizes). -/

/-! ### depth of a node in a rose tree (root `d`) -/
mutual
/-- depth of node `j` in `r` when the root of `r` has depth `d` (`none`: `j` is not a node of `r`) -/
def Rose.depthOf (j : Int) : Rose → Int → Option Int
  | .node i ks, d => if i = j then some d else depthOfL j ks (d + 1)
/-- depth of node `j` in the forest `ks` whose roots have depth `d` -/
def depthOfL (j : Int) : List Rose → Int → Option Int
  | [], _ => none
  | r :: rs, d => match r.depthOf j d with
    | some x => some x
    | none => depthOfL j rs d
end

namespace RefineNf2
open Py Gen.Algo Trav

mutual
theorem depthOf_none (j : Int) : ∀ (r : Rose) (d : Int), j ∉ r.ids → r.depthOf j d = none
  | .node i ks, d, h => by
    simp only [Rose.ids, List.mem_cons, not_or] at h
    simp only [Rose.depthOf, if_neg (Ne.symm h.1)]
    exact depthOfL_none j ks (d + 1) h.2
theorem depthOfL_none (j : Int) : ∀ (ks : List Rose) (d : Int), j ∉ idsL ks → depthOfL j ks d = none
  | [], _, _ => rfl
  | r :: rs, d, h => by
    simp only [idsL, List.mem_append, not_or] at h
    simp only [depthOfL, depthOf_none j r d h.1, depthOfL_none j rs d h.2]
end

mutual
theorem depthOf_some (j : Int) : ∀ (r : Rose) (d : Int), j ∈ r.ids → ∃ x, r.depthOf j d = some x ∧ d ≤ x
  | .node i ks, d, h => by
    simp only [Rose.ids, List.mem_cons] at h
    by_cases e : i = j
    · exact ⟨d, by simp [Rose.depthOf, e], le_refl _⟩
    · obtain ⟨x, hx, hd⟩ := depthOfL_some j ks (d + 1) (h.resolve_left (Ne.symm e))
      exact ⟨x, by simp [Rose.depthOf, e, hx], by omega⟩
theorem depthOfL_some (j : Int) : ∀ (ks : List Rose) (d : Int), j ∈ idsL ks → ∃ x, depthOfL j ks d = some x ∧ d ≤ x
  | [], _, h => by simp [idsL] at h
  | r :: rs, d, h => by
    simp only [idsL, List.mem_append] at h
    by_cases hr : j ∈ r.ids
    · obtain ⟨x, hx, hd⟩ := depthOf_some j r d hr
      exact ⟨x, by simp [depthOfL, hx], hd⟩
    · obtain ⟨x, hx, hd⟩ := depthOfL_some j rs d (h.resolve_left hr)
      exact ⟨x, by simp [depthOfL, depthOf_none j r d hr, hx], hd⟩
end

/-- the depth `assign_depth` assigns: parent's depth + 1, the root (no parent value) 0 -/
def dOf (pv : Option Int) : Int := match pv with | some p => p + 1 | none => 0

/-- `assign_depth` as a total state-passing callback over the array `order` -/
def geDepth (s : List Int) (n : Int) (pv : Option Int) : List Int × Int := (s.set n.toNat (dOf pv), dOf pv)
def glNone (s : List Int) (_ : Int) (_ : List Unit) : List Int × Unit := (s, ())

/-- **the closure `assign_depth` as translated**: on a row of `order` it stores and returns the depth, never raises -/
theorem assign_depth_eq (s : List Int) (n : Int) (pv : Option Int) (h0 : 0 ≤ n) (h1 : n.toNat < s.length) :
    nf_assign_depth s n pv = some (geDepth s n pv) := by
  cases pv <;>
    simp [nf_assign_depth, nf_assign_depth.body, Py.seq, Py.bind, Py.finish, geDepth, dOf, Py.setIdx_inrange s n _ ⟨h0, h1⟩]

/-! what the traversal does to the array `order` with these two callbacks: at a node it stores the depth, then visits the forest below;
a forest is visited from its last tree to its first -/
theorem depth_node (i : Int) (ks : List Rose) (pv : Option Int) (s : List Int) :
    (spec geDepth glNone (.node i ks) pv s).1 = (specRev geDepth glNone ks (dOf pv) (s.set i.toNat (dOf pv))).1 := rfl
theorem depth_cons (r : Rose) (rs : List Rose) (cur : Int) (s : List Int) :
    (specRev geDepth glNone (r :: rs) cur s).1 = (spec geDepth glNone r (some cur) (specRev geDepth glNone rs cur s).1).1 := rfl

mutual
theorem spec_depth : ∀ (r : Rose) (pv : Option Int) (s : List Int), (∀ j ∈ r.ids, 0 ≤ j ∧ j.toNat < s.length) → r.ids.Nodup →
    (spec geDepth glNone r pv s).1.length = s.length ∧
    ∀ k : Nat, (spec geDepth glNone r pv s).1.getD k 0 = (r.depthOf k (dOf pv)).getD (s.getD k 0)
  | .node i ks, pv, s, hin, hnd => by
    rw [Rose.ids, List.nodup_cons] at hnd
    have hi := hin i List.mem_cons_self
    obtain ⟨l1, g1⟩ := specRev_depth ks (dOf pv) (s.set i.toNat (dOf pv))
      (fun j hj => by rw [List.length_set]; exact hin j (List.mem_cons_of_mem _ hj)) hnd.2
    rw [depth_node]
    refine ⟨l1.trans List.length_set, fun k => ?_⟩
    rw [g1 k, Rose.depthOf, List.getD_eq_getElem?_getD (l := s.set _ _), List.getElem?_set]
    by_cases e : i = (k : Int)
    · -- the cell of `i` holds its depth: `i` is not in the forest below (no id occurs twice)
      rw [if_pos e, depthOfL_none _ ks _ (e ▸ hnd.1), if_pos (by omega), if_pos hi.2]; rfl
    · rw [if_neg e, if_neg (by omega), List.getD_eq_getElem?_getD]
theorem specRev_depth : ∀ (ks : List Rose) (cur : Int) (s : List Int), (∀ j ∈ idsL ks, 0 ≤ j ∧ j.toNat < s.length) → (idsL ks).Nodup →
    (specRev geDepth glNone ks cur s).1.length = s.length ∧
    ∀ k : Nat, (specRev geDepth glNone ks cur s).1.getD k 0 = (depthOfL k ks (cur + 1)).getD (s.getD k 0)
  | [], _, s, _, _ => ⟨rfl, fun _ => rfl⟩
  | r :: rs, cur, s, hin, hnd => by
    rw [idsL, List.nodup_append] at hnd
    obtain ⟨l1, g1⟩ := specRev_depth rs cur s (fun j hj => hin j (List.mem_append_right _ hj)) hnd.2.1
    obtain ⟨l2, g2⟩ := spec_depth r (some cur) (specRev geDepth glNone rs cur s).1
      (fun j hj => by rw [l1]; exact hin j (List.mem_append_left _ hj)) hnd.1
    rw [depth_cons]
    refine ⟨l2.trans l1, fun k => ?_⟩
    rw [g2 k, g1 k, depthOfL, show dOf (some cur) = cur + 1 from rfl]
    cases r.depthOf k (cur + 1) <;> rfl
end

/-- **`NodeFeatures.get_branch_order` as translated returns for every node of the branch tree its DEPTH** (root 0): for every table
`bt_ids`, `bt_pids` that represents a rose `r` rooted at node 0 whose ids are rows of the table (any shape, any depth), with every
fuel `≥ 2·|r| + 1`, the call does not raise, the result has one entry per row, the entry of node `k` is its depth in `r` and the
entries of rows that are not nodes of `r` keep the initial 0. -/
theorem branch_order_refines (bt_ids bt_pids : List Int) (r : Rose) (hR : Represents r bt_ids bt_pids) (h0 : r.id = 0)
    (hin : ∀ j ∈ r.ids, 0 ≤ j ∧ j.toNat < bt_ids.length) (F : Nat) :
    ∃ order, nf_branch_order (2 * r.size + F + 1) bt_ids bt_pids = some order ∧ order.length = bt_ids.length ∧
      ∀ k : Nat, order.getD k 0 = (r.depthOf k 0).getD 0 := by
  have hcall := RefineClosures.traverse_closures_on (S := List Int) (T := Int) (K := Unit)
    (fun s => s.length = bt_ids.length) (fun j => 0 ≤ j ∧ j.toNat < bt_ids.length)
    nf_assign_depth Py.noLeave geDepth glNone
    (fun s n pv hP hok => ⟨assign_depth_eq s n pv hok.1 (hP ▸ hok.2), by simpa [geDepth] using hP⟩)
    (fun s n ks hP _ => ⟨rfl, hP⟩)
    bt_ids bt_pids r hR (Py.fullLike bt_ids (0 : Int)) (by simp [Py.fullLike]) hin F
  obtain ⟨l1, g1⟩ := spec_depth r none (Py.fullLike bt_ids (0 : Int)) (by rw [Py.fullLike, List.length_map]; exact hin) hR.2
  refine ⟨(spec geDepth glNone r none (Py.fullLike bt_ids (0 : Int))).1, ?_, by simpa [Py.fullLike] using l1, fun k => ?_⟩
  · rw [h0] at hcall
    simp only [nf_branch_order, nf_branch_order.body, Py.seq_eq_bindS, Py.bindS_next, hcall, Py.bind_some, Py.finish_ret, Option.map_some]
  · have hz : (Py.fullLike bt_ids (0 : Int)).getD k 0 = 0 := by
      rw [Py.fullLike, List.getD_eq_getElem?_getD, List.getElem?_map]; cases bt_ids[k]? <;> rfl
    rw [g1 k, hz]; rfl

/-! ### `FurcationFeatures.nodes` / `TipFeatures.nodes` and the subset features -/

/-- number of children of row `k` in the table (ids = positions) -/
def nKids (n : Nat) (pids : List Int) (k : Nat) : Nat := (tableKids (Sub.rangeI n) pids (k : Int)).length

theorem range_len_rangeI (n : Nat) : Py.range (Py.len (Sub.rangeI n)) = (List.range n).map (fun (k : Nat) => (k : Int)) := by
  simp [Sub.rangeI]

/-- **`FurcationFeatures.nodes` as translated**: the mask, in row order, of the rows with two or more children -/
theorem furcation_nodes_refines (n : Nat) (pids : List Int) (hl : pids.length ≤ n) :
    nf_furcation_nodes (Sub.rangeI n) pids = some ((List.range n).map fun k => decide (2 ≤ nKids n pids k)) := by
  obtain ⟨v', e, -, hc⟩ := Py.forEach_collect (fun k : Nat => nf_furcation_nodes.for1 (k : Int)) (·.c0_) (fun k : Nat => decide (2 ≤ nKids n pids k))
    (fun v => v.ids = Sub.rangeI n ∧ v.pids = pids) (List.range n) (fun k hk v hv =>
      ⟨{ v with n := (k : Int), c0_ := v.c0_ ++ [decide (2 ≤ nKids n pids k)] },
        by simp only [nf_furcation_nodes.for1, hv.1, hv.2, Py.bind, nKids,
          RefineNode.node_is_furcation_spec n pids hl k (Int.natCast_nonneg k) (Int.ofNat_lt.2 (List.mem_range.1 hk))]; rfl, hv, rfl⟩)
    { (default : nf_furcation_nodes.V) with ids := Sub.rangeI n, pids := pids, c0_ := [] } ⟨rfl, rfl⟩
  simp only [nf_furcation_nodes, nf_furcation_nodes.body, Py.seq, Py.bindS, range_len_rangeI, Py.forEach_map, e, hc, Py.finish,
    Option.map_some, List.nil_append]

/-- **`TipFeatures.nodes` as translated**: the mask, in row order, of the rows without children -/
theorem tip_nodes_refines (n : Nat) (pids : List Int) (hl : pids.length ≤ n) :
    nf_tip_nodes (Sub.rangeI n) pids = some ((List.range n).map fun k => decide (nKids n pids k = 0)) := by
  obtain ⟨v', e, -, hc⟩ := Py.forEach_collect (fun k : Nat => nf_tip_nodes.for1 (k : Int)) (·.c0_) (fun k : Nat => decide (nKids n pids k = 0))
    (fun v => v.ids = Sub.rangeI n ∧ v.pids = pids) (List.range n) (fun k hk v hv =>
      ⟨{ v with n := (k : Int), c0_ := v.c0_ ++ [decide (nKids n pids k = 0)] },
        by simp only [nf_tip_nodes.for1, hv.1, hv.2, Py.bind, nKids,
          RefineNode.node_is_tip_spec n pids hl k (Int.natCast_nonneg k) (Int.ofNat_lt.2 (List.mem_range.1 hk))]; rfl, hv, rfl⟩)
    { (default : nf_tip_nodes.V) with ids := Sub.rangeI n, pids := pids, c0_ := [] } ⟨rfl, rfl⟩
  simp only [nf_tip_nodes, nf_tip_nodes.body, Py.seq, Py.bindS, range_len_rangeI, Py.forEach_map, e, hc, Py.finish,
    Option.map_some, List.nil_append]

variable {K : Type} [Inhabited K] [Add K] [Sub K] [Mul K] [OfNat K 0] [OfNat K 1] [LT K] [DecidableLT K] [LE K] [DecidableLE K]

/-- **`_SubsetNodesFeatures.get_count` as translated**: on the mask of the rows satisfying `p`, the one-element array holding the number of
rows that satisfy `p` -/
theorem subset_count_refines (F : Py.Fld K) (n : Nat) (p : Nat → Bool) :
    nf_subset_count F ((List.range n).map p) = some [F.ofInt ((((List.range n).filter p).length : Nat) : Int)] := by
  simp [nf_subset_count, nf_subset_count.body, Py.finish, RefineSholl.countNonzero_map]

theorem select_map {α β : Type} (f : β → α) (g : β → Bool) : ∀ l : List β, Py.select (l.map f) (l.map g) = (l.filter g).map f := by
  intro l
  induction l with
  | nil => simp [Py.select]
  | cons x xs ih =>
    simp only [Py.select] at ih
    cases h : g x <;> simp [Py.select, h, ih]

/-- **`_SubsetNodesFeatures.get_radial_distance` as translated**: on the mask of the rows satisfying `p` and a tree whose first row is typed
as soma, the norm of `xyz[k] − xyz[0]` for exactly the rows `k` that satisfy `p`, in row order -/
theorem subset_radial_refines (norm : List K → K) (ids pids types : List Int) (axyz : List (List K)) (h0 : 0 < axyz.length)
    (hd : ∀ r ∈ axyz, r.length = (RefineNf.row axyz 0).length) (ht : types.head? = some Gen.Consts.type_soma) (p : Nat → Bool) :
    nf_subset_radial_distance norm ids pids types axyz ((List.range axyz.length).map p)
      = some (((List.range axyz.length).filter p).map fun (k : Nat) => norm (RefineNf.vec axyz 0 (k : Int))) := by
  have hr := (RefineNf.radial_refines norm ids pids types axyz h0 hd).1 ht
  have hax : axyz.map (fun r => norm (List.zipWith (fun x y => x - y) r (RefineNf.row axyz 0)))
      = (List.range axyz.length).map (fun (k : Nat) => norm (RefineNf.vec axyz 0 (k : Int))) := by
    apply List.ext_getElem (by simp)
    intro i h1 h2
    simp only [List.length_map] at h1
    simp [RefineNf.vec, RefineNf.row, List.getD_eq_getElem?_getD, h1]
  simp only [nf_subset_radial_distance, nf_subset_radial_distance.body, Py.bind, hr, Py.finish, Option.map]
  rw [hax, select_map]

/-! ### `BranchFeatures.get_length` -/

theorem bf_branches_eq (fuel : Nat) (ids pids : List Int) : nf_bf_branches fuel ids pids = get_branches fuel ids pids :=
  Py.finish_return _ _ _

/-- **`BranchFeatures.get_length` as translated**: when the translated `Tree.get_branches` returns `brs` (whose members are rows of the
table), one `Path.length` per branch, in the order of `get_branches`: the sum over the consecutive pairs of the branch of
`norm (xyz[b[k+1]] − xyz[b[k]])` -/
theorem bf_length_refines (norm : List K → K) (fuel : Nat) (ids pids : List Int) (axyz : List (List K)) (d : Nat) (brs : List (List Int))
    (hb : get_branches fuel ids pids = some brs)
    (hv : ∀ b ∈ brs, ∀ i ∈ b, RefineNf.Valid axyz i ∧ (RefineNf.row axyz i).length = d) :
    nf_bf_length norm fuel ids pids axyz
      = some (brs.map fun b => Py.Nf.sumK ((cpairs b).map fun e => norm (RefineNf.vec axyz e.1 e.2))) := by
  obtain ⟨v', e, -, hc⟩ := Py.forEach_collect (nf_bf_length.for1 norm) (·.c0_)
    (fun b => Py.Nf.sumK ((cpairs b).map fun e => norm (RefineNf.vec axyz e.1 e.2))) (·.axyz = axyz) brs
    (fun b hb' v h => by
      have hp := path_length_refines norm axyz d b (fun i hi => (hv b hb' i hi).1) (fun i hi => (hv b hb' i hi).2)
      exact ⟨{ v with br := b, c0_ := v.c0_ ++ [Py.Nf.sumK ((cpairs b).map fun e => norm (RefineNf.vec axyz e.1 e.2))] },
        by simp only [nf_bf_length.for1, h, Py.bind, hp], h, rfl⟩)
    { (default : nf_bf_length.V K) with ids := ids, pids := pids, axyz := axyz, c0_ := [] } rfl
  simp only [nf_bf_length, nf_bf_length.body, Py.seq, Py.bindS, Py.bind, bf_branches_eq, hb, e, hc, Py.finish, Option.map_some,
    List.nil_append]

/-! ### `BranchFeatures.calc_angle` -/

/-- the vector of a branch as `calc_angle` forms it: `xyz[br[-1]] − xyz[br[0]]` (from the FIRST to the LAST node of the branch) -/
def bvec (axyz : List (List K)) (b : List Int) : List K := RefineNf.vec axyz (b.headD 0) (b.getLastD 0)
/-- dot product as `np.matmul` forms it (sequential sum of the products) -/
def dotK (a b : List K) : K := Py.Nf.sumK (List.zipWith (fun x y => x * y) a b)
/-- `np.clip(x, -1, 1)` -/
def clip1 (x : K) : K := let y := if x < (0 : K) - (1 : K) then (0 : K) - (1 : K) else x; if (1 : K) < y then (1 : K) else y
/-- the product of the two norms of entry (i, j), formed as the 1×1 matrix product the source forms -/
def angNd (norm : List K → K) (axyz : List (List K)) (bi bj : List Int) : K :=
  Py.Nf.sumK [norm (bvec axyz bi) * norm (bvec axyz bj)]
/-- the DEGENERATE entries (`vector_norm_dot == 0`: a branch of length zero): the product of the norms is neither below nor above 0 -/
def angDeg (norm : List K → K) (axyz : List (List K)) (bi bj : List Int) : Bool :=
  !(decide (angNd norm axyz bi bj < 0) || decide (0 < angNd norm axyz bi bj))
/-- the divisor of entry (i, j): `np.where(vector_norm_dot == 0, 1, vector_norm_dot)` - the product of the two norms, and 1 where it is 0.
No `eps`: nothing absolute is added to the product, so the quotient does not depend on the length unit. -/
def angDen (norm : List K → K) (axyz : List (List K)) (bi bj : List Int) : K :=
  if angDeg norm axyz bi bj then 1 else angNd norm axyz bi bj

theorem angDen_eq (norm : List K → K) (axyz : List (List K)) (bi bj : List Int) :
    angDen norm axyz bi bj
      = if angNd norm axyz bi bj < 0 ∨ 0 < angNd norm axyz bi bj then angNd norm axyz bi bj else 1 := by
  simp only [angDen, angDeg, Bool.not_eq_true', Bool.or_eq_false_iff, decide_eq_false_iff_not, ← not_or, ite_not]

theorem mapOpt_zip_map {α β γ δ : Type} (f : β × γ → Option δ) (a : α → β) (b : α → γ) (g : α → δ) : ∀ l : List α,
    (∀ x ∈ l, f (a x, b x) = some (g x)) → Py.mapOpt f (List.zip (l.map a) (l.map b)) = some (l.map g) := by
  intro l
  induction l with
  | nil => intro _; rfl
  | cons x xs ih =>
    intro h
    have := ih (fun y hy => h y (List.mem_cons_of_mem _ hy))
    simp [Py.mapOpt, h x List.mem_cons_self, this]

/-! Every array `calc_angle` forms has, at (i, j), a function of the branches i and j: it is `l.map fun x => l.map (h x)` for the list of
branches `l`, and the lemmas below keep that shape. -/

theorem matmulT_tab {α : Type} (l : List α) (f : α → List K) (d : Nat) (h : ∀ x ∈ l, (f x).length = d) :
    Py.Nf.matmulT (l.map f) (l.map f) = some (l.map fun x => l.map fun y => dotK (f x) (f y)) := by
  have row : ∀ x ∈ l, Py.mapOpt (fun c => Py.Nf.dot (f x) c) (l.map f) = some (l.map fun y => dotK (f x) (f y)) := by
    intro x hx
    rw [Py.mapOpt_total _ (fun c => dotK (f x) c), List.map_map]; rfl
    intro c hc
    obtain ⟨y, hy, rfl⟩ := List.mem_map.1 hc
    rw [Py.Nf.dot, if_pos ((h x hx).trans (h y hy).symm)]; rfl
  rw [Py.Nf.matmulT, Py.mapOpt_total _ (fun r => l.map fun y => dotK r (f y)), List.map_map]; rfl
  intro r hr
  obtain ⟨x, hx, rfl⟩ := List.mem_map.1 hr
  exact row x hx

theorem map_tab {α β γ : Type} (l : List α) (h : α → α → β) (g : β → γ) :
    (l.map fun x => l.map (h x)).map (fun r => r.map g) = l.map fun x => l.map fun y => g (h x y) := by
  simp only [List.map_map, Function.comp_def]

theorem div2_tab {α : Type} (F : Py.Fld K) (l : List α) (f h : α → α → K) (hne : ∀ x ∈ l, ∀ y ∈ l, h x y < 0 ∨ 0 < h x y) :
    Py.Nf.div2 (l.map fun x => l.map (f x)) (l.map fun x => l.map (h x))
      = some (l.map fun x => l.map fun y => F.div (f x y) (h x y)) := by
  simp only [Py.Nf.div2, List.length_map, if_true]
  apply mapOpt_zip_map
  intro x hx
  simp only [List.length_map, if_true]
  apply mapOpt_zip_map
  intro y hy
  simp [Py.fdiv, hne x hx y hy]

theorem whereS2_tab {α : Type} (l : List α) (m : α → α → Bool) (c : K) (h : α → α → K) :
    Py.Nf.whereS2 (l.map fun x => l.map (m x)) c (l.map fun x => l.map (h x))
      = some (l.map fun x => l.map fun y => if m x y then c else h x y) := by
  simp only [Py.Nf.whereS2, List.length_map, if_true]
  apply mapOpt_zip_map
  intro x _
  simp [List.zipWith_map]

/-- a branch whose first and last node are rows of the table with `d` coordinates -/
def GoodBr (axyz : List (List K)) (d : Nat) (b : List Int) : Prop :=
  b ≠ [] ∧ RefineNf.Valid axyz (b.headD 0) ∧ RefineNf.Valid axyz (b.getLastD 0) ∧
  (RefineNf.row axyz (b.headD 0)).length = d ∧ (RefineNf.row axyz (b.getLastD 0)).length = d

theorem idx_first_last : ∀ b : List Int, b ≠ [] → Py.idx b (-1) = some (b.getLastD 0) ∧ Py.idx b 0 = some (b.headD 0)
  | [], h => absurd rfl h
  | x :: t, _ => ⟨by rw [Py.idx_last]; rfl, by rw [Py.idx_head]; rfl⟩

/-- **`BranchFeatures.calc_angle` as translated**: entry (i, j) of the result is `acos` of the clipped quotient of the dot product of the two
branch vectors (each from the branch's FIRST node to its LAST node: `br[-1].xyz() − br[0].xyz()`) by the product of their norms, exactly as
the source writes it (the product of the norms is formed as a 1×1 matrix product; where it is 0 the divisor is 1 instead - `angDen`; the
quotient is clipped to [−1, 1]); nothing raises (`0 < 1`: the divisor is never 0); `eps` is not used.  Every list of branches (each with valid
end rows), no size bound. -/
theorem calc_angle_refines (F : Py.Fld K) (norm : List K → K) (acos : K → K) (axyz : List (List K)) (d : Nat) (brs : List (List Int)) (eps : K)
    (h01 : (0 : K) < 1) (hg : ∀ b ∈ brs, GoodBr axyz d b) :
    nf_calc_angle F norm acos axyz brs eps
      = some (brs.map fun bi => brs.map fun bj =>
          acos (clip1 (F.div (dotK (bvec axyz bi) (bvec axyz bj)) (angDen norm axyz bi bj)))) := by
  obtain ⟨v', e, -, hc⟩ := Py.forEach_collect (nf_calc_angle.for1 F norm acos) (·.c0_) (bvec axyz) (·.axyz = axyz) brs
    (fun b hb v hv => by
      obtain ⟨hne, v0, v1, d0, d1⟩ := hg b hb
      obtain ⟨i1, i0⟩ := idx_first_last b hne
      exact ⟨{ v with br := b, c0_ := v.c0_ ++ [bvec axyz b] },
        by simp only [nf_calc_angle.for1, hv, Py.bind, i1, i0, RefineNf.idx_row _ _ v0, RefineNf.idx_row _ _ v1, Py.Nf.subVec, d0, d1,
          if_true, bvec, RefineNf.vec], hv, rfl⟩)
    { (default : nf_calc_angle.V K) with axyz := axyz, branches := brs, eps := eps, c0_ := [] } rfl
  have hvd : ∀ b ∈ brs, (bvec axyz b).length = d := by
    intro b hb
    obtain ⟨_, _, _, d0, d1⟩ := hg b hb
    simp only [bvec, RefineNf.vec, List.length_zipWith, d0, d1, Nat.min_self]
  have hn : Py.Nf.normRowsKeep norm (brs.map (bvec axyz)) = brs.map fun b => [norm (bvec axyz b)] := List.map_map ..
  -- the product of the norms as the 1×1 matrix product, the mask of its zeros, and the divisor: `angNd`, `angDeg`, `angDen` unfolded
  have hw : Py.Nf.whereS2 (Py.Nf.eqScalar2 (brs.map fun x => brs.map fun y => dotK [norm (bvec axyz x)] [norm (bvec axyz y)]) 0) 1
      (brs.map fun x => brs.map fun y => dotK [norm (bvec axyz x)] [norm (bvec axyz y)])
        = some (brs.map fun x => brs.map (angDen norm axyz x)) := by
    rw [Py.Nf.eqScalar2, map_tab, whereS2_tab]; rfl
  have hne : ∀ bi ∈ brs, ∀ bj ∈ brs, angDen norm axyz bi bj < 0 ∨ 0 < angDen norm axyz bi bj := by
    intro bi _ bj _
    rw [angDen_eq]
    split
    · assumption
    · exact Or.inr h01
  simp only [nf_calc_angle, nf_calc_angle.body, Py.seq, Py.bindS, Py.bind, e, hc, List.nil_append, matmulT_tab brs (bvec axyz) d hvd, hn,
    matmulT_tab brs (fun b => [norm (bvec axyz b)]) 1 (fun _ _ => rfl), hw, div2_tab F brs _ _ hne, Py.Nf.clip2, Py.Nf.map2, map_tab,
    Py.finish, Option.map_some]
  rfl

end RefineNf2
