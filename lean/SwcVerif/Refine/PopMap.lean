import SwcVerif.Gen.AlgoPopMap
import SwcVerif.Refine.PopFront
import SwcVerif.Props.C19
/-! Refinement for `Gen/AlgoPopMap.lean` (regenerated on every run from `swcgeom/core/population.py`): `Population.find_swcs`,
`LazyLoadingTrees.__iter__`, `Population.map`. File reads are the state-passing callback `Pop.readLog`; the generated container
represents a model state through `RefinePop.LRep`. -/
namespace RefinePopMap
open Gen.Algo Pop Py RefinePop RefinePopFront

/-! ## `Population.find_swcs` -/

/-- what one directory of the walk contributes: its files with the wanted extension, in listing order, joined to the directory
(made relative to the root when `relpath`) -/
def foundIn (relpath_of : String → String → String) (ext_of : String → String) (join : String → String → String) (root ext : String)
    (rel : Bool) (e : String × List String × List String) : List String :=
  (e.2.2.filter (fun f => decide (ext_of f = ext))).map (join (if rel then relpath_of e.1 root else e.1))

theorem find_for1_loop (relpath_of : String → String → String) (ext_of : String → String) (join : String → String → String)
    (fs : List String) (v : find_swcs.V) :
    forEach (find_swcs.for1 relpath_of ext_of join) fs v = .next { v with c0_ := v.c0_ ++ fs.map (join v.rr), f := fs.getLast?.getD v.f } :=
  forEach_comp _ (fun l y => { v with c0_ := l, f := y }) _ (fun _ _ _ => rfl) fs v.c0_ v.f

theorem find_for2_loop (relpath_of : String → String → String) (ext_of : String → String) (join : String → String → String) :
    ∀ (w : List (String × List String × List String)) (v : find_swcs.V),
      ∃ v', forEach (find_swcs.for2 relpath_of ext_of join) w v = .next v' ∧
        v'.swcs = v.swcs ++ w.flatMap (foundIn relpath_of ext_of join v.root v.ext v.relpath)
  | [], v => ⟨v, rfl, by simp⟩
  | a :: w, v => by
    simp only [forEach, find_swcs.for2, seq, bindS, find_for1_loop, List.flatMap_cons]
    refine (find_for2_loop relpath_of ext_of join w _).imp fun v' h => ⟨h.1, ?_⟩
    rw [h.2]
    simp [foundIn]

/-- **`Population.find_swcs` as translated**, for EVERY walk (list of `(dirpath, dirnames, filenames)`), root, extension and `relpath` flag and
ANY `relpath` / `splitext(·)[-1]` / `join` functions: never raises; the result is, directory by directory IN WALK ORDER, the file names whose
extension EQUALS `ext`, in listing order, each joined to its directory (the directory relative to `root` when `relpath`) -/
theorem find_swcs_refines (relpath_of : String → String → String) (ext_of : String → String) (join : String → String → String)
    (walk : List (String × List String × List String)) (root ext : String) (rel : Bool) :
    find_swcs relpath_of ext_of join walk root ext rel = some (walk.flatMap (foundIn relpath_of ext_of join root ext rel)) := by
  obtain ⟨v', e, h⟩ := find_for2_loop relpath_of ext_of join walk
    { (default : find_swcs.V) with walk := walk, root := root, ext := ext, relpath := rel, swcs := [] }
  simp only [find_swcs, find_swcs.body, seq, e]
  simp [finish, h]

/-! ## `LazyLoadingTrees.__iter__` and `Population.map` -/

/-- the loop of `__iter__`: `self[i]` for the indices `ks` (all in range) loads them in order and yields their trees -/
theorem iter_for1_loop : ∀ (ks : List Nat) (l : Lazy) (i : Int) (c0 : List (Option Int)), (∀ k ∈ ks, k < l.len) →
    forEach (lazy_iter.for1 readLog) (ks.map fun (k : Nat) => (k : Int)) ⟨rep l, i, c0, castL l.log⟩ =
      .next ⟨rep (ks.foldl (fun s k => s.load k) l), (ks.map fun (k : Nat) => (k : Int)).getLast?.getD i,
        c0 ++ ks.map (fun (k : Nat) => some (k : Int)), castL (ks.foldl (fun s k => s.load k) l).log⟩
  | [], l, i, c0, _ => by simp [forEach]
  | k :: ks, l, i, c0, hk => by
    have ih := iter_for1_loop ks (l.load k) k (c0 ++ [some (k : Int)]) fun k' hk' => by
      rw [C19.load_len]; exact hk k' (List.mem_cons_of_mem _ hk')
    simp only [List.map_cons, forEach, lazy_iter.for1, Py.bind, getitem_rep, C19.get_nat l k (hk k List.mem_cons_self), Option.map_some,
      ih, List.foldl_cons, List.getLast?_cons, Option.getD_some, List.append_assoc, List.singleton_append]

/-- **`LazyLoadingTrees.__iter__` as translated**, consumed to the end: it yields the tree of every file, in file order, and reads
exactly the files whose slot was empty, in that order — the model's `iterAll` -/
theorem lazy_iter_refines {g : LazyLoadingTrees} {l : Lazy} (h : LRep g l) :
    ∃ g', lazy_iter readLog g (castL l.log) =
        some (g', castL l.iterAll.log, (List.range l.len).map (fun (k : Nat) => some (k : Int))) ∧ LRep g' l.iterAll := by
  refine ⟨rep l.iterAll, ?_, rep_spec _⟩
  have hr : Py.range ((rep l).swcs.length : Int) = (List.range l.len).map (fun (k : Nat) => (k : Int)) := by
    rw [(rep_spec l).swcs_len]; exact Py.range_natCast _
  rw [h.eq_rep]
  simp only [lazy_iter, lazy_iter.body, seq, bindS, Py.bind, lazy_len_eq, hr]
  rw [iter_for1_loop _ l _ _ (by simp)]
  simp [finish, Lazy.iterAll]

theorem map_for1_loop (fn : Option Int → Int) (ts : List (Option Int)) (v : pop_map.V (List Int)) :
    forEach (pop_map.for1 readLog fn) ts v = .next { v with c1_ := v.c1_ ++ ts.map fn, t := ts.getLast?.getD v.t } :=
  forEach_comp _ (fun l y => { v with c1_ := l, t := y }) _ (fun _ _ _ => rfl) ts v.c1_ v.t

/-- **`Population.map` as translated**, for every population over a lazy container and EVERY function `fn`: never raises; result `i` is
`fn` of the tree of file `i`, in population order, one per file; the files read are exactly those of the container's `__iter__`
(`iterAll`: every file whose slot was empty, once, in order); the population keeps the loaded container -/
theorem pop_map_refines {g : LazyLoadingTrees} {l : Lazy} (h : LRep g l) (root : String) (fn : Option Int → Int) :
    ∃ g', pop_map readLog fn ⟨g, root⟩ (castL l.log) =
        some (⟨g', root⟩, castL l.iterAll.log, (List.range l.len).map (fun (k : Nat) => fn (some (k : Int)))) ∧ LRep g' l.iterAll := by
  obtain ⟨g', e, r'⟩ := lazy_iter_refines h
  refine ⟨g', ?_, r'⟩
  simp only [pop_map, pop_map.body, seq, bindS, Py.bind, e, map_for1_loop]
  simp [finish]

end RefinePopMap
