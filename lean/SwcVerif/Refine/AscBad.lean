import SwcVerif.Refine.AscFuel
import SwcVerif.Refine.AscTop
import SwcVerif.Refine.AscLex
/-! C15 — texts on which the lexer RAISES (`.bad` in the model's token stream).  The real parser pulls tokens on demand, so the failing word
is only an error if the parser asks for it.  Two parts:
(a) MODEL: a run of the model on `t ++ .bad :: ext` against the run on `t` (relation `Ext`): as long as the short run has tokens left, the long
run is the same with `.bad :: ext` appended to the remaining tokens; as soon as the short run consumes its last token the long run is an error
(`adv` looks one token ahead = the lexer raises when the parser pulls the failing word).
(b) GENERATED CODE: `RefineAscTop.parse_rest_refines` gives the parser's final `next_token` position (`convertWithL` returns the remaining
tokens after the closing bracket), hence `AlgoRun.ascConvertPrefix` on the tokens before the failure = the model on the whole stream. -/
namespace RefineAscBad
open Asc RefineAscParse RefineAscLoop RefineAscModel

/-- where the remaining tokens sit in a result, and how `.bad :: ext` is appended to them -/
structure Sh (α : Type) where
  lo : α → List Tok
  ex : α → α

def shT (ext : List Tok) : Sh (List Tok) := ⟨id, fun a => a ++ .bad :: ext⟩
def shP (ext : List Tok) {β : Type} : Sh (List Tok × β) := ⟨Prod.fst, fun a => (a.1 ++ .bad :: ext, a.2)⟩
def shN (ext : List Tok) {β : Type} : Sh (β × List Tok) := ⟨Prod.snd, fun a => (a.1, a.2 ++ .bad :: ext)⟩

/-- `short` = a run on `t`, `long` = the run on `t ++ .bad :: ext` (with at least as much fuel; nothing is claimed when the short run has run
out of fuel).  This is `RefineAscBad.Ext`; `RefineAsc.Ext` (the walk's table growing) is another relation. -/
def Ext {α : Type} (S : Sh α) (short long : Except Err α) : Prop :=
  match short with
  | .error e => e ≠ .fuel → ∃ e', long = .error e'
  | .ok a => if S.lo a = [] then ∃ e', long = .error e' else long = .ok (S.ex a)

/-- an error, or no token left -/
def Dead {α : Type} (S : Sh α) (r : Except Err α) : Prop := ∀ a, r = .ok a → S.lo a = []

section
variable {α β : Type} (S : Sh α) (T : Sh β)

theorem Dead_error (e : Err) : Dead S (.error e) := nofun

theorem Ext_error (e e' : Err) : Ext S (.error e) (.error e') := fun _ => ⟨e', rfl⟩

theorem Ext_ok (a : α) (h : S.lo a ≠ []) : Ext S (.ok a) (.ok (S.ex a)) := by
  show if S.lo a = [] then _ else _
  rw [if_neg h]

variable {S T}

theorem Dead.ext {r : Except Err α} (h : Dead S r) (e' : Err) : Ext S r (.error e') := by
  cases r with
  | error e => exact Ext_error S e e'
  | ok a =>
    show if S.lo a = [] then _ else _
    rw [if_pos (h a rfl)]
    exact ⟨e', rfl⟩

theorem Dead.bind {x : Except Err α} {k : α → Except Err β} (hx : Dead S x) (hk : ∀ a, S.lo a = [] → Dead T (k a)) : Dead T (x >>= k) := by
  cases x with
  | error e => exact Dead_error T e
  | ok a => exact hk a (hx a rfl)

theorem Ext_bind {x x' : Except Err α} {k k' : α → Except Err β}
    (hx : Ext S x x') (hd : ∀ a, S.lo a = [] → Dead T (k a))
    (hk : ∀ a, S.lo a ≠ [] → Ext T (k a) (k' (S.ex a))) : Ext T (x >>= k) (x' >>= k') := by
  cases x with
  | error e =>
    intro he
    obtain ⟨e', rfl⟩ := hx he
    exact ⟨e', rfl⟩
  | ok a =>
    have hx' : if S.lo a = [] then ∃ e', x' = .error e' else x' = .ok (S.ex a) := hx
    by_cases h : S.lo a = []
    · obtain ⟨e', rfl⟩ := (if_pos h).mp hx'
      exact (hd a h).ext e'
    · cases (if_neg h).mp hx'
      exact hk a h

end

variable (ext : List Tok)

/-- a parser of the model as a function of its tokens (`p'`: the same with at least as much fuel): nothing left when it is given nothing,
and `Ext` on every other input -/
def Good {α : Type} (S : Sh α) (p p' : List Tok → Except Err α) : Prop :=
  Dead S (p []) ∧ ∀ x t, Ext S (p (x :: t)) (p' (x :: (t ++ .bad :: ext)))

variable {ext}

section
variable {α β : Type} {S : Sh α} {T : Sh β}

theorem Good.ne_nil {p p' : List Tok → Except Err α} (h : Good ext S p p') {t : List Tok} (ht : t ≠ []) : Ext S (p t) (p' (t ++ .bad :: ext)) := by
  obtain ⟨x, t', rfl⟩ := List.exists_cons_of_ne_nil ht
  exact h.2 x t'

theorem Good.andThen {p p' : List Tok → Except Err α} {k k' : α → Except Err β} (hp : Good ext S p p')
    (hd : ∀ a, S.lo a = [] → Dead T (k a)) (hk : ∀ a, S.lo a ≠ [] → Ext T (k a) (k' (S.ex a))) :
    Good ext T (fun t => p t >>= k) (fun t => p' t >>= k') :=
  ⟨hp.1.bind hd, fun x t => Ext_bind (hp.2 x t) hd hk⟩

theorem Good.bind {p p' : List Tok → Except Err (List Tok)} {k k' : List Tok → Except Err β}
    (hp : Good ext (shT ext) p p') (hk : Good ext T k k') : Good ext T (fun t => p t >>= k) (fun t => p' t >>= k') :=
  hp.andThen (fun a ha => by cases (ha : a = []); exact hk.1) fun _ ha => hk.ne_nil ha

theorem Good.bindP {γ : Type} {p p' : List Tok → Except Err (List Tok × γ)} {k k' : List Tok × γ → Except Err β}
    (hp : Good ext (shP ext) p p') (hk : ∀ b, Good ext T (fun t => k (t, b)) (fun t => k' (t, b))) :
    Good ext T (fun t => p t >>= k) (fun t => p' t >>= k') :=
  hp.andThen (fun a ha => by obtain ⟨a1, b⟩ := a; cases (ha : a1 = []); exact (hk b).1) fun a ha => (hk a.2).ne_nil ha

theorem Good.bindN {γ : Type} {p p' : List Tok → Except Err (γ × List Tok)} {k k' : γ × List Tok → Except Err β}
    (hp : Good ext (shN ext) p p') (hk : ∀ b, Good ext T (fun t => k (b, t)) (fun t => k' (b, t))) :
    Good ext T (fun t => p t >>= k) (fun t => p' t >>= k') :=
  hp.andThen (fun a ha => by obtain ⟨b, a2⟩ := a; cases (ha : a2 = []); exact (hk b).1) fun a ha => (hk a.1).ne_nil ha

theorem Good.ok (S : Sh α) (mk : List Tok → α) (h1 : ∀ t, S.lo (mk t) = t) (h2 : ∀ t, S.ex (mk t) = mk (t ++ .bad :: ext)) :
    Good ext S (fun t => .ok (mk t)) (fun t => .ok (mk t)) :=
  ⟨fun a h => by cases h; exact h1 [], fun x t => by
    show Ext S (.ok (mk (x :: t))) (.ok (mk (x :: t ++ .bad :: ext)))
    rw [← h2]; exact Ext_ok S _ (by rw [h1]; exact List.cons_ne_nil x t)⟩

end


theorem adv_good : Good ext (shT ext) adv adv := by
  refine ⟨fun a h => by cases h; rfl, fun x t => ?_⟩
  rcases t with _ | ⟨y, t⟩
  · exact Dead.ext (S := shT ext) (fun a h => by cases h; rfl) .lexError
  · cases y
    case bad => exact Ext_error _ _ _
    all_goals exact Ext_ok (shT ext) _ (List.cons_ne_nil _ _)

theorem expectRp_good : Good ext (shT ext) expectRp expectRp := by
  refine ⟨Dead_error _ _, fun x t => ?_⟩
  cases x
  case rp => exact adv_good.2 .rp t
  all_goals exact Ext_error _ _ _

theorem expectLp_good : Good ext (shT ext) expectLp expectLp := by
  refine ⟨Dead_error _ _, fun x t => ?_⟩
  cases x
  case lp => exact adv_good.2 .lp t
  all_goals exact Ext_error _ _ _

/-- one number of `parseNode` -/
theorem float_good {α : Type} {T : Sh α} {k k' : SwcText.Sci → List Tok → Except Err α} (hk : ∀ a, Good ext T (k a) (k' a)) :
    Good ext T (fun toks => match toks with | .float a :: _ => adv toks >>= k a | [] => .error .eof | _ => .error .tokenType)
      (fun toks => match toks with | .float a :: _ => adv toks >>= k' a | [] => .error .eof | _ => .error .tokenType) := by
  refine ⟨Dead_error _ _, fun x t => ?_⟩
  cases x
  case float a => exact (adv_good.bind (hk a)).2 (.float a) t
  all_goals exact Ext_error _ _ _

/-- one word of `parseColor` -/
theorem literal_good {α : Type} {T : Sh α} {k k' : List Tok → Except Err α} (hk : Good ext T k k') :
    Good ext T (fun toks => match toks with | .literal _ :: _ => adv toks >>= k | [] => .error .eof | _ => .error .tokenType)
      (fun toks => match toks with | .literal _ :: _ => adv toks >>= k' | [] => .error .eof | _ => .error .tokenType) := by
  refine ⟨Dead_error _ _, fun x t => ?_⟩
  cases x
  case literal w => exact (adv_good.bind hk).2 (.literal w) t
  all_goals exact Ext_error _ _ _

theorem parseNode_good : Good ext (shN ext) parseNode parseNode := by
  show Good ext _ (fun toks => parseNode toks) (fun toks => parseNode toks)
  unfold parseNode
  exact float_good fun a => float_good fun b => float_good fun c => float_good fun d =>
    expectRp_good.bind (Good.ok (shN ext) (fun t => ((a, b, c, d), t)) (fun _ => rfl) fun _ => rfl)

theorem parseColor_good : Good ext (shT ext) parseColor parseColor := by
  show Good ext _ (fun toks => parseColor toks) (fun toks => parseColor toks)
  unfold parseColor
  exact literal_good (literal_good expectRp_good)


theorem sub_good (ty : Int) (f : Nat) : ∀ f', f ≤ f' → ∀ (flag : Bool) (ρ γ : Int) (rows : List Asc.Row),
    Good ext (shP ext) (fun t => parseSubtree ty f t flag ρ γ rows) (fun t => parseSubtree ty f' t flag ρ γ rows) := by
  induction f with
  | zero => exact fun _ _ _ _ _ _ => ⟨Dead_error _ _, fun _ _ h => absurd rfl h⟩
  | succ f ih =>
    intro f' hf flag ρ γ rows
    obtain ⟨f', rfl⟩ := Nat.exists_eq_add_one.2 (Nat.zero_lt_of_lt hf)
    replace ih := ih f' (Nat.le_of_succ_le_succ hf)
    have nested : ∀ flagN, Good ext (shP ext) (nest ty f ρ γ rows flagN) (nest ty f' ρ γ rows flagN) := fun flagN =>
      (ih flagN γ γ rows).bindP fun rws => expectRp_good.bind (ih true ρ γ rws)
    refine ⟨fun a h => by cases h; rfl, fun x t => ?_⟩
    dsimp only
    cases x with
    | lp =>
      cases flag with
      | true => rw [parseSubtree_lp_true, parseSubtree_lp_true]; exact (adv_good.bind (ih false ρ γ rows)).2 .lp t
      | false => rw [parseSubtree_lp_false, parseSubtree_lp_false]; exact (adv_good.bind (nested false)).2 .lp t
    | rp =>
      cases flag with
      | true => exact Ext_ok (shP ext) (.rp :: t, rows) (List.cons_ne_nil _ _)
      | false => rw [parseSubtree_rp_false, parseSubtree_rp_false]; exact (adv_good.bind (ih true ρ γ rows)).2 .rp t
    | bar =>
      cases flag with
      | true => rw [parseSubtree_bar_true, parseSubtree_bar_true]; exact (adv_good.bind (ih true ρ ρ rows)).2 .bar t
      | false => exact (nested true).2 .bar t
    | comment c => rw [parseSubtree_comment, parseSubtree_comment]; exact (adv_good.bind (ih flag ρ γ rows)).2 (.comment c) t
    | float a =>
      cases flag with
      | true => exact Ext_error _ _ _
      | false =>
        rw [parseSubtree_float_false, parseSubtree_float_false]
        exact (parseNode_good.bindN fun q => ih true ρ _ _).2 (.float a) t
    | literal w =>
      rw [parseSubtree_literal, parseSubtree_literal]
      split
      · exact (parseColor_good.bind (ih true ρ γ rows)).2 (.literal w) t
      · exact Ext_error _ _ _
    | bad => exact Ext_error _ _ _

theorem sub_ext (ty : Int) (f f' : Nat) (t : List Tok) (flag : Bool) (ρ γ : Int) (rows : List Asc.Row) (hf : f ≤ f') (ht : t ≠ []) :
    Ext (shP ext) (parseSubtree ty f t flag ρ γ rows) (parseSubtree ty f' (t ++ .bad :: ext) flag ρ γ rows) :=
  (sub_good ty f f' hf flag ρ γ rows).ne_nil ht


theorem skip_good (f : Nat) : ∀ f', f ≤ f' → Good ext (shT ext) (skipComments f) (skipComments f') := by
  induction f with
  | zero => exact fun _ _ => ⟨Dead_error _ _, fun _ _ h => absurd rfl h⟩
  | succ f ih =>
    intro f' hf
    obtain ⟨f', rfl⟩ := Nat.exists_eq_add_one.2 (Nat.zero_lt_of_lt hf)
    refine ⟨fun a h => by cases h; rfl, fun x t => ?_⟩
    cases x
    case comment c => exact (adv_good.bind (ih f' (Nat.le_of_succ_le_succ hf))).2 (.comment c) t
    all_goals exact Ext_ok (shT ext) _ (List.cons_ne_nil _ _)

theorem top_good (f : Nat) : ∀ f', f ≤ f' → ∀ rows : List Asc.Row,
    Good ext (shP ext) (fun t => parseTop f t rows) (fun t => parseTop f' t rows) := by
  induction f with
  | zero => exact fun _ _ _ => ⟨Dead_error _ _, fun _ _ h => absurd rfl h⟩
  | succ f ih =>
    intro f' hf rows
    obtain ⟨f', rfl⟩ := Nat.exists_eq_add_one.2 (Nat.zero_lt_of_lt hf)
    have hf := Nat.le_of_succ_le_succ hf
    replace ih := ih f' hf
    have tree : ∀ ty, Good ext (shP ext) (treeBody ty f rows) (treeBody ty f' rows) := fun ty =>
      expectRp_good.bind ((skip_good f f' hf).bind (expectLp_good.bind (sub_good ty f f' hf false (-1) (-1) rows)))
    have item : Good ext (shP ext) (topItem f rows) (topItem f' rows) := by
      refine ⟨Dead_error _ _, fun y t1 => ?_⟩
      cases y
      case literal w =>
        rw [topItem_literal, topItem_literal]
        split
        · exact (adv_good.bind ((tree _).bindP fun rws => ih rws)).2 (.literal w) t1
        · split
          · exact (parseColor_good.bind (ih rows)).2 (.literal w) t1
          · exact Ext_error _ _ _
      all_goals exact Ext_error _ _ _
    refine ⟨fun a h => by cases h; rfl, fun x t => ?_⟩
    dsimp only
    cases x
    case comment c => rw [parseTop_comment, parseTop_comment]; exact (adv_good.bind (ih rows)).2 (.comment c) t
    case rp => exact Ext_ok (shP ext) (.rp :: t, rows) (List.cons_ne_nil _ _)
    case lp => rw [parseTop_lp, parseTop_lp]; exact (adv_good.bind item).2 .lp t
    all_goals exact Ext_error _ _ _

theorem top_ext (f f' : Nat) (t : List Tok) (rows : List Asc.Row) (hf : f ≤ f') (ht : t ≠ []) :
    Ext (shP ext) (parseTop f t rows) (parseTop f' (t ++ .bad :: ext) rows) :=
  (top_good f f' hf rows).ne_nil ht

/-! ### the whole conversion, with the tokens remaining after the closing bracket -/

/-- the end of `C15.convertWith` (of `_parse`): the closing bracket of the document -/
def fin (r : List Tok × List Asc.Row) : Except Err (List Tok × List Asc.Row) :=
  match r.1 with
  | [] => .error .eof
  | .rp :: _ => adv r.1 >>= fun t => .ok (t, r.2)
  | _ => .error .tokenType

/-- `C15.convertWith` returning ALSO the tokens that remain after the closing bracket (`[]` ⇔ the parser's `next_token` is `None` at the end) -/
def convertWithL (N : Nat) (toks : List Tok) : Except Err (List Tok × List Asc.Row) :=
  skipComments N toks >>= fun t0 => expectLp t0 >>= fun t1 => parseTop N t1 [] >>= fin

theorem convertWithL_eq (N : Nat) (toks : List Tok) : convertWithL N toks = RefineAscTop.convertRest N toks := by
  unfold convertWithL RefineAscTop.convertRest
  refine bind_congr fun t0 => bind_congr fun t1 => bind_congr fun r => ?_
  rcases r with ⟨_ | ⟨x, t⟩, rows⟩
  · rfl
  · cases x <;> rfl

theorem convertWith_L (N : Nat) (toks : List Tok) : C15.convertWith N toks = (convertWithL N toks).map Prod.snd := by
  rw [convertWithL_eq, RefineAscTop.convertWith_rest]
  rfl

theorem fin_good (rows : List Asc.Row) : Good ext (shP ext) (fun t => fin (t, rows)) (fun t => fin (t, rows)) := by
  refine ⟨Dead_error _ _, fun x t => ?_⟩
  cases x
  case rp => exact (adv_good.bind (Good.ok (shP ext) (fun t => (t, rows)) (fun _ => rfl) fun _ => rfl)).2 .rp t
  all_goals exact Ext_error _ _ _

theorem convertWithL_ext (N N' : Nat) (t : List Tok) (hN : N ≤ N') (ht : t ≠ []) :
    Ext (shP ext) (convertWithL N t) (convertWithL N' (t ++ .bad :: ext)) :=
  ((skip_good N N' hN).bind (expectLp_good.bind ((top_good N N' hN []).bindP fin_good))).ne_nil ht

theorem convertWithL_ne_fuel (N : Nat) (toks : List Tok) (hN : 2 * toks.length + 2 ≤ N) : convertWithL N toks ≠ .error .fuel :=
  fun h => RefineAscFuel.convertWith_ne_fuel N toks hN (by rw [convertWith_L, h]; rfl)

variable (ext)

/-- **(a) THE MODEL ON A TOKEN STREAM WITH A LEXER FAILURE**: `pre` without `.bad`, then `.bad`, then anything.  The model's conversion of
the whole stream is decided by its run on `pre` alone (`convertWithL`, with the fuel of `Asc.convertTokens pre`): an error of that run, or a
run that consumes ALL of `pre` (the parser would pull the failing word) ↦ an error; a run that ends with tokens of `pre` left after the
closing bracket ↦ the same rows (the failing word is never looked at: trailing garbage). -/
theorem convertTokens_bad (pre : List Tok) (hnb : NoBad pre) :
    match convertWithL (2 * pre.length + 4) pre with
    | .error _ => ∃ e, convertTokens (pre ++ .bad :: ext) = .error e
    | .ok (rest, rows) => if rest = [] then ∃ e, convertTokens (pre ++ .bad :: ext) = .error e
        else convertTokens (pre ++ .bad :: ext) = .ok rows := by
  cases pre with
  | nil => exact ⟨_, rfl⟩
  | cons x p =>
    rw [C15.convertTokens_eq (x :: p ++ .bad :: ext) (by simpa using noBad_head hnb), convertWith_L]
    have hE := convertWithL_ext (ext := ext) (2 * (x :: p).length + 4) (2 * (x :: p ++ .bad :: ext).length + 4) (x :: p)
      (by simp; omega) (List.cons_ne_nil x p)
    have hnf := convertWithL_ne_fuel (2 * (x :: p).length + 4) (x :: p) (by omega)
    revert hE hnf
    rcases convertWithL (2 * (x :: p).length + 4) (x :: p) with e | ⟨rest, rows⟩
    · intro hE hnf
      obtain ⟨e', he'⟩ := hE fun h => hnf (h ▸ rfl)
      exact ⟨e', by rw [he']; rfl⟩
    · intro (hE : if rest = [] then _ else _) _
      show if rest = [] then _ else _
      split
      · next hr =>
        obtain ⟨e', he'⟩ := (if_pos hr).mp hE
        exact ⟨e', by rw [he']; rfl⟩
      · next hr => rw [(if_neg hr).mp hE]; rfl

/-! ### (b) the generated parser, with its final `next_token` position -/
section gen
open Gen.Algo Py RefineAsc RefineAscHeap RefineAscTop
variable {encF : SwcText.Sci → Int}

/-- **`RefineAscTop.parse_refines` WITH THE FINAL PARSER STATE**: `Parser._parse` as translated ends in the state `st encF rest nodes'` where
`rest` is exactly what the model (`convertWithL`) has left after the closing bracket: `next_token` is `None` iff `rest = []`, i.e. iff some
`_read_token` found the token list empty (the run pulled one token more than there are) -/
theorem parse_refinesL (N G : Nat) (toks : List Tok) (nodes0 : List ASTNode) (hnb : NoBad toks) (hG : 2 * N ≤ G)
    (hne : convertWithL N toks ≠ .error .fuel) :
    match convertWithL N toks with
    | .error _ => parser_parse G (st encF toks nodes0) = none
    | .ok (rest, rows) => ∃ nodes', parser_parse G (st encF toks nodes0) = some (st encF rest nodes', (nodes0.length : Int)) ∧
        Built encF U (nodes0 ++ [rootRec]) nodes' nodes0.length nodes0.length (-1) (-1) 0 rows := by
  have h := parse_rest_refines (encF := encF) N G toks nodes0 hnb hG
  rw [convertWithL_eq] at hne ⊢
  revert h hne
  rcases RefineAscTop.convertRest N toks with e | ⟨rest, rows⟩
  · exact fun hne h => h fun c => hne (by rw [c])
  · exact fun _ h => h

/-- `AlgoRun.ascConvertPrefix` (the generated parser + walk on the tokens the lexer yielded before it raised, rejecting iff the parser asked
for one more) in terms of the model's run on these tokens -/
theorem convertPrefix_eq (pre : List Tok) (hnb : NoBad pre) :
    AlgoRun.ascConvertPrefix (pre.map (enc encF)) =
      match convertWithL (2 * pre.length + 4) pre with
      | .error _ => none
      | .ok (rest, rows) => if rest = [] then none else some ((rows.length : Int), colsOf (encRows encF 0 rows)) := by
  have h := parse_refinesL (encF := encF) (2 * pre.length + 4) (4 * pre.length + 8) pre [] hnb (by omega)
    (convertWithL_ne_fuel _ pre (by omega))
  unfold AlgoRun.ascConvertPrefix
  rw [init_st]
  simp only [AlgoRun.ascParseFuel, List.length_map]
  revert h
  rcases convertWithL (2 * pre.length + 4) pre with e | ⟨rest, rows⟩
  · intro h; simp only [h]
  · rintro ⟨nodes', h1, h2⟩
    simp only [List.length_nil] at h1
    simp only [h1, st_next_token, st_nodes]
    cases rest with
    | nil => simp
    | cons y rest' =>
      simp only [List.head?_cons, Option.map_some, Option.isNone_some, Bool.false_eq_true, if_false, reduceCtorEq]
      simpa using built_root [] nodes' rows h2 (AlgoRun.ascWalkFuel nodes') (by simp [AlgoRun.ascWalkFuel])

end gen

/-- the tokens before the first `.bad` -/
theorem goodPrefix_split (toks : List Tok) (h : Tok.bad ∈ toks) :
    NoBad (RefineAscLex.goodPrefix toks).1 ∧ ∃ ext', toks = (RefineAscLex.goodPrefix toks).1 ++ .bad :: ext' := by
  induction toks with
  | nil => cases h
  | cons t ts ih =>
    by_cases ht : t = .bad
    · rw [RefineAscLex.goodPrefix, if_pos ht, ht]
      exact ⟨nofun, ts, rfl⟩
    · rw [RefineAscLex.goodPrefix, if_neg ht]
      obtain ⟨i1, e', i2⟩ := ih ((List.mem_cons.1 h).resolve_left (Ne.symm ht))
      exact ⟨fun x hx => (List.mem_cons.1 hx).elim (· ▸ ht) (i1 x), e', congrArg (t :: ·) i2⟩

/-- **generated parser + walk on the tokens before the lexer failure = the model on the WHOLE token stream** -/
theorem convertPrefix_eq_model (encF : SwcText.Sci → Int) (toks : List Tok) (hb : Tok.bad ∈ toks) :
    AlgoRun.ascConvertPrefix ((RefineAscLex.goodPrefix toks).1.map (enc encF)) =
      match convertTokens toks with
      | .ok rows => some ((rows.length : Int), RefineAsc.colsOf (RefineAscHeap.encRows encF 0 rows))
      | .error _ => none := by
  obtain ⟨hnb, ext', hsplit⟩ := goodPrefix_split toks hb
  generalize (RefineAscLex.goodPrefix toks).1 = pre at hnb hsplit
  subst hsplit
  rw [convertPrefix_eq pre hnb]
  have hm := convertTokens_bad ext' pre hnb
  revert hm
  rcases convertWithL (2 * pre.length + 4) pre with e | ⟨rest, rows⟩
  · rintro ⟨e', he'⟩; rw [he']
  · intro (hm : if rest = [] then _ else _)
    show (if rest = [] then _ else _) = _
    split
    · next hr => obtain ⟨e', he'⟩ := (if_pos hr).mp hm; rw [he']
    · next hr => rw [(if_neg hr).mp hm]

/-- model corollary: a token stream whose tokens BEFORE the lexer failure are already rejected is rejected -/
theorem convertTokens_bad_of_error (pre ext' : List Tok) (hnb : NoBad pre) (he : ∃ e, convertTokens pre = .error e) :
    ∃ e, convertTokens (pre ++ .bad :: ext') = .error e := by
  have hm := convertTokens_bad ext' pre hnb
  have hc : convertTokens pre = (convertWithL (2 * pre.length + 4) pre).map Prod.snd := by
    rw [← convertWith_L]
    exact C15.convertTokens_eq _ fun h => hnb .bad (List.mem_of_mem_head? h) rfl
  obtain ⟨e, he⟩ := he
  rw [hc] at he
  revert hm he
  cases convertWithL (2 * pre.length + 4) pre with
  | error e1 => intro hm _; exact hm
  | ok r => intro _ he; cases he

end RefineAscBad
