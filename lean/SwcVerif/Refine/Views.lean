import SwcVerif.Gen.AlgoViews
import SwcVerif.Refine.PyRun
/-! # Refinement: the view classes of C09, as translated (`Gen/AlgoViews.lean`), against their specification

Every statement is about the definitions GENERATED from the current sources of `node.py`, `path.py`, `tree.py`, `branch.py`,
`compartment.py`, `swc.py` (harness/algo_specs/70_views.py), for EVERY column content and EVERY index array (no bound on sizes).
`T` is a tree / DictSWC (a record of columns), `P = ⟨T, idx, nm⟩` a Path / Branch over it. -/
namespace RefineViews
open Gen.Algo
-- with these `simp` runs an accessor-shaped body (`return e` after fallible sub-expressions) into a term of the `Option` monad
attribute [local simp] Py.finish_ret Py.finish_next Py.map_finish_bind Py.bindS_next Py.bindS_ret Py.bindS_bind

/-! ## gathering (`col[idx]`) -/

/-- every entry of `idx` is a valid non-negative row of a column of length `n` -/
def InRange (idx : List Int) (n : Nat) : Prop := ∀ i ∈ idx, 0 ≤ i ∧ i.toNat < n

/-- the rows `idx` of `col`, in order -/
def gather (col idx : List Int) : List Int := idx.map fun i => col.getD i.toNat 0

theorem take_gather (col idx : List Int) (h : InRange idx col.length) : Py.take col idx = some (gather col idx) :=
  Py.take_inrange col 0 idx h

@[simp] theorem gather_length (col idx : List Int) : (gather col idx).length = idx.length := List.length_map _

def arangeL (n : Nat) : List Int := (List.range n).map fun (k : Nat) => (k : Int)
def pidL (n : Nat) : List Int := (List.range n).map fun (k : Nat) => (k : Int) - 1

theorem inRange_arangeL (n : Nat) : InRange (arangeL n) n := by
  intro j hj
  obtain ⟨a, ha, rfl⟩ := List.mem_map.1 hj
  exact ⟨Int.natCast_nonneg a, List.mem_range.1 ha⟩

theorem take_arange (l : List Int) : Py.take l (arangeL l.length) = some l := by
  rw [take_gather l _ (inRange_arangeL _)]
  refine congrArg some (List.ext_getElem (by simp [arangeL]) fun k h1 h2 => ?_)
  simp only [gather, arangeL, List.getElem_map, List.getElem_range, Int.toNat_natCast, List.getD_eq_getElem?_getD,
    List.getElem?_eq_getElem h2, Option.getD_some]

/-! ## reads -/

theorem swc_get_ndata_eq (T : DictSWC) (key : String) : swc_get_ndata T key = Py.Dict.get? T.ndata key := by
  simp [swc_get_ndata, swc_get_ndata.body]

/-- `Path.get_ndata(key)` = `attach.get_ndata(key)[self.idx]`: the owner's column gathered by `idx` (KeyError / IndexError alike) -/
theorem path_get_ndata_eq (T : DictSWC) (idx : List Int) (nm : SWCNames) (key : String) :
    path_get_ndata ⟨T, idx, nm⟩ key = (Py.Dict.get? T.ndata key).bind fun col => Py.take col idx := by
  simp [path_get_ndata, path_get_ndata.body, swc_get_ndata_eq]

/-- … for an index array with entries in range: exactly the rows `idx` of the column, in order -/
theorem path_get_ndata_spec (T : DictSWC) (idx : List Int) (nm : SWCNames) (key : String) (col : List Int)
    (hk : Py.Dict.get? T.ndata key = some col) (hr : InRange idx col.length) :
    path_get_ndata ⟨T, idx, nm⟩ key = some (gather col idx) := by
  rw [path_get_ndata_eq, hk]; exact take_gather col idx hr

theorem path_get_ndata_length (P : Path) (key : String) (gk : List Int) (h : path_get_ndata P key = some gk) : gk.length = P.idx.length := by
  obtain ⟨T, idx, nm⟩ := P
  rw [path_get_ndata_eq] at h
  obtain ⟨col, -, hc⟩ := Option.bind_eq_some_iff.1 h
  exact (Py.mapM_eq_some _ _ _ hc).1

theorem path_getitem_str_eq (P : Path) (key : String) : path_getitem_str P key = path_get_ndata P key := by
  simp [path_getitem_str, path_getitem_str.body, Py.seq_eq_bindS, Py.skip]

theorem tree_getitem_str_eq (T : DictSWC) (key : String) : tree_getitem_str T key = Py.Dict.get? T.ndata key := by
  simp [tree_getitem_str, tree_getitem_str.body, Py.seq_eq_bindS, Py.skip, swc_get_ndata_eq]

theorem path_id_eq (P : Path) (g : List Int) (h : path_get_ndata P P.names.id = some g) : path_id P = some (arangeL P.idx.length) := by
  simp [path_id, path_id.body, path_origin_id, path_origin_id.body, h, Py.arange, arangeL, path_get_ndata_length P _ g h]

/-- `len(path)` = the length of `idx` whenever the id column can be gathered -/
theorem path_len_eq (P : Path) (g : List Int) (h : path_get_ndata P P.names.id = some g) : path_len P = some (P.idx.length : Int) := by
  simp [path_len, path_len.body, path_id_eq P g h, arangeL]

theorem path_pid_eq (P : Path) (g : List Int) (h : path_get_ndata P P.names.id = some g) : path_pid P = some (pidL P.idx.length) := by
  simp [path_pid, path_pid.body, path_origin_id, path_origin_id.body, h, Py.range2, pidL, path_get_ndata_length P _ g h]
  exact fun a _ => Int.add_comm _ _

/-! ## integer keys: range check, negative normalisation, the node handle -/

/-- the position a Python index `k` designates in a sequence of length `n` (`-n ≤ k < n`) -/
def normKey (k : Int) (n : Nat) : Int := if k < 0 then k + n else k

theorem normKey_range (k : Int) (n : Nat) (h : ¬ (k < -(n : Int) ∨ k ≥ n)) : 0 ≤ normKey k n ∧ (normKey k n).toNat < n := by
  have : 0 ≤ normKey k n ∧ normKey k n < n := by unfold normKey; split <;> omega
  exact ⟨this.1, (Int.toNat_lt this.1).2 this.2⟩

theorem normKey_nat {k n : Nat} (hk : k < n) : ¬ ((k : Int) < -(n : Int) ∨ (k : Int) ≥ n) ∧ normKey k n = k :=
  ⟨by omega, if_neg (Int.not_lt.2 (Int.natCast_nonneg k))⟩

theorem path_node_eq (P : Path) (i : Int) : path_node P i = some ⟨P, i, P.names⟩ := by
  simp [path_node, path_node.body, pnode_init, pnode_init.body, Py.seq]

theorem tree_node_eq (T : DictSWC) (i : Int) : tree_node T i = some ⟨T, i, T.names⟩ := by
  simp [tree_node, tree_node.body, tnode_init, tnode_init.body, Py.seq]

/-- `path[k]` for an `int` key: IndexError outside `-n ≤ k < n`, otherwise the handle of position `k mod n` (a handle is (path, position):
it dereferences on every access) -/
theorem path_getitem_int_eq (P : Path) (g : List Int) (h : path_get_ndata P P.names.id = some g) (k : Int) :
    path_getitem_int P k =
      if k < -(P.idx.length : Int) ∨ k ≥ P.idx.length then none else some ⟨P, normKey k P.idx.length, P.names⟩ := by
  simp only [path_getitem_int, path_getitem_int.body, Py.seq, Py.skip, path_len_eq P g h, Py.bind, path_node_eq, normKey]
  by_cases h1 : k < -(P.idx.length : Int) ∨ k ≥ P.idx.length
  · simp [h1, Py.finish]
  · by_cases h2 : k < 0 <;> simp [h1, h2, Py.finish]

theorem swc_len_eq (T : DictSWC) (idc : List Int) (h : Py.Dict.get? T.ndata T.names.id = some idc) : swc_len T = some (idc.length : Int) := by
  simp [swc_len, swc_len.body, swc_number_of_nodes, swc_number_of_nodes.body, swc_id, swc_id.body, swc_get_ndata_eq, h]

/-- `tree[k]` for an `int` key (the same text as `Path.__getitem__`) -/
theorem tree_getitem_int_eq (T : DictSWC) (idc : List Int) (h : Py.Dict.get? T.ndata T.names.id = some idc) (k : Int) :
    tree_getitem_int T k =
      if k < -(idc.length : Int) ∨ k ≥ idc.length then none else some ⟨T, normKey k idc.length, T.names⟩ := by
  simp only [tree_getitem_int, tree_getitem_int.body, Py.seq, Py.skip, swc_len_eq T idc h, Py.bind, tree_node_eq, normKey]
  by_cases h1 : k < -(idc.length : Int) ∨ k ≥ idc.length
  · simp [h1, Py.finish]
  · by_cases h2 : k < 0 <;> simp [h1, h2, Py.finish]

/-- `Node.__getitem__` on a node of a tree: the owner's column at the node's row, on every access -/
theorem tnode_getitem_eq (T : DictSWC) (i : Int) (nm : SWCNames) (key : String) :
    tnode_getitem ⟨T, i, nm⟩ key = (Py.Dict.get? T.ndata key).bind fun col => Py.idx col i := by
  simp [tnode_getitem, tnode_getitem.body, swc_get_ndata_eq]

/-- `Node.__getitem__` on a node of a path: the path's (gathered) column at the node's position -/
theorem pnode_getitem_eq (P : Path) (i : Int) (nm : SWCNames) (key : String) :
    pnode_getitem ⟨P, i, nm⟩ key = (path_get_ndata P key).bind fun g => Py.idx g i := by
  simp [pnode_getitem, pnode_getitem.body]

/-! ## writes through node handles -/

/-- `Node.__setitem__` on a node of a tree / DictSWC: exactly cell `i` of column `k` of the OWNER changes (returned as the node's `attach`);
KeyError / IndexError otherwise -/
theorem tnode_setitem_eq (T : DictSWC) (i : Int) (nm : SWCNames) (k : String) (x : Int) :
    tnode_setitem ⟨T, i, nm⟩ k x =
      (Py.Dict.get? T.ndata k).bind fun col => (Py.setIdx col i x).bind fun col' =>
        some (⟨{ T with ndata := Py.Dict.set T.ndata k col' }, i, nm⟩, ()) := by
  simp [tnode_setitem, tnode_setitem.body]

/-- the owner after `tree[i][k] = x` (`j` the normalised row) -/
def written (T : DictSWC) (k : String) (col : List Int) (j : Nat) (x : Int) : DictSWC :=
  { T with ndata := Py.Dict.set T.ndata k (col.set j x) }

/-- **write-through**: assigning through the handle `tree[i]` (`-n ≤ i < n`) succeeds and the owner becomes `written …`: -/
theorem node_write_through (T : DictSWC) (k : String) (col idc : List Int) (x i : Int)
    (hid : Py.Dict.get? T.ndata T.names.id = some idc) (hk : Py.Dict.get? T.ndata k = some col) (hl : col.length = idc.length)
    (hi : ¬ (i < -(idc.length : Int) ∨ i ≥ idc.length)) :
    (tree_getitem_int T i).bind (fun n => tnode_setitem n k x) =
      some (⟨written T k col (normKey i idc.length).toNat x, normKey i idc.length, T.names⟩, ()) := by
  rw [tree_getitem_int_eq T idc hid i, if_neg hi, Option.bind_some, tnode_setitem_eq, hk, Option.bind_some,
    Py.setIdx_inrange col _ x (hl ▸ normKey_range i idc.length hi)]
  rfl

/-- … the written column holds `x` at that row and is otherwise unchanged; every other column is untouched -/
theorem written_get (T : DictSWC) (k k' : String) (col : List Int) (j : Nat) (x : Int) :
    Py.Dict.get? (written T k col j x).ndata k' = if k' = k then some (col.set j x) else Py.Dict.get? T.ndata k' :=
  Py.Dict.get?_set _ _ _ _

/-- **write, then read through any view**: after `tree[i][k] = x`, a path over the same owner reports `x` at every position that refers to
row `i` and the old value elsewhere — for every idx array in range (a path holds no copy: it gathers on every access) -/
theorem write_then_view_read (T : DictSWC) (k : String) (col : List Int) (j : Nat) (x : Int) (idx : List Int) (nm : SWCNames)
    (hr : InRange idx col.length) :
    path_get_ndata ⟨written T k col j x, idx, nm⟩ k = some (idx.map fun i => if i.toNat = j then x else col.getD i.toNat 0) := by
  rw [path_get_ndata_spec (written T k col j x) idx nm k (col.set j x) (by rw [written_get, if_pos rfl])
    (by rw [List.length_set]; exact hr)]
  refine congrArg some (List.map_congr_left fun i hi => ?_)
  rw [List.getD_eq_getElem?_getD, List.getElem?_set, List.getD_eq_getElem?_getD]
  by_cases e : j = i.toNat
  · subst e; simp [(hr i hi).2]
  · simp [e, Ne.symm e]

/-- … and a column that was not written is read unchanged through every view -/
theorem write_frame (T : DictSWC) (k k' : String) (col : List Int) (j : Nat) (x : Int) (idx : List Int) (nm : SWCNames) (hne : k' ≠ k) :
    path_get_ndata ⟨written T k col j x, idx, nm⟩ k' = path_get_ndata ⟨T, idx, nm⟩ k' := by
  rw [path_get_ndata_eq, path_get_ndata_eq, written_get, if_neg hne]

/-! ## slice keys -/

/-- the positions Python's slice `s` designates in a sequence of length `n`, in order: `range(*s.indices(n))` (`none` = ValueError, step 0) -/
def slicePositions (s : Py.Slice) (n : Int) : Option (List Int) :=
  (Py.sliceIndices s n).bind fun t => Py.range3 t.1 t.2.1 t.2.2

theorem slicePositions_eq_none_iff (s : Py.Slice) (n : Nat) : slicePositions s n = none ↔ s.2.2 = some 0 := by
  have e : s.2.2 = some 0 ↔ s.2.2.getD 1 = 0 := by cases s.2.2 <;> simp
  rw [e, slicePositions, Py.sliceIndices]
  by_cases h0 : s.2.2.getD 1 = 0
  · rw [if_pos (Or.inl h0)]; exact iff_of_true rfl h0
  · rw [if_neg fun h => h.elim h0 (Int.not_lt.2 (Int.natCast_nonneg n)), Option.bind_some, Py.range3, if_neg h0]
    exact iff_of_false (fun h => nomatch h) h0

/-- **`path[a:b:c]`** = the node handles at the positions Python's slice designates, in order (ValueError for a zero step) -/
theorem path_getitem_slice_eq (P : Path) (g : List Int) (h : path_get_ndata P P.names.id = some g) (s : Py.Slice) :
    path_getitem_slice P s = (slicePositions s P.idx.length).map fun l => l.map fun i => (⟨P, i, P.names⟩ : PNode) := by
  simp only [path_getitem_slice, path_getitem_slice.body, Py.seq, Py.skip, path_len_eq P g h, Py.bind, slicePositions]
  cases h1 : Py.sliceIndices s P.idx.length with
  | none => rfl
  | some t =>
    cases h2 : Py.range3 t.1 t.2.1 t.2.2 with
    | none => simp [Py.bindS, Py.finish, h2]
    | some l =>
      obtain ⟨v', e1, _, e3⟩ := Py.forEach_collect path_getitem_slice.for1 (·.c0_) (fun i => (⟨P, i, P.names⟩ : PNode)) (·.self = P) l
        (fun x _ v hv => by subst hv; exact ⟨_, by simp only [path_getitem_slice.for1, path_node_eq, Py.bind]; rfl, by rfl, by rfl⟩)
        ⟨P, s, (default : path_getitem_slice.V).i, []⟩ rfl
      simp [Py.bindS, Py.finish, h2, e1, e3]

/-- **`tree[a:b:c]`** (the same text as `Path.__getitem__`) -/
theorem tree_getitem_slice_eq (T : DictSWC) (idc : List Int) (h : Py.Dict.get? T.ndata T.names.id = some idc) (s : Py.Slice) :
    tree_getitem_slice T s = (slicePositions s idc.length).map fun l => l.map fun i => (⟨T, i, T.names⟩ : TNode) := by
  simp only [tree_getitem_slice, tree_getitem_slice.body, Py.seq, Py.skip, swc_len_eq T idc h, Py.bind, slicePositions]
  cases h1 : Py.sliceIndices s idc.length with
  | none => rfl
  | some t =>
    cases h2 : Py.range3 t.1 t.2.1 t.2.2 with
    | none => simp [Py.bindS, Py.finish, h2]
    | some l =>
      obtain ⟨v', e1, _, e3⟩ := Py.forEach_collect tree_getitem_slice.for1 (·.c0_) (fun i => (⟨T, i, T.names⟩ : TNode)) (·.self = T) l
        (fun x _ v hv => by subst hv; exact ⟨_, by simp only [tree_getitem_slice.for1, tree_node_eq, Py.bind]; rfl, by rfl, by rfl⟩)
        ⟨T, s, (default : tree_getitem_slice.V).i, []⟩ rfl
      simp [Py.bindS, Py.finish, h2, e1, e3]

theorem mul_lt_of_lt_ceilDiv {d s : Int} (hs : 0 < s) {k : Nat} (hk : k < ((d + s - 1) / s).toNat) : (k : Int) * s < d := by
  have h2 := (Int.le_ediv_iff_mul_le hs).1 (show (k : Int) + 1 ≤ (d + s - 1) / s by omega)
  rw [Int.add_mul, Int.one_mul] at h2
  omega

theorem range3_mem_pos (start stop step : Int) (hs : 0 < step) (l : List Int) (h : Py.range3 start stop step = some l) :
    ∀ i ∈ l, start ≤ i ∧ i < stop := by
  intro i hi
  rw [Py.range3, if_neg (Int.ne_of_gt hs)] at h
  cases h
  obtain ⟨k, hk, rfl⟩ := List.mem_map.1 hi
  rw [List.mem_range, Py.rangeLen, if_pos hs] at hk
  split at hk
  · have := mul_lt_of_lt_ceilDiv hs hk
    have := Int.mul_nonneg (Int.natCast_nonneg k) (Int.le_of_lt hs)
    omega
  · exact absurd hk (Nat.not_lt_zero k)

theorem range3_mem_neg (start stop step : Int) (hs : step < 0) (l : List Int) (h : Py.range3 start stop step = some l) :
    ∀ i ∈ l, stop < i ∧ i ≤ start := by
  intro i hi
  rw [Py.range3, if_neg (Int.ne_of_lt hs)] at h
  cases h
  obtain ⟨k, hk, rfl⟩ := List.mem_map.1 hi
  rw [List.mem_range, Py.rangeLen, if_neg (Int.not_lt.2 (Int.le_of_lt hs))] at hk
  split at hk
  · rw [show start - stop - step - 1 = start - stop + -step - 1 by omega] at hk
    have := mul_lt_of_lt_ceilDiv (Int.neg_pos.2 hs) hk
    have := Int.mul_nonneg (Int.natCast_nonneg k) (Int.le_of_lt (Int.neg_pos.2 hs))
    rw [Int.mul_neg] at *
    omega
  · exact absurd hk (Nat.not_lt_zero k)

theorem sliceClamp_bounds (b : Option Int) {n lo hi d : Int} (h1 : lo ≤ 0) (h2 : n - 1 ≤ hi) (hd : lo ≤ d ∧ d ≤ hi) :
    lo ≤ Py.sliceClamp b n lo hi d ∧ Py.sliceClamp b n lo hi d ≤ hi := by
  cases b with
  | none => exact hd
  | some a =>
    simp only [Py.sliceClamp]
    have := Int.le_trans hd.1 hd.2
    by_cases ha : a < 0
    · rw [if_pos ha]
      by_cases hb : a + n < lo
      · rw [if_pos hb]; exact ⟨Int.le_refl _, this⟩
      · rw [if_neg hb]; exact ⟨Int.not_lt.1 hb, by omega⟩
    · rw [if_neg ha]
      by_cases hb : a > hi
      · rw [if_pos hb]; exact ⟨this, Int.le_refl _⟩
      · rw [if_neg hb]; exact ⟨by omega, Int.not_lt.1 hb⟩

/-- **every position `range(*s.indices(n))` yields lies in `0 .. n-1`**: the node handles of `path[a:b:c]` / `tree[a:b:c]` are all valid,
for every slice (negative / missing / out-of-range bounds, any non-zero step) and every length -/
theorem slicePositions_inbounds (s : Py.Slice) (n : Nat) (l : List Int) (h : slicePositions s n = some l) : InRange l n := by
  obtain ⟨a, b, c⟩ := s
  have hn := Int.natCast_nonneg n
  by_cases h0 : c.getD 1 = 0 ∨ (n : Int) < 0
  · rw [slicePositions, Py.sliceIndices, if_pos h0] at h; cases h
  intro i hi
  suffices h : 0 ≤ i ∧ i < n from ⟨h.1, (Int.toNat_lt h.1).2 h.2⟩
  rcases Int.lt_or_gt_of_ne (fun e => h0 (Or.inl e)) with hneg | hpos
  · -- a negative step walks down from `start ≤ n - 1` to above `stop ≥ -1`
    simp only [slicePositions, Py.sliceIndices, if_neg h0, Option.bind_some, if_pos hneg] at h
    have r := range3_mem_neg _ _ _ hneg l h i hi
    have hb := (sliceClamp_bounds b (n := n) (d := -1) (show (-1 : Int) ≤ 0 by decide) (Int.le_refl _) ⟨Int.le_refl _, by omega⟩).1
    have ha := (sliceClamp_bounds a (n := n) (d := n - 1) (show (-1 : Int) ≤ 0 by decide) (Int.le_refl _) ⟨by omega, Int.le_refl _⟩).2
    exact ⟨Int.add_one_le_of_lt (Int.lt_of_le_of_lt hb r.1), Int.lt_of_le_sub_one (Int.le_trans r.2 ha)⟩
  · -- a positive one up from `start ≥ 0` to below `stop ≤ n`
    simp only [slicePositions, Py.sliceIndices, if_neg h0, Option.bind_some, if_neg (Int.not_lt.2 (Int.le_of_lt hpos))] at h
    have r := range3_mem_pos _ _ _ hpos l h i hi
    have ha := (sliceClamp_bounds a (n := n) (d := 0) (Int.le_refl 0) (show (n : Int) - 1 ≤ n by omega) ⟨Int.le_refl 0, hn⟩).1
    have hb := (sliceClamp_bounds b (n := n) (d := n) (Int.le_refl 0) (show (n : Int) - 1 ≤ n by omega) ⟨hn, Int.le_refl _⟩).2
    exact ⟨Int.le_trans ha r.1, Int.lt_of_lt_of_le r.2 hb⟩

/-! ## compartments -/

theorem bcomp_init_eq (P : Path) (a b : Int) : bcomp_init default P a b = some (⟨P, [a, b], P.names⟩, ()) := by
  simp [bcomp_init, bcomp_init.body, ppath_init, ppath_init.body, Py.seq]

theorem tcomp_init_eq (T : DictSWC) (a b : Int) : tcomp_init default T a b = some (⟨T, [a, b], T.names⟩, ()) := by
  simp [tcomp_init, tcomp_init.body, path_init, path_init.body, Py.seq]

theorem range2_one (n : Nat) : Py.range2 1 n = (List.range (n - 1)).map fun (k : Nat) => (k : Int) + 1 := by
  simp only [Py.range2, show ((n : Int) - 1).toNat = n - 1 from Int.toNat_sub n 1, Int.add_comm 1]

/-- `Branch.get_compartments()`: one compartment per position `i = 1 .. n-1`, over the BRANCH, with index array `[i - 1, i]` -/
theorem branch_get_compartments_eq (P : Path) (g : List Int) (h : path_get_ndata P P.names.id = some g) :
    branch_get_compartments P = some ((List.range (P.idx.length - 1)).map fun (k : Nat) => (⟨P, [(k : Int), (k : Int) + 1], P.names⟩ : PPath)) := by
  obtain ⟨v', e1, _, e3⟩ := Py.forEach_collect branch_get_compartments.for1 (·.c0_) (fun i => (⟨P, [i - 1, i], P.names⟩ : PPath))
    (·.self = P) (Py.range2 1 P.idx.length)
    (fun x _ v hv => by subst hv; exact ⟨_, by simp only [branch_get_compartments.for1, bcomp_init_eq, Py.bind]; rfl, by rfl, by rfl⟩)
    ⟨P, (default : branch_get_compartments.V).i, []⟩ rfl
  simp [branch_get_compartments, branch_get_compartments.body, Py.seq, path_len_eq P g h, Py.bind, Py.bindS, e1, e3]
  simp [range2_one, Function.comp_def]

theorem ppath_get_ndata_eq (P : Path) (ix : List Int) (nm : SWCNames) (key : String) :
    ppath_get_ndata ⟨P, ix, nm⟩ key = (path_get_ndata P key).bind fun g => Py.take g ix := by
  simp [ppath_get_ndata, ppath_get_ndata.body]

/-- a compartment of a branch reports, for every column, the values of the branch's nodes `k` and `k + 1` -/
theorem branch_compartment_read (P : Path) (key : String) (gk : List Int) (hk : path_get_ndata P key = some gk) (nm : SWCNames)
    (k : Nat) (hlt : k + 1 < gk.length) :
    ppath_get_ndata ⟨P, [(k : Int), (k : Int) + 1], nm⟩ key = some [gk.getD k 0, gk.getD (k + 1) 0] := by
  rw [ppath_get_ndata_eq, hk]
  exact take_gather gk [(k : Int), (k : Int) + 1] fun j hj => by
    simp only [List.mem_cons, List.mem_nil_iff, or_false] at hj
    rcases hj with rfl | rfl
    · exact ⟨Int.natCast_nonneg k, Nat.lt_of_succ_lt hlt⟩
    · exact ⟨Int.natCast_nonneg (k + 1), hlt⟩

/-! ### of a tree: the (parent, child) pairs of rows 1 .. n-1 -/

theorem range3_one (a b : Int) : Py.range3 a b 1 = some (Py.range2 a b) := by
  have e : Py.rangeLen a b 1 = (b - a).toNat := by
    simp only [Py.rangeLen, if_pos (show (1 : Int) > 0 by decide), Int.add_sub_cancel, Int.ediv_one]
    split
    · rfl
    · rename_i h; exact (Int.toNat_eq_zero.2 (Int.sub_nonpos_of_le (Int.not_lt.1 h))).symm
  simp only [Py.range3, e, Py.range2, Int.mul_one, if_neg (show ¬ (1 : Int) = 0 by decide)]

/-- the rows `tree[1:]` visits -/
theorem slicePositions_from1 (L : Nat) :
    slicePositions ((some 1, none, none) : Py.Slice) L = some ((List.range (L - 1)).map fun (k : Nat) => (k : Int) + 1) := by
  have h0 : ¬ ((1 : Int) = 0 ∨ (L : Int) < 0) := fun h => h.elim (by decide) (Int.not_lt.2 (Int.natCast_nonneg L))
  simp only [slicePositions, Py.sliceIndices, Option.getD_none, if_neg h0, Option.bind_some,
    Py.sliceClamp, range3_one, if_neg (show ¬ (1 : Int) < 0 by decide), ← range2_one]
  split
  · -- `L = 0`: the start is clamped to `L`, and both ranges are empty
    rename_i h
    rw [Py.range2, Py.range2, Int.sub_self, Int.toNat_zero, Int.toNat_eq_zero.2 (Int.sub_nonpos_of_le (Int.le_of_lt h))]
    rfl
  · rfl

/-- **`Tree.get_compartments()`**: for the rows `i = 1 .. n-1` of the tree, in order, the compartment over the TREE with index array
`[pid[i], id[i]]` (the values of the two topology columns at row `i`: (parent, child)) -/
theorem tree_get_compartments_eq (T : DictSWC) (pidc idc : List Int) (hp : Py.Dict.get? T.ndata T.names.pid = some pidc)
    (hi : Py.Dict.get? T.ndata T.names.id = some idc) (hl : pidc.length = idc.length) :
    tree_get_compartments T =
      some ((List.range (idc.length - 1)).map fun (k : Nat) => (⟨T, [pidc.getD (k + 1) 0, idc.getD (k + 1) 0], T.names⟩ : Path)) := by
  have hs := tree_getitem_slice_eq T idc hi (some 1, none, none)
  rw [slicePositions_from1, Option.map_some, List.map_map] at hs
  obtain ⟨v', e1, _, e3⟩ := Py.forEach_collect (fun k : Nat => tree_get_compartments.for1 ⟨T, (k : Int) + 1, T.names⟩) (·.c0_)
    (fun k : Nat => (⟨T, [pidc.getD (k + 1) 0, idc.getD (k + 1) 0], T.names⟩ : Path)) (·.self = T) (List.range (idc.length - 1))
    (fun k hk v hv => by
      subst hv
      have hr : 0 ≤ (k : Int) + 1 ∧ ((k : Int) + 1).toNat < idc.length := ⟨Int.natCast_nonneg (k + 1), Nat.add_lt_of_lt_sub (List.mem_range.1 hk)⟩
      exact ⟨_, by simp only [tree_get_compartments.for1, tnode_getitem_eq, hp, hi, Option.bind_some,
        Py.idx_inrange pidc _ 0 (hl ▸ hr), Py.idx_inrange idc _ 0 hr, Py.bind, tcomp_init_eq]; rfl, by rfl, by rfl⟩)
    ⟨T, (default : tree_get_compartments.V).n, []⟩ rfl
  simp [tree_get_compartments, tree_get_compartments.body, Py.seq, hs, Py.bind, Py.bindS, Py.forEach_map, e1, e3]

theorem dictswc_init_eq (D : Py.Dict String (List Int)) (nm : SWCNames) : dictswc_init default D nm = some (⟨D, nm⟩, ()) := by
  simp [dictswc_init, dictswc_init.body, Py.seq]

theorem path_init_eq (T : DictSWC) (idx : List Int) : path_init default T idx = some (⟨T, idx, T.names⟩, ()) := by
  simp [path_init, path_init.body, Py.seq]

theorem path_keys_eq (P : Path) : path_keys P = some (Py.Dict.keys P.attach.ndata) := by
  simp [path_keys, path_keys.body, swc_keys, swc_keys.body]

/-- the content of a detached object: every key of the owner gathered by the window, `id` ↦ `0..n-1`, `pid` ↦ `-1..n-2` -/
def DetachedContent (P : Path) (n : Nat) (D : Py.Dict String (List Int)) : Prop :=
  ∀ k', Py.Dict.get? D k' =
    if k' = P.names.pid then some (pidL n) else if k' = P.names.id then some (arangeL n)
    else if k' ∈ Py.Dict.keys P.attach.ndata then path_get_ndata P k' else none

/-- the three `detach` methods fill a dictionary with the gathered columns (`c`), then overwrite `id` and `pid` -/
theorem detachedContent_set (P : Path) (n : Nat) (c : Py.Dict String (List Int))
    (h : ∀ k', Py.Dict.get? c k' = if k' ∈ Py.Dict.keys P.attach.ndata then path_get_ndata P k' else Py.Dict.get? [] k') :
    DetachedContent P n (Py.Dict.set (Py.Dict.set c P.names.id (arangeL n)) P.names.pid (pidL n)) := by
  intro k'
  simp only [Py.Dict.get?_set, h k', Py.Dict.get?_nil]

/-- **`Path.detach()`**: a new Path over a new DictSWC whose columns are the path's columns (every key of the owner, gathered by `idx`),
with `id` replaced by `0 .. n-1` and `pid` by `-1 .. n-2`, indexed by `0 .. n-1`.  (`hall`: every column of the owner can be gathered, e.g.
all columns as long as the id column and `idx` in range.) -/
theorem path_detach_eq (P : Path) (g : List Int) (h : path_get_ndata P P.names.id = some g)
    (hall : ∀ k ∈ Py.Dict.keys P.attach.ndata, (path_get_ndata P k).isSome) :
    ∃ D, path_detach P = some ⟨⟨D, P.names⟩, arangeL P.idx.length, P.names⟩ ∧ DetachedContent P P.idx.length D := by
  obtain ⟨v', e1, e2, e3⟩ := Py.forEach_collectDict path_detach.for1 (·.c0_) (path_get_ndata P) (·.self = P)
    (Py.Dict.keys P.attach.ndata) (fun k hk v hv => by
      subst hv
      obtain ⟨g, hg⟩ := Option.isSome_iff_exists.1 (hall k hk)
      exact ⟨g, _, hg, by simp only [path_detach.for1, hg, Py.bind]; rfl, by rfl, by rfl⟩)
    ⟨P, (default : path_detach.V).attact, (default : path_detach.V).k, []⟩ rfl
  refine ⟨_, ?_, detachedContent_set P P.idx.length v'.c0_ e3⟩
  simp [path_detach, path_detach.body, Py.seq, Py.bind, Py.bindS, path_keys_eq, e1, dictswc_init_eq, e2, path_id_eq P g h,
    path_pid_eq P g h, path_init_eq]

theorem mem_keys_of_path_get_ndata (T : DictSWC) (idx : List Int) (nm : SWCNames) (key : String) (gk : List Int)
    (hk : path_get_ndata ⟨T, idx, nm⟩ key = some gk) : key ∈ Py.Dict.keys T.ndata := by
  rw [path_get_ndata_eq] at hk
  obtain ⟨col, hc, -⟩ := Option.bind_eq_some_iff.1 hk
  exact List.mem_map_of_mem (f := Prod.fst) (Py.Dict.get?_mem T.ndata key col hc)

/-- from the content of a detached object to what a user reads: the new `id` / `pid`, and **equal content**: under every other key the
column the path reported, and the detached path (positions `0 .. n-1` over the new object) reports that column again -/
theorem detached_content_reads (T : DictSWC) (idx : List Int) (nm : SWCNames) (D : Py.Dict String (List Int)) (n : Nat)
    (hn : n = idx.length) (h2 : DetachedContent ⟨T, idx, nm⟩ n D) :
    Py.Dict.get? D nm.pid = some (pidL n) ∧ (nm.id ≠ nm.pid → Py.Dict.get? D nm.id = some (arangeL n)) ∧
    ∀ key gk, key ≠ nm.id → key ≠ nm.pid → path_get_ndata ⟨T, idx, nm⟩ key = some gk →
      Py.Dict.get? D key = some gk ∧ path_get_ndata ⟨⟨D, nm⟩, arangeL n, nm⟩ key = some gk := by
  refine ⟨by rw [h2, if_pos rfl], fun hne => by rw [h2, if_neg hne, if_pos rfl], fun key gk n1 n2 hk => ?_⟩
  have hD : Py.Dict.get? D key = some gk := by
    rw [h2, if_neg n2, if_neg n1, if_pos (mem_keys_of_path_get_ndata T idx nm key gk hk), hk]
  refine ⟨hD, ?_⟩
  rw [path_get_ndata_eq, hD, Option.bind_some, hn, ← path_get_ndata_length ⟨T, idx, nm⟩ key gk hk]
  exact take_arange gk

end RefineViews
