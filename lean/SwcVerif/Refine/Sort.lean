import SwcVerif.Gen.AlgoSort
import SwcVerif.Refine.Node
import SwcVerif.Proofs.Sort
/-! Refinement for C05: the definition GENERATED from `swcgeom/core/swc_utils/normalizer.py::sort_nodes_impl`
(`Gen.Algo.sort_nodes_impl`, regenerated from the current source on every run: `np.full_like` fillers, the list used as a
stack with `pop` / `extend` at the END, `old_ids[old_pids == old_id]`, the `dict(zip(...))` index and the final list
comprehension) returns exactly what the hand-written model `SortM.sortNodesImpl` returns whenever the model succeeds on a table
with distinct ids (`ids.Nodup`: the `dict(zip(...))` index finds each row). -/
namespace RefineSort
open Gen.Algo SortM Py

theorem for1_loop : ∀ (cs : List Int) (v : sort_nodes_impl.V),
    forEach sort_nodes_impl.for1 cs v = .next { v with c5_ := v.c5_ ++ cs.map (fun c => (c, v.new_id)), j := cs.getLast?.getD v.j }
  | [], v => by simp [forEach]
  | c :: cs, v => by
    simp only [forEach, sort_nodes_impl.for1, for1_loop cs, List.map_cons, List.append_assoc, List.singleton_append,
      List.getLast?_cons, Option.getD_some]

structure Inv (ids pids : List Int) (v : sort_nodes_impl.V) (st : St) : Prop where
  hs   : v.s = st.stack.reverse
  hmap : v.id_map = st.out.map (·.1) ++ List.replicate (ids.length - st.out.length) (-3)
  hpid : v.new_pids = st.out.map (·.2) ++ List.replicate (ids.length - st.out.length) (-3)
  hid  : v.new_id = (st.out.length : Int)
  hi   : v.old_ids = ids
  hp   : v.old_pids = pids

theorem setIdx_filler (f : Int × Int → Int) (out : List (Int × Int)) (x : Int × Int) (n : Nat) (h : out.length < n)
    (col : List Int) (hcol : col = out.map f ++ List.replicate (n - out.length) (-3)) :
    ∃ col', setIdx col (out.length : Int) (f x) = some col' ∧
      col' = (out ++ [x]).map f ++ List.replicate (n - (out ++ [x]).length) (-3) := by
  obtain ⟨m, hm⟩ : ∃ m, n - out.length = m + 1 := ⟨_, (Nat.sub_add_cancel (Nat.sub_pos_of_lt h)).symm⟩
  have hm' : n - (out ++ [x]).length = m := by rw [List.length_append, List.length_singleton, Nat.sub_add_eq, hm]; rfl
  rw [hcol, hm, hm']
  exact ⟨_, setIdx_nat _ _ _ (by simp), by simp [List.replicate_succ, List.set_append]⟩

/-- one iteration while there is room in the output arrays -/
theorem body_step (ids pids : List Int) (v : sort_nodes_impl.V) (o p : Int) (rest out : List (Int × Int))
    (h : Inv ids pids v ⟨(o, p) :: rest, out⟩) (hlt : out.length < ids.length) :
    ∃ v', sort_nodes_impl.while2_body v = .next v' ∧
      Inv ids pids v' ⟨((tableKids ids pids o).map (·, (out.length : Int))).reverse ++ rest, out ++ [(o, p)]⟩ := by
  have hs : v.s = rest.reverse ++ [(o, p)] := by rw [h.hs]; simp
  obtain ⟨m1, e1, hm1⟩ := setIdx_filler (·.1) out (o, p) _ hlt _ h.hmap
  obtain ⟨m2, e2, hm2⟩ := setIdx_filler (·.2) out (o, p) _ hlt _ h.hpid
  refine ⟨{ v with s := rest.reverse ++ (tableKids ids pids o).map (fun c => (c, (out.length : Int))), old_id := o, new_pid := p,
                   id_map := m1, new_pids := m2, c5_ := (tableKids ids pids o).map (fun c => (c, (out.length : Int))),
                   j := (tableKids ids pids o).getLast?.getD v.j, new_id := (out.length : Int) + 1 }, ?_, ?_⟩
  · simp only [sort_nodes_impl.while2_body, seq_eq_bindS, hs, pop_append, bind_some, bindS_next, h.hid, e1, e2, h.hi, h.hp,
      RefineNode.select_eqMask, for1_loop, List.nil_append]
  · exact ⟨by simp [List.map_reverse], hm1, hm2, by simp, h.hi, h.hp⟩

theorem cond_eq (v : sort_nodes_impl.V) : sort_nodes_impl.while2_cond v = some (decide (v.s ≠ [])) := by
  cases h : v.s <;> simp [sort_nodes_impl.while2_cond, h] <;> omega

/-- **the generated loop against the machine.** The machine is given one step more than it has rows to emit; if it has not
emitted a row at every one of its `m + 1` steps then its stack ran empty, and the loop — simulated pop by pop — has ended
with fuel `m + 1`, in the machine's state. `hroom` keeps the writes inside the output arrays. -/
theorem loop_refines (ids pids : List Int) (F : Nat) : ∀ (m : Nat) (stack out : List (Int × Int)) (v : sort_nodes_impl.V),
    Inv ids pids v ⟨stack, out⟩ → (run (tableKids ids pids) (m + 1) ⟨stack, out⟩).out.length ≤ out.length + m →
    out.length + m ≤ ids.length →
    ∃ v', whileF sort_nodes_impl.while2_cond sort_nodes_impl.while2_body (m + 1 + F) v = .next v' ∧
      Inv ids pids v' (run (tableKids ids pids) (m + 1) ⟨stack, out⟩)
  | m, [], out, v, h, _, _ => by
    rw [run_empty, Nat.add_right_comm]
    exact ⟨v, whileF_done _ _ _ v (by rw [cond_eq, h.hs]; rfl), h⟩
  | 0, (o, p) :: rest, out, v, _, hidle, _ => by
    rw [run_cons, run, List.length_append] at hidle
    exact absurd hidle (Nat.not_succ_le_self _)
  | m + 1, (o, p) :: rest, out, v, h, hidle, hroom => by
    obtain ⟨v1, e1, i1⟩ := body_step ids pids v o p rest out h (Nat.lt_of_lt_of_le (Nat.lt_add_of_pos_right m.succ_pos) hroom)
    rw [run_cons] at hidle ⊢
    have hl : (out ++ [(o, p)]).length + m = out.length + (m + 1) := by rw [List.length_append, Nat.add_right_comm]; rfl
    obtain ⟨v', e2, i2⟩ := loop_refines ids pids F m _ _ v1 i1 (hl ▸ hidle) (hl ▸ hroom)
    refine ⟨v', ?_, i2⟩
    rw [Nat.add_right_comm _ 1 F, whileF_next _ _ _ v v1 (by rw [cond_eq, h.hs]; simp) e1, e2]

theorem mem_ids (ids pids : List Int) : ∀ (m : Nat) (st : St), (∀ x ∈ st.stack, x.1 ∈ ids) → (∀ x ∈ st.out, x.1 ∈ ids) →
    ∀ x ∈ (run (tableKids ids pids) m st).out, x.1 ∈ ids
  | 0, _, _, h2 => h2
  | m + 1, ⟨[], out⟩, _, h2 => by rw [run_empty]; exact h2
  | m + 1, ⟨(o, p) :: rest, out⟩, h1, h2 => by
    rw [run_cons]
    apply mem_ids ids pids m
    · intro x hx
      simp only [List.mem_append, List.mem_reverse, List.mem_map] at hx
      rcases hx with ⟨c, hc, rfl⟩ | hx
      · exact (tableKids_sublist ids pids _).subset hc
      · exact h1 x (List.mem_cons_of_mem _ hx)
    · intro x hx
      simp only [List.mem_append, List.mem_singleton] at hx
      rcases hx with hx | rfl
      · exact h2 x hx
      · exact h1 _ List.mem_cons_self

/-! ### the `dict(zip(old_ids, range(n)))` index -/

theorem get?_ofZip_range (ids : List Int) (hnd : ids.Nodup) (x : Int) (hx : x ∈ ids) :
    Dict.get? (Dict.ofZip ids (range (len ids))) x = some ((indexOf ids x : Nat) : Int) := by
  rw [Dict.get?_ofZip ids _ hnd (by simp) x hx]
  have hlt : ids.idxOf x < ids.length := List.idxOf_lt_length_of_mem hx
  simp [indexOf, hlt]

theorem for3_loop (f : Int → Int) : ∀ (xs : List Int) (v : sort_nodes_impl.V), (∀ x ∈ xs, Dict.get? v.id2idx x = some (f x)) →
    forEach sort_nodes_impl.for3 xs v = .next { v with c7_ := v.c7_ ++ xs.map f, i := xs.getLast?.getD v.i }
  | [], v, _ => by simp [forEach]
  | x :: xs, v, h => by
    simp only [forEach, sort_nodes_impl.for3, h x List.mem_cons_self, bind_some]
    rw [for3_loop f xs { v with i := x, c7_ := v.c7_ ++ [f x] } fun y hy => h y (List.mem_cons_of_mem _ hy)]
    simp [List.getLast?_cons]

/-! ### before the loop -/

/-- `old_ids[(old_pids == -1).argmax()]` -/
theorem firstRoot_argmax : ∀ (ids pids : List Int) (root : Int), firstRoot ids pids = some root →
    (eqMask pids (-1)).idxOf true < pids.length ∧ ids[(eqMask pids (-1)).idxOf true]? = some root
  | [], _, _, h => by simp [firstRoot] at h
  | _ :: _, [], _, h => by simp [firstRoot] at h
  | i :: is, p :: ps, root, h => by
    rw [firstRoot] at h
    rw [eqMask, List.map_cons, List.idxOf_cons]
    split at h
    · next hp => cases h; simp [hp]
    · next hp =>
      have := firstRoot_argmax is ps root h
      simpa [hp, eqMask] using this

theorem firstRoot_mem (ids pids : List Int) (root : Int) (h : firstRoot ids pids = some root) : root ∈ ids :=
  List.mem_of_getElem? (firstRoot_argmax ids pids root h).2

theorem firstRoot_idx (ids pids : List Int) (root : Int) (h : firstRoot ids pids = some root) :
    ∃ k : Nat, argmaxMask (eqMask pids (-1)) = some (k : Int) ∧ idx ids (k : Int) = some root := by
  obtain ⟨hk, hrk⟩ := firstRoot_argmax ids pids root h
  refine ⟨_, ?_, by rw [idx_nat _ _ (List.getElem?_eq_some_iff.1 hrk).1, hrk]⟩
  have hne : pids ≠ [] := by rintro rfl; simp at hk
  have hl : (eqMask pids (-1)).length = pids.length := by simp [eqMask]
  rw [argmaxMask, if_neg (by simp [eqMask, hne]), hl, Nat.mod_eq_of_lt hk]

/-! ### the whole function -/

/-- **`sort_nodes_impl` as translated on this run returns what the model returns**: whenever the model succeeds on a
table with distinct ids (in particular on every tree table, `C05.sort_ok`), the generated function — run with any fuel
beyond the number of rows — returns `(np.arange(n), new_pids)` and the row indices of the model, and raises nothing. -/
theorem sort_refines (ids pids : List Int) (hnd : ids.Nodup) (r : Result) (h : sortNodesImpl ids pids = .ok r) (F : Nat) :
    sort_nodes_impl (ids.length + 1 + F) (ids, pids) =
      some ((range (ids.length : Int), r.newPids), r.indices.map (fun (k : Nat) => (k : Int))) := by
  obtain ⟨root, fin, hc1, hroot, hfin, hlen, -, rfl⟩ := sortNodesImpl_ok h
  obtain ⟨k, hmask, hidx⟩ := firstRoot_idx ids pids root hroot
  have hcnt : countNonzero (eqMask pids (-1)) = 1 := by
    rw [RefineNode.countNonzero_eqMask, List.count_eq_length_filter]; exact congrArg Nat.cast hc1
  obtain ⟨v0, hv0⟩ : ∃ v : sort_nodes_impl.V, v = { (default : sort_nodes_impl.V) with topology := (ids, pids), old_ids := ids, old_pids := pids, id_map := fullLike ids (-3), new_pids := fullLike ids (-3), new_id := 0, first_root := root, s := [(root, -1)] } := ⟨_, rfl⟩
  have inv0 : Inv ids pids v0 ⟨[(root, -1)], []⟩ := by
    subst hv0
    exact ⟨rfl, by simp [fullLike, List.map_const'], by simp [fullLike, List.map_const'], rfl, rfl, rfl⟩
  obtain ⟨v1, hloop, i1⟩ := loop_refines ids pids F ids.length _ _ v0 inv0 (by rw [hfin, hlen]; simp) (by simp)
  rw [hfin] at i1
  have hmap1 : v1.id_map = fin.out.map (·.1) := by rw [i1.hmap, hlen]; simp
  have hpid1 : v1.new_pids = fin.out.map (·.2) := by rw [i1.hpid, hlen]; simp
  -- the index comprehension: every emitted old id is in the dictionary
  have hmem : ∀ x ∈ fin.out, x.1 ∈ ids := by
    rw [← hfin]
    exact mem_ids ids pids _ _ (by simp; exact firstRoot_mem ids pids root hroot) (by simp)
  have e3 := for3_loop (fun x => ((indexOf ids x : Nat) : Int)) (fin.out.map (·.1))
    { v1 with id2idx := Dict.ofZip ids (range (len ids)), c7_ := [] } (by
      intro x hx
      obtain ⟨y, hy, rfl⟩ := List.mem_map.1 hx
      exact get?_ofZip_range ids hnd _ (hmem y hy))
  simp only [sort_nodes_impl, sort_nodes_impl.body, seq, hcnt, Py.bind, hmask, hidx, decide_true, if_true]
  simp only [← hv0, hloop, bindS, seq, i1.hi, hmap1]
  simp only [i1.hi, hmap1] at e3
  rw [e3]
  simp only [finish, Option.map, hpid1, len_eq, List.length_map, hlen, arange, List.nil_append]
  simp [List.map_map, Function.comp_def]

end RefineSort
