import SwcVerif.Gen.AlgoMstFront
import SwcVerif.Refine.Mst
/-! Refinement for C17, front end: the definition GENERATED from the whole body of `swcgeom/transforms/mst.py::PointsToCuntzMST.__call__`
up to the construction of the tree (`Gen.Algo.mst_call`, run at `K = Rat`) returns, for EVERY cloud of `(N, 3)` points with an optional soma
(a triple), every vector norm `norm`, every `bf`, `furcations`, `exclude_soma`: one row per point of `soma :: points` in input order, with that
point's coordinates, ids `0 … n-1`, the type column `[soma type, glia, glia, …]`, radius 1 and the parents `Mst.run … (Mst.init n)` of the
model of the greedy loop on the matrix `dis[i][j] = norm (p[i] - p[j])`. -/
namespace RefineMstFront
open Py Gen.Algo Mst RefineMst

/-- the record `v0` with the loop's variables set to represent the model state `s` (scratch variables arbitrary) -/
def toV' (v0 : mst_call.V Rat) (n : Nat) (dis : List (List Rat)) (bf : Rat) (k : Int) (ex : Bool) (s : St) (cost : Py.Masked2 Rat)
    (i j u : Int) : mst_call.V Rat :=
  { v0 with
    n := n, dis := dis, bf := bf, limit := k, exclude_soma := ex, pid := s.pid, acc := s.acc,
    furcations := s.furc.map (fun (x : Nat) => (x : Int)), conn := s.conn, mask := s.mask, cost := cost, i := i, j := j, underscore_ := u }

/-- one iteration of the loop inside the generated `__call__` is one `Mst.step` (the proof of `RefineMst.for1_step`, on the larger record) -/
theorem for1_step' (norm : List Rat → Rat) (v0 : mst_call.V Rat) (n : Nat) (hn : 0 < n) (dis : List (List Rat)) (hd : SquareQ n dis) (bf : Rat) (k : Int) (ex : Bool)
    (x : Int) (s : St) (hs : Shape n s) (c : Py.Masked2 Rat) (i j u : Int) :
    ∃ c' i' j', mst_call.for1 norm x (toV' v0 n dis bf k ex s c i j u) =
      .next (toV' v0 n dis bf k ex (step dis bf (limitOf k) ex n s) c' i' j' x) := by
  obtain ⟨a, b, hstep, hcalls⟩ := step_calls hn hd bf k ex hs
  rw [hstep]
  refine ⟨(costM dis bf s.acc, s.mask), (a : Int), (b : Int), ?_⟩
  simp -implicitDefEqProofs only [mst_call.for1, toV', seq_eq_bindS, bindS_next, bind_some, hcalls, sat_test]
  by_cases hsat : satFlag (limitOf k) ex ((s.furc.set a (s.furc.getD a 0 + 1)).getD a 0) a = true
  · simp -implicitDefEqProofs only [hsat, if_true, seq_eq_bindS, bindS_next, bind_some, hcalls, stepAt]
  · simp -implicitDefEqProofs only [hsat, if_false, Bool.false_eq_true, seq_eq_bindS, bindS_next, bind_some, skip_apply, hcalls,
      stepAt]

/-! ## the front end and the assembly of the table -/

/-- every point is a triple (the documented shape `(N, 3)`) -/
def Rows3 (l : List (List Rat)) : Prop := ∀ r ∈ l, r.length = 3

/-- the array the code works on: the soma (when given) first, then the cloud — `np.concatenate([[soma], points])` -/
def allPts (soma : Option (List Rat)) (pts : List (List Rat)) : List (List Rat) :=
  match soma with
  | some s => s :: pts
  | none => pts

/-- the distance matrix the code computes: `dis[i][j] = norm (p[i] - p[j])`, for the vector norm `norm` -/
def disOf (norm : List Rat → Rat) (p : List (List Rat)) : List (List Rat) :=
  p.map fun a => p.map fun b => norm (List.zipWith (fun x y => x - y) a b)

theorem rowsOf_true (p : List (List Rat)) (h : Rows3 p) : Py.rowsOf 3 p = true := by
  simp only [Py.rowsOf, List.all_eq_true, beq_iff_eq]
  exact h

theorem pairwise_eq (norm : List Rat → Rat) (p : List (List Rat)) (h : Rows3 p) :
    Py.pairwiseNorm norm 3 p = some (disOf norm p) := by
  simp [Py.pairwiseNorm, rowsOf_true p h, disOf]

theorem disOf_square (norm : List Rat → Rat) (p : List (List Rat)) : SquareQ p.length (disOf norm p) := by
  refine ⟨by simp [disOf], ?_⟩
  intro r hr
  simp only [disOf, List.mem_map] at hr
  obtain ⟨a, _, rfl⟩ := hr
  simp

theorem column_eq (p : List (List Rat)) (h : Rows3 p) (k : Nat) (hk : k < 3) :
    Py.column p (k : Int) = some (p.map (fun r => r.getD k 0)) :=
  Py.mapM_eq_some_map _ _ p fun r hr => Py.idx_nat_getD r k 0 (h r hr ▸ hk)

theorem concat_eq (s : List Rat) (p : List (List Rat)) (h : Rows3 (s :: p)) : Py.concatRows [s] p = some (s :: p) := by
  simp [Py.concatRows, h s List.mem_cons_self, rowsOf_true _ h]

theorem allPts_rows (soma : Option (List Rat)) (p : List (List Rat)) (hs : ∀ s, soma = some s → s.length = 3) (h : Rows3 p) :
    Rows3 (allPts soma p) := by
  cases soma with
  | none => exact h
  | some s =>
    intro r hr
    rcases List.mem_cons.mp hr with rfl | hr
    · exact hs _ rfl
    · exact h r hr

/-- what the generated `__call__` returns for the array of points `all`: `(ids, types, xs, ys, zs, r, pid, points, dis, None)` -/
def tableOf (norm : List Rat → Rat) (all : List (List Rat)) (bf : Rat) (k : Int) (ex : Bool) (tg ts : Int) :
    List Int × List Int × List Rat × List Rat × List Rat × Int × List Int × List (List Rat) × List (List Rat) × Unit :=
  ((List.range all.length).map (fun (i : Nat) => (i : Int)), (List.replicate all.length tg).set 0 ts,
   all.map (fun r => r.getD 0 0), all.map (fun r => r.getD 1 0), all.map (fun r => r.getD 2 0), 1,
   (run (disOf norm all) bf (limitOf k) ex all.length (all.length - 1) (init all.length)).pid, all, disOf norm all, ())

theorem mst_call_refines (norm : List Rat → Rat) (pts : List (List Rat)) (soma : Option (List Rat))
    (hp : Rows3 pts) (hs : ∀ s, soma = some s → s.length = 3) (hn : 0 < (allPts soma pts).length)
    (bf : Rat) (k : Int) (ex : Bool) (tg ts : Int) :
    mst_call (K := Rat) norm pts soma bf k ex tg ts = some (tableOf norm (allPts soma pts) bf k ex tg ts) := by
  have hall := allPts_rows soma pts hs hp
  generalize hN : (allPts soma pts).length = n at hn
  have hd : SquareQ n (disOf norm (allPts soma pts)) := hN ▸ disOf_square norm _
  have hty : Py.setIdx (List.replicate n tg) (0 : Int) ts = some ((List.replicate n tg).set 0 ts) :=
    Py.setIdx_nat _ 0 _ (by rwa [List.length_replicate])
  have hpw := pairwise_eq norm _ hall
  have hx : Py.column (allPts soma pts) (0 : Int) = _ := column_eq _ hall 0 (by omega)
  have hy : Py.column (allPts soma pts) (1 : Int) = _ := column_eq _ hall 1 (by omega)
  have hz : Py.column (allPts soma pts) (2 : Int) = _ := column_eq _ hall 2 (by omega)
  obtain ⟨c', i', j', u', e⟩ := forEach_run (mst_call.for1 norm)
    (toV' { (default : mst_call.V Rat) with points := allPts soma pts, soma := soma, t_glia := tg, t_soma := ts }
      n (disOf norm (allPts soma pts)) bf k ex)
    _ bf (limitOf k) ex n (for1_step' norm _ n hn _ hd bf k ex) ((List.range (n - 1)).map (fun (k : Nat) => (k : Int))) (init n)
    (init_len n) (default : mst_call.V Rat).cost (default : mst_call.V Rat).i (default : mst_call.V Rat).j
    (default : mst_call.V Rat).underscore_
  simp only [List.length_map, List.length_range, toV', init, List.map_replicate, Nat.cast_zero] at e
  cases soma with
  | none =>
    simp only [allPts] at hN hpw hx hy hz e
    simp -implicitDefEqProofs only [mst_call, mst_call.body, seq_eq_bindS, bindS_next, bind_some, skip_apply, Option.isSome,
      Bool.false_eq_true, if_false, Py.len_eq, hN, hpw, Py.full_nat, Py.full2_nat, init_calls n hn, init, e, hx, hy, hz, hty,
      Py.arange, Py.range_natCast, Py.finish, Option.map, tableOf, allPts]
  | some s =>
    have hs3 : ((s.length : Nat) : Int) = 3 := congrArg Nat.cast (hs s rfl)
    simp only [allPts] at hN hpw hx hy hz e
    simp -implicitDefEqProofs only [mst_call, mst_call.body, seq_eq_bindS, bindS_next, bind_some, skip_apply, Option.isSome, if_true,
      Py.len_eq, hs3, decide_true, concat_eq s pts hall, hN, hpw, Py.full_nat, Py.full2_nat, init_calls n hn, init, e,
      hx, hy, hz, hty, Py.arange, Py.range_natCast, Py.finish, Option.map, tableOf, allPts]

end RefineMstFront
