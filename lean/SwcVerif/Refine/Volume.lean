import SwcVerif.Gen.AlgoVolume
import SwcVerif.Refine.TravFront
import SwcVerif.Refine.PyRun
import SwcVerif.Props.C14
/-! Refinement for C14: the definition GENERATED from `swcgeom/analysis/volume.py::_get_volume_frustum_cone` — the `leave` closure
with its list of child results, the cones built from them, the accuracy gating `if accuracy >= …`, the accumulation into the non-local
`volume`, handed to the GENERATED `Tree.traverse` (closure factory `wrap`, `Tree.__getitem__`) above the generated `_traverse_dfs` — returns
`Vol.treeVolume`, the hand-written traversal model of `Model/Volume.lean`, for every tree and every accuracy level other than 10 (Monte Carlo
only); the primitive volumes are arbitrary functions of the node data. -/
namespace RefineVolume
open Gen.Algo Trav Py Vol C14 RefineTravFront

variable (volSphere : Int → ℝ) (volFrustum : Int × Int → ℝ) (volSF : Int → Int × Int → ℝ) (volPairs : Int → List (Int × Int) → ℝ) (mcScene : List Py.Shape → ℝ)

/-- the per-node ingredients of the model, from the primitive volumes: node `i` with the children `ks` (their spheres are what `leave` returned) -/
noncomputable def terms : Int → List Int → Terms ℝ := fun i ks =>
  { s := volSphere i
    f := Py.sumNum (ks.map fun c => volFrustum (i, c))
    p := Py.sumNum (ks.map fun c => volSF i (i, c))
    c := Py.sumNum (ks.map fun c => volSF c (i, c))
    l := 0
    q := volPairs i (ks.map fun c => (i, c)) }

/-! ### the four comprehension loops of `leave` -/

theorem for1_loop : ∀ (cs : List Int) (v : vol_leave.V ℝ),
    forEach (vol_leave.for1 volSphere volFrustum volSF volPairs mcScene) cs v
      = .next { v with c0_ := v.c0_ ++ cs.map (fun c => (v.n, c)), c := cs.getLast?.getD v.c } :=
  forEach_closed _ _ _ (fun _ _ => rfl) (fun v => by simp) (fun c cs v => by simp [List.getLast?_cons])

theorem for2_loop : ∀ (cs : List (Int × Int)) (v : vol_leave.V ℝ),
    forEach (vol_leave.for2 volSphere volFrustum volSF volPairs mcScene) cs v
      = .next { v with c2_ := v.c2_ ++ cs.map volFrustum, fc := cs.getLast?.getD v.fc } :=
  forEach_closed _ _ _ (fun _ _ => rfl) (fun v => by simp) (fun c cs v => by simp [List.getLast?_cons])

theorem for3_loop : ∀ (cs : List (Int × Int)) (v : vol_leave.V ℝ),
    forEach (vol_leave.for3 volSphere volFrustum volSF volPairs mcScene) cs v
      = .next { v with c4_ := v.c4_ ++ cs.map (volSF v.sphere), fc := cs.getLast?.getD v.fc } :=
  forEach_closed _ _ _ (fun _ _ => rfl) (fun v => by simp) (fun c cs v => by simp [List.getLast?_cons])

theorem for4_loop : ∀ (cs : List (Int × (Int × Int))) (v : vol_leave.V ℝ),
    forEach (vol_leave.for4 volSphere volFrustum volSF volPairs mcScene) cs v
      = .next { v with c6_ := v.c6_ ++ cs.map (fun x => volSF x.1 x.2), s := (cs.getLast?.map (·.1)).getD v.s,
                       fc := (cs.getLast?.map (·.2)).getD v.fc } :=
  forEach_closed _ _ _ (fun _ _ => rfl) (fun v => by simp) (fun c cs v => by cases h : cs.getLast? <;> simp [List.getLast?_cons, h])

theorem zip_map_pair (n : Int) (ks : List Int) (g : Int → Int × Int → ℝ) :
    (Py.zip ks (ks.map fun c => (n, c))).map (fun x => g x.1 x.2) = ks.map (fun c => g c (n, c)) := by
  induction ks with
  | nil => simp [Py.zip]
  | cons k ks ih => simpa [Py.zip] using ih

/-- **the `leave` closure as translated**: it never raises, adds the generated per-node value `Gen.VolTerms.nodeVolume` at the current accuracy
level (from the primitive volumes of the node, its children's spheres and the cones between them) to the non-local `volume`, leaves `accuracy`
alone, and returns the node's sphere -/
theorem vol_leave_eq (acc : Nat) (vol : ℝ) (n : Int) (ks : List Int) :
    vol_leave volSphere volFrustum volSF volPairs mcScene (vol, (acc : Int)) n ks
      = some ((vol + nodeVal acc (terms volSphere volFrustum volSF volPairs n ks), (acc : Int)), n) := by
  have z := zip_map_pair n ks volSF
  -- the three gates `accuracy >= 2, 3, 5` of the code are those of `nodeVolume`; they are nested, so four cases
  by_cases h2 : 2 ≤ acc
  · by_cases h3 : 3 ≤ acc
    · by_cases h5 : 5 ≤ acc <;>
        simp [vol_leave, vol_leave.body, Py.seq, Py.bindS, Py.skip, for1_loop, for2_loop, for3_loop, for4_loop, Py.finish, h2, h3, h5,
          nodeVal, Gen.VolTerms.nodeVolume, terms, z, List.map_map, Function.comp_def]
    · have h5 : ¬ 5 ≤ acc := by omega
      simp [vol_leave, vol_leave.body, Py.seq, Py.bindS, Py.skip, for1_loop, for2_loop, Py.finish, h2, h3, h5,
        nodeVal, Gen.VolTerms.nodeVolume, terms, List.map_map, Function.comp_def]
  · have h3 : ¬ 3 ≤ acc := by omega
    have h5 : ¬ 5 ≤ acc := by omega
    simp [vol_leave, vol_leave.body, Py.seq, Py.bindS, Py.skip, for1_loop, Py.finish, h2, h3, h5, nodeVal, Gen.VolTerms.nodeVolume, terms]

/-- the traversal with the wrapped closure = the model's traversal callbacks `volEnter` / `volLeave`: the closure's state
`(volume, accuracy)` is the model's `volume` beside an accuracy that never changes -/
theorem spec_vol_leave (acc : Nat) (r : Rose) (v : ℝ) :
    spec Py.absent2 (Py.wrap2 (vol_leave volSphere volFrustum volSF volPairs mcScene)) r none (some (v, (acc : Int)))
      = (some (v + sumRose (fun i ks => nodeVal acc (terms volSphere volFrustum volSF volPairs i ks)) r, (acc : Int)), r.id) := by
  rw [(RefineClosures.spec_abs (fun v : ℝ => some (v, (acc : Int))) (fun _ => True) (fun _ => True)
    volEnter (volLeave acc (terms volSphere volFrustum volSF volPairs)) Py.absent2 (Py.wrap2 (vol_leave volSphere volFrustum volSF volPairs mcScene))
    (fun _ _ _ _ _ => ⟨rfl, trivial⟩)
    (fun v n ks _ _ => ⟨by simp only [Py.wrap2, vol_leave_eq, volLeave], trivial⟩)
    r none v trivial (fun _ _ => trivial)).1, C14.spec_vol]

/-- **`_get_volume_frustum_cone` as translated**: on every tree (a table whose subtree at node 0 is `r`, all of whose nodes are rows),
at every accuracy level other than 10 and for arbitrary primitive volumes, the call returns — never raises, never runs out of fuel — the sum
over all nodes of the generated per-node value, each node seeing exactly its own children -/
theorem getVolume_refines (acc : Nat) (hacc : acc ≠ 10) (ids pids : List Int) (r : Rose) (hR : Represents r ids pids) (h0 : r.id = 0)
    (hok : Rows r ids) (F : Nat) :
    get_volume_frustum_cone volSphere volFrustum volSF volPairs mcScene (2 * r.size + F + 1) ids pids (acc : Int)
      = some (sumRose (fun i ks => nodeVal acc (terms volSphere volFrustum volSF volPairs i ks)) r) := by
  have hne : ¬ ((acc : Int) = 10) := by omega
  simp [get_volume_frustum_cone, get_volume_frustum_cone.body, Py.seq, Py.skip, Py.bind, hne,
    tree_traverse_l_refines _ ids pids r hR h0 hok _ F, spec_vol_leave, Py.unwrapCb, Py.finish]

/-- level 10, EVERY input (any table, any fuel): `_get_volume_frustum_cone` is the GENERATED Monte-Carlo-only routine `get_volume_mc_only`
(Gen/AlgoVolMC.lean, from `_get_volume_frustum_cone_mc_only`) on the same tree with the same fuel and the same sampler — nothing else is evaluated -/
theorem getVolume_level10 (ids pids : List Int) (fuel : Nat) :
    get_volume_frustum_cone volSphere volFrustum volSF volPairs mcScene fuel ids pids 10 = get_volume_mc_only mcScene fuel ids pids := by
  cases h : get_volume_mc_only mcScene fuel ids pids <;>
    simp [get_volume_frustum_cone, get_volume_frustum_cone.body, Py.seq, Py.bind, Py.finish, h]

end RefineVolume
