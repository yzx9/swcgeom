import SwcVerif.Gen.AlgoHelpers
import SwcVerif.Refine.Views
/-! # C09: the remaining object helpers, GENERATED from the current sources (`Gen/AlgoHelpers.lean`), on the equations of `Refine/Views.lean`

`Path.get_node`, `Path.__iter__`, `Branch.detach`, `Compartment.detach`.  Same data and conventions as `Refine/Views.lean`: a handle is
(path, position) and dereferences on every access; a record holds its owner by value, Python's reference is the caller's store.
No fuel anywhere (no `while`), no bound on sizes. -/
namespace RefineHelpers
open Gen.Algo RefineViews
-- with these `simp` runs an accessor-shaped body (`return e` after fallible sub-expressions) into a term of the `Option` monad
attribute [local simp] Py.finish_ret Py.finish_next Py.map_finish_bind Py.bindS_next Py.bindS_ret Py.bindS_bind

/-- `path.get_node(i)` = `path.node(i)`: the handle (path, i), no range check -/
theorem path_get_node_eq (P : Path) (i : Int) : path_get_node P i = some ⟨P, i, P.names⟩ := by
  simp [path_get_node, path_get_node.body, path_node_eq]

/-- **`iter(path)`** yields exactly the handles (path, 0), (path, 1), …, (path, n-1), in this order (n = `len(path)`) -/
theorem path_iter_eq (P : Path) (g : List Int) (h : path_get_ndata P P.names.id = some g) :
    path_iter P = some ((arangeL P.idx.length).map fun i => (⟨P, i, P.names⟩ : PNode)) := by
  obtain ⟨v', e1, _, e3⟩ := Py.forEach_collect path_iter.for1 (·.c0_) (fun i => (⟨P, i, P.names⟩ : PNode)) (·.self = P) (arangeL P.idx.length)
    (fun x _ v hv => by subst hv; exact ⟨_, by simp only [path_iter.for1, path_node_eq, Py.bind]; rfl, by rfl, by rfl⟩)
    ⟨P, (default : path_iter.V).i, []⟩ rfl
  simp only [arangeL] at e1
  simp [path_iter, path_iter.body, Py.seq, Py.bind, Py.bindS, path_len_eq P g h, e1, e3]

theorem path_getitem_nat (P : Path) (g : List Int) (h : path_get_ndata P P.names.id = some g) (k : Nat) (hk : k < P.idx.length) :
    path_getitem_int P (k : Int) = some ⟨P, (k : Int), P.names⟩ := by
  rw [path_getitem_int_eq P g h, if_neg (normKey_nat hk).1, (normKey_nat hk).2]

/-- handles (path, i) read, column by column, what the path reports at these positions: `[n[key] for n in path] = path[key]` -/
theorem handles_read (P : Path) (nm : SWCNames) (key : String) (gk : List Int) (hk : path_get_ndata P key = some gk) (l : List Int) :
    (l.map fun i => (⟨P, i, nm⟩ : PNode)).mapM (fun n => pnode_getitem n key) = Py.take gk l := by
  simp only [List.mapM_map, Function.comp_def, pnode_getitem_eq, hk, Option.bind_some]; rfl

theorem handles_read_all (P : Path) (nm : SWCNames) (key : String) (gk : List Int) (hk : path_get_ndata P key = some gk) :
    ((arangeL P.idx.length).map fun i => (⟨P, i, nm⟩ : PNode)).mapM (fun n => pnode_getitem n key) = some gk := by
  rw [handles_read P nm key gk hk, ← path_get_ndata_length P key gk hk]
  exact take_arange gk

theorem path_iter_read (P : Path) (g : List Int) (h : path_get_ndata P P.names.id = some g) (key : String) (gk : List Int)
    (hk : path_get_ndata P key = some gk) :
    (path_iter P).bind (fun hs => hs.mapM fun n => pnode_getitem n key) = some gk := by
  rw [path_iter_eq P g h, Option.bind_some]
  exact handles_read_all P _ key gk hk

/-! ## `Tree.__iter__` -/

theorem tree_getitem_nat (T : DictSWC) (idc : List Int) (h : Py.Dict.get? T.ndata T.names.id = some idc) (k : Nat) (hk : k < idc.length) :
    tree_getitem_int T (k : Int) = some ⟨T, (k : Int), T.names⟩ := by
  rw [tree_getitem_int_eq T idc h, if_neg (normKey_nat hk).1, (normKey_nat hk).2]

/-- **`iter(tree)`** yields exactly the handles (tree, 0), …, (tree, n-1) = `tree[0]`, …, `tree[n-1]`, in this order -/
theorem tree_iter_eq (T : DictSWC) (idc : List Int) (h : Py.Dict.get? T.ndata T.names.id = some idc) :
    tree_iter T = some ((arangeL idc.length).map fun i => (⟨T, i, T.names⟩ : TNode)) := by
  obtain ⟨v', e1, _, e3⟩ := Py.forEach_collect tree_iter.for1 (·.c0_) (fun i => (⟨T, i, T.names⟩ : TNode)) (·.self = T) (arangeL idc.length)
    (fun x hx v hv => by
      subst hv
      obtain ⟨k, hk, rfl⟩ := List.mem_map.1 hx
      exact ⟨_, by simp only [tree_iter.for1, tree_getitem_nat v.self idc h k (List.mem_range.1 hk), Py.bind]; rfl, by rfl, by rfl⟩)
    ⟨T, (default : tree_iter.V).i, []⟩ rfl
  simp only [arangeL] at e1
  simp [tree_iter, tree_iter.body, Py.seq, Py.bind, Py.bindS, swc_len_eq T idc h, e1, e3]

/-- handles (T, i) (whatever `names` they carry) read a column at these rows as it stands in `T` -/
theorem tree_handles_read (T : DictSWC) (nm : SWCNames) (key : String) (col : List Int) (hk : Py.Dict.get? T.ndata key = some col)
    (l : List Int) : (l.map fun i => (⟨T, i, nm⟩ : TNode)).mapM (fun n => tnode_getitem n key) = Py.take col l := by
  simp only [List.mapM_map, Function.comp_def, tnode_getitem_eq, hk, Option.bind_some]; rfl

theorem tree_handles_read_all (T : DictSWC) (nm : SWCNames) (key : String) (col : List Int) (hk : Py.Dict.get? T.ndata key = some col) :
    ((arangeL col.length).map fun i => (⟨T, i, nm⟩ : TNode)).mapM (fun n => tnode_getitem n key) = some col :=
  (tree_handles_read T nm key col hk _).trans (take_arange col)

/-! ## `Branch.detach` / `Compartment.detach` -/

/-- **`Branch.detach()`**: exactly the specification of `Path.detach()` (`RefineViews.path_detach_eq`): a new Branch over a new DictSWC with
the branch's columns in window order, `id` = `0..n-1`, `pid` = `-1..n-2`, indexed by `0..n-1` -/
theorem branch_detach_eq (P : Path) (g : List Int) (h : path_get_ndata P P.names.id = some g)
    (hall : ∀ k ∈ Py.Dict.keys P.attach.ndata, (path_get_ndata P k).isSome) :
    ∃ D, branch_detach P = some ⟨⟨D, P.names⟩, arangeL P.idx.length, P.names⟩ ∧ DetachedContent P P.idx.length D := by
  obtain ⟨v', e1, e2, e3⟩ := Py.forEach_collectDict branch_detach.for1 (·.c0_) (path_get_ndata P) (·.self = P)
    (Py.Dict.keys P.attach.ndata) (fun k hk v hv => by
      subst hv
      obtain ⟨g, hg⟩ := Option.isSome_iff_exists.1 (hall k hk)
      exact ⟨g, _, hg, by simp only [branch_detach.for1, path_getitem_str_eq, hg, Py.bind]; rfl, by rfl, by rfl⟩)
    ⟨P, (default : branch_detach.V).attact, (default : branch_detach.V).k, []⟩ rfl
  refine ⟨_, ?_, detachedContent_set P P.idx.length v'.c0_ e3⟩
  simp [branch_detach, branch_detach.body, Py.seq, Py.bind, Py.bindS, path_keys_eq, e1, dictswc_init_eq, e2, path_id_eq P g h,
    path_pid_eq P g h, path_init_eq]

/-- **`Compartment.detach()`** (a compartment of a tree: a window `P` of any length n; n = 2 for a compartment made by the library): a new
Compartment over a new DictSWC with the window's columns in window order, `id` = `0..n-1`, `pid` = `-1..n-2`, indexed by `[0, 1]` -/
theorem tcomp_detach_eq (P : Path) (g : List Int) (h : path_get_ndata P P.names.id = some g)
    (hall : ∀ k ∈ Py.Dict.keys P.attach.ndata, (path_get_ndata P k).isSome) :
    ∃ D, tcomp_detach P = some ⟨⟨D, P.names⟩, [0, 1], P.names⟩ ∧ DetachedContent P P.idx.length D := by
  obtain ⟨v', e1, e2, e3⟩ := Py.forEach_collectDict tcomp_detach.for1 (·.c0_) (path_get_ndata P) (·.self = P)
    (Py.Dict.keys P.attach.ndata) (fun k hk v hv => by
      subst hv
      obtain ⟨g, hg⟩ := Option.isSome_iff_exists.1 (hall k hk)
      exact ⟨g, _, hg, by simp only [tcomp_detach.for1, path_getitem_str_eq, hg, Py.bind]; rfl, by rfl, by rfl⟩)
    ⟨P, (default : tcomp_detach.V).attact, (default : tcomp_detach.V).k, []⟩ rfl
  refine ⟨_, ?_, detachedContent_set P P.idx.length v'.c0_ e3⟩
  simp [tcomp_detach, tcomp_detach.body, Py.seq, Py.bind, Py.bindS, path_keys_eq, e1, dictswc_init_eq, e2, path_id_eq P g h,
    path_pid_eq P g h, tcomp_init_eq]

end RefineHelpers
