import SwcVerif.Gen.AlgoSubtree
import SwcVerif.Refine.PyLemmas
import SwcVerif.Model.Subtree
/-! Refinement for C06: the definition GENERATED from `swcgeom/core/swc_utils/subtree.py::to_sub_topology` (boolean mask
`sub_id != REMOVAL`, mask indexing of both columns, the `{idx: i for i, idx in enumerate(sub_id)}` dictionary, the final
comprehension with its conditional lookup) equals the model `Sub.toSubTopology`, failures (KeyError) included, on every
pair of equally long columns whose kept ids are distinct. -/
namespace RefineSub
open Gen.Algo Sub Py

theorem removal_eq : REMOVAL = -2 := by decide

theorem select_ne_fst (ids : List Int) : ∀ pids : List Int, ids.length = pids.length →
    select ids (neMask ids (-2)) = ((List.zip ids pids).filter (fun ip => !decide (ip.1 = -2))).map (·.1) ∧
    select pids (neMask ids (-2)) = ((List.zip ids pids).filter (fun ip => !decide (ip.1 = -2))).map (·.2) := by
  induction ids with
  | nil => intro pids _; simp [select, neMask]
  | cons i is ih =>
    rintro (_ | ⟨p, ps⟩) hl
    · simp at hl
    · have := ih ps (by simpa using hl)
      simp only [select, neMask, ne_eq, decide_not] at this ⊢
      by_cases h : i = -2 <;> simp [h, this.1, this.2]

theorem for1_loop : ∀ (ps : List (Int × Int)) (v : to_sub_topology.V),
    forEach to_sub_topology.for1 ps v =
      .next { v with c0_ := ps.foldl (fun d p => Dict.set d p.2 p.1) v.c0_, i := (ps.getLast?.map (·.1)).getD v.i,
                     idx := (ps.getLast?.map (·.2)).getD v.idx }
  | [], v => by simp [forEach]
  | p :: ps, v => by
    simp only [forEach, to_sub_topology.for1, for1_loop ps, List.foldl_cons, List.getLast?_cons]
    cases ps.getLast? <;> rfl

/-- `{idx: i for i, idx in enumerate(l)}`, counting from `k`, on top of `d` -/
theorem get?_enum (l : List Int) (hnd : l.Nodup) (x : Int) : ∀ (k : Int) (d : Dict Int Int),
    Dict.get? ((enumFrom k l).foldl (fun d p => Dict.set d p.2 p.1) d) x =
      if x ∈ l then some (k + (l.idxOf x : Nat)) else Dict.get? d x := by
  induction l with
  | nil => intro _ _; rfl
  | cons a l ih =>
    intro k d
    rw [List.nodup_cons] at hnd
    rw [enumFrom, List.foldl_cons, ih hnd.2, Dict.get?_set, List.idxOf_cons]
    by_cases hxa : x = a
    · subst hxa; simp [hnd.1]
    · rw [if_neg hxa, beq_false_of_ne fun c => hxa c.symm, cond_false]
      by_cases hxl : x ∈ l
      · rw [if_pos hxl, if_pos (List.mem_cons_of_mem _ hxl), Int.natCast_succ, Int.add_assoc, Int.add_comm 1]
      · rw [if_neg hxl, if_neg fun h => (List.mem_cons.1 h).elim hxa hxl]

/-- the dictionary `{idx: i for i, idx in enumerate(l)}` is the model's `pos?` when the ids are distinct -/
theorem get?_old2new (l : List Int) (hnd : l.Nodup) (x : Int) :
    Dict.get? ((enumerate l).foldl (fun d p => Dict.set d p.2 p.1) ([] : Dict Int Int)) x = pos? l x := by
  rw [enumerate, pos?, get?_enum l hnd]
  by_cases hx : x ∈ l <;> simp [hx, List.idxOf_lt_length_iff]

theorem for2_step (keptIds : List Int) (x : Int) (v : to_sub_topology.V) (hv : ∀ x, Dict.get? v.old2new x = pos? keptIds x) :
    to_sub_topology.for2 x v =
      Py.bind (if x = -1 then some (-1) else pos? keptIds x) fun t => .next { v with i := x, c3_ := v.c3_ ++ [t] } := by
  by_cases hx : x = -1 <;> simp [to_sub_topology.for2, hv, hx]

theorem for2_eq (keptIds : List Int) : ∀ (xs : List Int) (v : to_sub_topology.V),
    (∀ x, Dict.get? v.old2new x = pos? keptIds x) →
    forEach to_sub_topology.for2 xs v =
      Py.bind (xs.mapM fun p => if p = -1 then some (-1) else pos? keptIds p) fun ys =>
        .next { v with c3_ := v.c3_ ++ ys, i := xs.getLast?.getD v.i }
  | [], v, _ => by simp [forEach, Py.bind]
  | x :: xs, v, hv => by
    rw [List.mapM_cons, forEach, for2_step keptIds x v hv]
    cases (if x = -1 then some (-1) else pos? keptIds x) with
    | none => rfl
    | some y =>
      simp only [Py.bind, for2_eq keptIds xs { v with i := x, c3_ := v.c3_ ++ [y] } hv]
      cases xs.mapM (fun p => if p = -1 then some (-1) else pos? keptIds p) <;>
        simp [List.getLast?_cons]

theorem for2_loop (keptIds : List Int) : ∀ (xs : List Int) (v : to_sub_topology.V),
    (∀ x, Dict.get? v.old2new x = pos? keptIds x) →
    (match xs.mapM (fun p => if p = -1 then some (-1) else pos? keptIds p) with
     | some ys => ∃ i', forEach to_sub_topology.for2 xs v = .next { v with c3_ := v.c3_ ++ ys, i := i' }
     | none => forEach to_sub_topology.for2 xs v = .err) := by
  intro xs v hv
  rw [for2_eq keptIds xs v hv]
  cases xs.mapM (fun p => if p = -1 then some (-1) else pos? keptIds p) with
  | none => rfl
  | some ys => exact ⟨_, rfl⟩

/-- **`to_sub_topology` as translated IS the model**: for equally long columns whose kept ids are distinct it returns
`(np.arange(m), new_pid)` and the new→old mapping of `Sub.toSubTopology`, and raises (KeyError: a kept row whose parent
was dropped) exactly when the model does -/
theorem toSubTopology_refines (subId subPid : List Int) (hl : subId.length = subPid.length)
    (hnd : (((List.zip subId subPid).filter (fun ip => !decide (ip.1 = -2))).map (·.1)).Nodup) :
    to_sub_topology (subId, subPid) =
      (toSubTopology subId subPid).map (fun r => ((range (r.mapping.length : Int), r.newPid), r.mapping)) := by
  obtain ⟨s1, s2⟩ := select_ne_fst subId subPid hl
  generalize hk : (List.zip subId subPid).filter (fun ip => !decide (ip.1 = -2)) = kept at *
  have hmodel : toSubTopology subId subPid =
      (kept.mapM fun ip => if ip.2 = -1 then some (-1) else pos? (kept.map (·.1)) ip.2).map fun np => ⟨np, kept.map (·.1)⟩ := by
    simp only [toSubTopology, removal_eq, ne_eq, decide_not, hk]
  have hmm : (kept.map (·.2)).mapM (fun p => if p = -1 then some (-1) else pos? (kept.map (·.1)) p) =
      kept.mapM (fun ip => if ip.2 = -1 then some (-1) else pos? (kept.map (·.1)) ip.2) := by
    rw [List.mapM_map]; rfl
  simp only [hmodel, to_sub_topology, to_sub_topology.body, seq, bindS, s1, s2, for1_loop]
  rw [for2_eq (kept.map (·.1)), hmm]
  · cases kept.mapM (fun ip => if ip.2 = -1 then some (-1) else pos? (kept.map (·.1)) ip.2) <;>
      simp [Py.bind, finish, arange]
  · exact get?_old2new _ hnd

end RefineSub
