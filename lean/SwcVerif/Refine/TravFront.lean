import SwcVerif.Gen.AlgoTravFront
import SwcVerif.Refine.Traverse
import SwcVerif.Refine.Closures
import SwcVerif.Props.C06
/-! Refinement for C04, the three public entry points: the definitions GENERATED (on this run) from
`swcgeom/core/swc_utils/base.py::traverse` (the `match mode:` dispatcher forwarding `**kwargs`), `swcgeom/core/tree.py::Tree.traverse` (the
`wrap` closure factory around `Tree.__getitem__` / `SWCLike.__len__`) and `Tree.Node.traverse`, each specialised to the keyword set of its
call (`enter` / `leave` / both, `root` passed or left at its default), return exactly the structural recursion `Trav.spec` with the user's
callbacks (a callback that is not passed = the trivial callback `Py.absent2`) — for every tree, every start node and every stateful callback. -/
namespace RefineTravFront
open Gen.Algo Trav Py

attribute [local simp] Py.seq Py.skip Py.bind Py.finish Py.unwrapCb

/-! ## `swc_utils.traverse` -/
section base
variable {σ T K : Type} [Inhabited σ] [Inhabited T] [Inhabited K]
variable (enter : σ → Int → Option T → σ × T) (leave : σ → Int → List K → σ × K)

theorem traverse_el_r_refines (ids pids : List Int) (r : Rose) (hR : Represents r ids pids) (s : σ) (F : Nat) :
    traverse_el_r enter leave (2 * r.size + F + 1) (ids, pids) r.id s = some (spec enter leave r none s) := by
  simp [traverse_el_r, traverse_el_r.body, RefineTrav.traverse_refines enter leave ids pids r hR s F]

theorem traverse_e_r_refines (ids pids : List Int) (r : Rose) (hR : Represents r ids pids) (s : σ) (F : Nat) :
    traverse_e_r enter (2 * r.size + F + 1) (ids, pids) r.id s = some (spec enter Py.absent2 r none s) := by
  simp [traverse_e_r, traverse_e_r.body, RefineTrav.traverse_refines enter Py.absent2 ids pids r hR s F]

theorem traverse_l_r_refines (ids pids : List Int) (r : Rose) (hR : Represents r ids pids) (s : σ) (F : Nat) :
    traverse_l_r leave (2 * r.size + F + 1) (ids, pids) r.id s = some (spec Py.absent2 leave r none s) := by
  simp [traverse_l_r, traverse_l_r.body, RefineTrav.traverse_refines Py.absent2 leave ids pids r hR s F]

/-- `root` not passed: `_traverse_dfs`'s default (read from its source: node 0) -/
theorem traverse_el_refines (ids pids : List Int) (r : Rose) (hR : Represents r ids pids) (h0 : r.id = 0) (s : σ) (F : Nat) :
    traverse_el enter leave (2 * r.size + F + 1) (ids, pids) s = some (spec enter leave r none s) := by
  simp [traverse_el, traverse_el.body, h0 ▸ RefineTrav.traverse_refines enter leave ids pids r hR s F]

theorem traverse_e_refines (ids pids : List Int) (r : Rose) (hR : Represents r ids pids) (h0 : r.id = 0) (s : σ) (F : Nat) :
    traverse_e enter (2 * r.size + F + 1) (ids, pids) s = some (spec enter Py.absent2 r none s) := by
  simp [traverse_e, traverse_e.body, h0 ▸ RefineTrav.traverse_refines enter Py.absent2 ids pids r hR s F]

theorem traverse_l_refines (ids pids : List Int) (r : Rose) (hR : Represents r ids pids) (h0 : r.id = 0) (s : σ) (F : Nat) :
    traverse_l leave (2 * r.size + F + 1) (ids, pids) s = some (spec Py.absent2 leave r none s) := by
  simp [traverse_l, traverse_l.body, h0 ▸ RefineTrav.traverse_refines Py.absent2 leave ids pids r hR s F]
end base

/-! ## `SWCLike.__len__`, `Tree.__getitem__` -/

theorem swc_len_eq (ids : List Int) : tf_swc_len ids = some (ids.length : Int) := by
  simp [tf_swc_len, tf_swc_len.body, Py.len]

/-- **`Tree.__getitem__` on an integer key, as translated**: Python's index normalisation over the number of rows — the node handle is the row
`key` (or `key + n` for `-n ≤ key < 0`), and an IndexError outside `[-n, n)` -/
theorem tree_getitem_eq (ids : List Int) (key : Int) :
    tree_getitem ids key =
      if key < -(ids.length : Int) ∨ key ≥ ids.length then none else if key < 0 then some (key + ids.length) else some key := by
  simp only [tree_getitem, tree_getitem.body, Py.seq, Py.skip, Py.bind, swc_len_eq]
  by_cases h1 : key < -(ids.length : Int)
  · simp [h1]
  · by_cases h2 : key ≥ (ids.length : Int)
    · simp [h2]
    · by_cases h3 : key < 0 <;> simp [h1, h2, h3]

theorem tree_getitem_row (ids : List Int) (key : Int) (h0 : 0 ≤ key) (h1 : key < ids.length) : tree_getitem ids key = some key := by
  rw [tree_getitem_eq, if_neg (by omega), if_neg (by omega)]

/-! ## the closure `fn_wrapped` of `wrap(fn)` -/
section closures
variable {σ T K : Type} [Inhabited σ] [Inhabited T] [Inhabited K]

/-- what `fn_wrapped` computes on a valid row: the user's callback on the node handle (= the row index); the captured tree is unchanged -/
def liftE (enter : σ → Int → Option T → σ × T) : (List Int × σ) → Int → Option T → (List Int × σ) × T :=
  fun st n pv => ((st.1, (enter st.2 n pv).1), (enter st.2 n pv).2)
def liftL (leave : σ → Int → List K → σ × K) : (List Int × σ) → Int → List K → (List Int × σ) × K :=
  fun st n ks => ((st.1, (leave st.2 n ks).1), (leave st.2 n ks).2)

theorem wrapped_enter_eq (enter : σ → Int → Option T → σ × T) (st : List Int × σ) (n : Int) (pv : Option T)
    (h0 : 0 ≤ n) (h1 : n < st.1.length) : tree_wrapped_enter enter st n pv = some (liftE enter st n pv) := by
  simp [tree_wrapped_enter, tree_wrapped_enter.body, tree_getitem_row st.1 n h0 h1, liftE]

theorem wrapped_leave_eq (leave : σ → Int → List K → σ × K) (st : List Int × σ) (n : Int) (ks : List K)
    (h0 : 0 ≤ n) (h1 : n < st.1.length) : tree_wrapped_leave leave st n ks = some (liftL leave st n ks) := by
  simp [tree_wrapped_leave, tree_wrapped_leave.body, tree_getitem_row st.1 n h0 h1, liftL]

/-- outside the rows of the tree the wrapped callback raises (IndexError of `Tree.__getitem__`) before the user's callback is called -/
theorem wrapped_enter_outside (enter : σ → Int → Option T → σ × T) (st : List Int × σ) (n : Int) (pv : Option T)
    (h : n < -(st.1.length : Int) ∨ n ≥ st.1.length) : tree_wrapped_enter enter st n pv = none := by
  simp [tree_wrapped_enter, tree_wrapped_enter.body, tree_getitem_eq, h]

theorem wrap2_eq_wrapE {S : Type} (f : S → Int → Option T → Option (S × T)) : Py.wrap2 f = Py.wrapE f := rfl
theorem wrap2_eq_wrapL {S : Type} (f : S → Int → List K → Option (S × K)) : Py.wrap2 f = Py.wrapL f := rfl

/-- a callback that is not passed, over the closure state `Option S`: the (never raising) trivial closure, wrapped -/
theorem absent2_eq_wrapL {S : Type} : (Py.absent2 : Option S → Int → List Unit → Option S × Unit) = Py.wrapL (fun st n ks => some (Py.absent2 st n ks)) := by
  funext st n ks
  cases st <;> rfl
theorem absent2_eq_wrapE {S : Type} : (Py.absent2 : Option S → Int → Option Unit → Option S × Unit) = Py.wrapE (fun st n pv => some (Py.absent2 st n pv)) := by
  funext st n pv
  cases st <;> rfl

/-- closures over the state (tree, user state) that compute, on the rows of the tree, what the user's callbacks compute: the traversal
with the wrapped closures = the traversal with the user's callbacks -/
theorem spec_lifted (fe : (List Int × σ) → Int → Option T → Option ((List Int × σ) × T)) (fl : (List Int × σ) → Int → List K → Option ((List Int × σ) × K))
    (enter : σ → Int → Option T → σ × T) (leave : σ → Int → List K → σ × K) (ids : List Int) (r : Rose)
    (he : ∀ st (n : Int) pv, 0 ≤ n → n < st.1.length → fe st n pv = some (liftE enter st n pv))
    (hl : ∀ st (n : Int) ks, 0 ≤ n → n < st.1.length → fl st n ks = some (liftL leave st n ks))
    (hok : ∀ j ∈ r.ids, 0 ≤ j ∧ j < ids.length) (s : σ) :
    spec (Py.wrapE fe) (Py.wrapL fl) r none (some (ids, s))
      = (some (ids, (spec enter leave r none s).1), (spec enter leave r none s).2) :=
  (RefineClosures.spec_abs (fun s : σ => some (ids, s)) (fun _ => True) (fun j => 0 ≤ j ∧ j < ids.length)
    enter leave (Py.wrapE fe) (Py.wrapL fl)
    (fun s n pv _ hn => ⟨by simp only [Py.wrapE, he (ids, s) n pv hn.1 hn.2, liftE], trivial⟩)
    (fun s n ks _ hn => ⟨by simp only [Py.wrapL, hl (ids, s) n ks hn.1 hn.2, liftL], trivial⟩) r none s trivial hok).1

variable (enter : σ → Int → Option T → σ × T) (leave : σ → Int → List K → σ × K)

theorem spec_wrapped_el (ids : List Int) (r : Rose) (hok : ∀ j ∈ r.ids, 0 ≤ j ∧ j < ids.length) (s : σ) :
    spec (Py.wrap2 (tree_wrapped_enter enter)) (Py.wrap2 (tree_wrapped_leave leave)) r none (some (ids, s))
      = (some (ids, (spec enter leave r none s).1), (spec enter leave r none s).2) :=
  spec_lifted _ _ enter leave ids r (wrapped_enter_eq enter) (wrapped_leave_eq leave) hok s

theorem spec_wrapped_e (ids : List Int) (r : Rose) (hok : ∀ j ∈ r.ids, 0 ≤ j ∧ j < ids.length) (s : σ) :
    spec (Py.wrap2 (tree_wrapped_enter enter)) Py.absent2 r none (some (ids, s))
      = (some (ids, (spec enter Py.absent2 r none s).1), (spec enter Py.absent2 r none s).2) := by
  rw [absent2_eq_wrapL]
  exact spec_lifted _ _ enter Py.absent2 ids r (wrapped_enter_eq enter) (fun _ _ _ _ _ => rfl) hok s

theorem spec_wrapped_l (ids : List Int) (r : Rose) (hok : ∀ j ∈ r.ids, 0 ≤ j ∧ j < ids.length) (s : σ) :
    spec Py.absent2 (Py.wrap2 (tree_wrapped_leave leave)) r none (some (ids, s))
      = (some (ids, (spec Py.absent2 leave r none s).1), (spec Py.absent2 leave r none s).2) := by
  rw [absent2_eq_wrapE]
  exact spec_lifted _ _ Py.absent2 leave ids r (fun _ _ _ _ _ => rfl) (wrapped_leave_eq leave) hok s
end closures

/-! ## `Tree.traverse`, `Tree.Node.traverse` -/
section tree
variable {σ T K : Type} [Inhabited σ] [Inhabited T] [Inhabited K]
variable (enter : σ → Int → Option T → σ × T) (leave : σ → Int → List K → σ × K)

/-- the rows of the subtree are rows of the tree: `self[idx]` never raises during the traversal -/
def Rows (r : Rose) (ids : List Int) : Prop := ∀ j ∈ r.ids, 0 ≤ j ∧ j < ids.length

theorem rows_of_isTree {r : Rose} {pids : List Int} (hr : C06.IsTree r pids) : Rows r (Sub.rangeI pids.length) := by
  intro j hj
  have := (C06.isTree_mem hr j).1 hj
  simp only [Sub.rangeI, List.length_map, List.length_range]
  omega

theorem tree_traverse_el_r_refines (ids pids : List Int) (r : Rose) (hR : Represents r ids pids) (hok : Rows r ids) (s : σ) (F : Nat) :
    tree_traverse_el_r enter leave (2 * r.size + F + 1) ids pids r.id s = some (spec enter leave r none s) := by
  simp [tree_traverse_el_r, tree_traverse_el_r.body, traverse_el_r_refines _ _ ids pids r hR _ F,
    spec_wrapped_el enter leave ids r hok s]

theorem tree_traverse_e_r_refines (ids pids : List Int) (r : Rose) (hR : Represents r ids pids) (hok : Rows r ids) (s : σ) (F : Nat) :
    tree_traverse_e_r enter (2 * r.size + F + 1) ids pids r.id s = some (spec enter Py.absent2 r none s) := by
  simp [tree_traverse_e_r, tree_traverse_e_r.body, traverse_e_r_refines _ ids pids r hR _ F,
    spec_wrapped_e enter ids r hok s]

theorem tree_traverse_l_r_refines (ids pids : List Int) (r : Rose) (hR : Represents r ids pids) (hok : Rows r ids) (s : σ) (F : Nat) :
    tree_traverse_l_r leave (2 * r.size + F + 1) ids pids r.id s = some (spec Py.absent2 leave r none s) := by
  simp [tree_traverse_l_r, tree_traverse_l_r.body, traverse_l_r_refines _ ids pids r hR _ F,
    spec_wrapped_l leave ids r hok s]

theorem tree_traverse_el_refines (ids pids : List Int) (r : Rose) (hR : Represents r ids pids) (h0 : r.id = 0) (hok : Rows r ids) (s : σ) (F : Nat) :
    tree_traverse_el enter leave (2 * r.size + F + 1) ids pids s = some (spec enter leave r none s) := by
  simp [tree_traverse_el, tree_traverse_el.body, traverse_el_refines _ _ ids pids r hR h0 _ F,
    spec_wrapped_el enter leave ids r hok s]

theorem tree_traverse_e_refines (ids pids : List Int) (r : Rose) (hR : Represents r ids pids) (h0 : r.id = 0) (hok : Rows r ids) (s : σ) (F : Nat) :
    tree_traverse_e enter (2 * r.size + F + 1) ids pids s = some (spec enter Py.absent2 r none s) := by
  simp [tree_traverse_e, tree_traverse_e.body, traverse_e_refines _ ids pids r hR h0 _ F,
    spec_wrapped_e enter ids r hok s]

theorem tree_traverse_l_refines (ids pids : List Int) (r : Rose) (hR : Represents r ids pids) (h0 : r.id = 0) (hok : Rows r ids) (s : σ) (F : Nat) :
    tree_traverse_l leave (2 * r.size + F + 1) ids pids s = some (spec Py.absent2 leave r none s) := by
  simp [tree_traverse_l, tree_traverse_l.body, traverse_l_refines _ ids pids r hR h0 _ F,
    spec_wrapped_l leave ids r hok s]

/-- `Tree.Node.traverse`: the node handle is the row index `r.id` -/
theorem node_traverse_el_refines (ids pids : List Int) (r : Rose) (hR : Represents r ids pids) (hok : Rows r ids) (s : σ) (F : Nat) :
    node_traverse_el enter leave (2 * r.size + F + 1) ids pids r.id s = some (spec enter leave r none s) := by
  simp [node_traverse_el, node_traverse_el.body, tree_traverse_el_r_refines enter leave ids pids r hR hok s F]

theorem node_traverse_e_refines (ids pids : List Int) (r : Rose) (hR : Represents r ids pids) (hok : Rows r ids) (s : σ) (F : Nat) :
    node_traverse_e enter (2 * r.size + F + 1) ids pids r.id s = some (spec enter Py.absent2 r none s) := by
  simp [node_traverse_e, node_traverse_e.body, tree_traverse_e_r_refines enter ids pids r hR hok s F]

theorem node_traverse_l_refines (ids pids : List Int) (r : Rose) (hR : Represents r ids pids) (hok : Rows r ids) (s : σ) (F : Nat) :
    node_traverse_l leave (2 * r.size + F + 1) ids pids r.id s = some (spec Py.absent2 leave r none s) := by
  simp [node_traverse_l, node_traverse_l.body, tree_traverse_l_r_refines leave ids pids r hR hok s F]

end tree

end RefineTravFront
