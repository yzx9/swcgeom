import SwcVerif.Gen.AlgoCtorInit
import SwcVerif.Refine.PyLemmas
import SwcVerif.Refine.PyRun
/-! Refinement for `Gen/AlgoCtorInit.lean`: what `padding1d` / `Tree.__init__` as translated allocate, and what they alias. -/
namespace RefineCtorInit
open Gen.Algo Py

theorem vals_eq_some (h : Bufs) (a : Arr) (l : List Int) :
    Bufs.vals h a = some l ↔ 0 ≤ a.buf ∧ ∃ hb : a.buf.toNat < h.length, h[a.buf.toNat].take a.len.toNat = l := by
  unfold Bufs.vals
  split
  · simp only [reduceCtorEq, false_iff, not_and]; omega
  · simp only [Option.map_eq_some_iff, List.getElem?_eq_some_iff]
    constructor
    · rintro ⟨b, ⟨hb, rfl⟩, rfl⟩; exact ⟨by omega, hb, rfl⟩
    · rintro ⟨_, hb, rfl⟩; exact ⟨_, ⟨hb, rfl⟩, rfl⟩

/-- an array that shows `l` still shows `l` after any allocations -/
theorem vals_append (h x : Bufs) (a : Arr) (l : List Int) (hv : Bufs.vals h a = some l) : Bufs.vals (h ++ x) a = some l := by
  rw [vals_eq_some] at hv ⊢
  obtain ⟨h0, hb, e⟩ := hv
  exact ⟨h0, by rw [List.length_append]; omega, by rw [List.getElem_append_left hb]; exact e⟩

theorem vals_valid (h : Bufs) (a : Arr) (l : List Int) (hv : Bufs.vals h a = some l) : 0 ≤ a.buf ∧ a.buf < (h.length : Int) := by
  obtain ⟨h0, hb, _⟩ := (vals_eq_some h a l).1 hv
  omega

theorem vals_new (h : Bufs) (l : List Int) (dt : Int) : Bufs.vals (h ++ [l]) ⟨(h.length : Int), (l.length : Int), dt⟩ = some l := by
  simp [Bufs.vals]

theorem pre_eq (a : Arr) (n : Int) (h0 : 0 ≤ n) (hn : n ≤ a.len) : a.pre n = ⟨a.buf, n, a.dtype⟩ := by
  unfold Arr.pre
  rw [if_neg (by omega)]
  split
  · rfl
  · congr; omega

theorem vals_pre (h : Bufs) (a : Arr) (l : List Int) (n : Int) (hv : Bufs.vals h a = some l) (h0 : 0 ≤ n) (hn : n ≤ a.len) :
    Bufs.vals h (a.pre n) = some (l.take n.toNat) := by
  rw [pre_eq a n h0 hn]
  rw [vals_eq_some] at hv ⊢
  obtain ⟨hb0, hb, rfl⟩ := hv
  exact ⟨hb0, hb, by rw [List.take_take, Nat.min_eq_left (by omega)]⟩

/-- `v is None`: a new zero-filled buffer of length `n` (the padding value plays no role) -/
theorem pad_none (h : Bufs) (n pad dt : Int) (hn : 0 ≤ n) :
    padding1d h n none pad (some dt) = some (h ++ [List.replicate n.toNat 0], ⟨(h.length : Int), n, dt⟩) := by
  have h1 : ¬ n < 0 := by omega
  have h2 : ((n.toNat : Nat) : Int) = n := Int.toNat_of_nonneg hn
  simp [padding1d, padding1d.body, Py.seq, Py.bind, Py.skip, Py.finish, Bufs.full, Bufs.alloc, Arr.pre, h1, h2]

/-- the dtype asked for and long enough: NO allocation, the result is a view `a[:n]` of the array handed in -/
theorem pad_alias (h : Bufs) (n pad dt : Int) (a : Arr) (hd : a.dtype = dt) (hl : n ≤ a.len) :
    padding1d h n (some a) pad (some dt) = some (h, a.pre n) := by
  simp [padding1d, padding1d.body, Py.seq, Py.bind, Py.skip, Py.finish, hd, hl]

/-- the dtype asked for but too short: TWO new buffers (the padding, then the concatenation); the result is the second one -/
theorem pad_short (h : Bufs) (n pad dt : Int) (a : Arr) (l : List Int) (hd : a.dtype = dt) (hl : a.len < n)
    (hv : Bufs.vals h a = some l) :
    padding1d h n (some a) pad (some dt) =
      some (h ++ [List.replicate (n - a.len).toNat pad] ++ [l ++ List.replicate (n - a.len).toNat pad],
            ⟨(h.length : Int) + 1, ((l ++ List.replicate (n - a.len).toNat pad).length : Int), dt⟩) := by
  have h1 : ¬ n ≤ a.len := by omega
  have h2 : ¬ n - a.len < 0 := by omega
  have hv' := vals_append h [List.replicate (n - a.len).toNat pad] a l hv
  have hk : (((n - a.len).toNat : Nat) : Int) = n - a.len := Int.toNat_of_nonneg (by omega)
  have hp : Bufs.vals (h ++ [List.replicate (n - a.len).toNat pad]) ⟨(h.length : Int), n - a.len, dt⟩ =
      some (List.replicate (n - a.len).toNat pad) := by
    have := vals_new h (List.replicate (n - a.len).toNat pad) dt
    simpa only [List.length_replicate, hk] using this
  simp [padding1d, padding1d.body, Py.seq, Py.bind, Py.skip, Py.finish, hd, h1, h2, Bufs.full, Bufs.alloc, Bufs.concat, hv', hp, hk]

/-- another dtype: `astype` copies the values into a NEW buffer first; the rest is `padding1d` of that copy (so the result never shares
storage with the array handed in) -/
theorem pad_cast (h : Bufs) (n pad dt : Int) (a : Arr) (l : List Int) (hd : a.dtype ≠ dt) (hv : Bufs.vals h a = some l) :
    padding1d h n (some a) pad (some dt) = padding1d (h ++ [l]) n (some ⟨(h.length : Int), (l.length : Int), dt⟩) pad (some dt) := by
  simp [padding1d, padding1d.body, Py.seq, Py.bind, Py.skip, Py.finish, hd, Bufs.astype, Bufs.alloc, hv]

/-- the values of a column of the new tree: zeros when nothing was given, else what was given, cut to `n` or padded to `n` with `pad` -/
def colVals (n : Int) (given : Option (List Int)) (pad : Int) : List Int :=
  match given with
  | none => List.replicate n.toNat 0
  | some l => (l ++ List.replicate (n.toNat - l.length) pad).take n.toNat

/-- what one `padding1d(n, v, padding_value=pad, dtype=dt)` does to the heap of buffers -/
structure PadOk (h : Bufs) (n : Int) (v : Option Arr) (given : Option (List Int)) (pad dt : Int) (h' : Bufs) (r : Arr) : Prop where
  /-- existing buffers are not written and keep their places -/
  frame : ∃ ext, h' = h ++ ext
  dtype : r.dtype = dt
  len : r.len = n
  vals : Bufs.vals h' r = some (colVals n given pad)
  /-- the result shares storage with a buffer that existed before exactly when an array of the right dtype and at least `n` long was
  handed in — and then it is the view `a[:n]` of THAT array and nothing was allocated -/
  alias_iff : r.buf < (h.length : Int) ↔ ∃ a, v = some a ∧ a.dtype = dt ∧ n ≤ a.len
  alias_is : ∀ a, v = some a → a.dtype = dt → n ≤ a.len → r = a.pre n ∧ h' = h

theorem padding1d_none_ok (h : Bufs) (n pad dt : Int) (hn : 0 ≤ n) :
    ∃ h' r, padding1d h n none pad (some dt) = some (h', r) ∧ PadOk h n none none pad dt h' r := by
  refine ⟨_, _, pad_none h n pad dt hn, ⟨_, rfl⟩, rfl, rfl, ?_, ?_, ?_⟩
  · have := vals_new h (List.replicate n.toNat 0) dt
    simpa [Int.toNat_of_nonneg hn, colVals] using this
  · simp
  · intro a ha; exact absurd ha (by simp)

theorem PadOk.of_some {h h' : Bufs} {n pad dt : Int} {a r : Arr} {given : Option (List Int)} (frame : ∃ ext, h' = h ++ ext)
    (dtype : r.dtype = dt) (len : r.len = n) (vals : Bufs.vals h' r = some (colVals n given pad))
    (alias_iff : r.buf < (h.length : Int) ↔ a.dtype = dt ∧ n ≤ a.len)
    (alias_is : a.dtype = dt → n ≤ a.len → r = a.pre n ∧ h' = h) : PadOk h n (some a) given pad dt h' r :=
  ⟨frame, dtype, len, vals, by simpa using alias_iff, by simpa using alias_is⟩

/-- the same-dtype part, on any heap in which the array is valid (used directly and after `astype`) -/
theorem padding1d_same_ok (h : Bufs) (n pad dt : Int) (a : Arr) (l : List Int) (hn : 0 ≤ n) (hd : a.dtype = dt)
    (hv : Bufs.vals h a = some l) (hlen : (l.length : Int) = a.len) :
    ∃ h' r, padding1d h n (some a) pad (some dt) = some (h', r) ∧ PadOk h n (some a) (some l) pad dt h' r := by
  rcases Int.lt_or_le a.len n with hs | hl
  · -- too short: the second new buffer holds all of `colVals`
    have e : (n - a.len).toNat = n.toNat - l.length := by rw [← hlen, Int.toNat_sub']
    refine ⟨_, _, pad_short h n pad dt a l hd hs hv, .of_some ⟨_, List.append_assoc ..⟩ rfl ?_ ?_ ?_ fun _ c => absurd c (Int.not_le.2 hs)⟩
    · simp only [List.length_append, List.length_replicate]; omega
    · have hnew := vals_new (h ++ [List.replicate (n - a.len).toNat pad]) (l ++ List.replicate (n - a.len).toNat pad) dt
      rw [List.length_append, List.length_singleton, Int.natCast_add, Int.natCast_one] at hnew
      rw [hnew, colVals, e, List.take_of_length_le]
      rw [List.length_append, List.length_replicate]; omega
    · show (h.length : Int) + 1 < h.length ↔ _
      exact ⟨fun c => by omega, fun c => absurd c.2 (Int.not_le.2 hs)⟩
  · -- long enough: the view `a[:n]`
    have hr := pre_eq a n hn hl
    refine ⟨_, _, pad_alias h n pad dt a hd hl, .of_some ⟨[], (List.append_nil h).symm⟩ ?_ ?_ ?_ ?_ fun _ _ => ⟨rfl, rfl⟩⟩
    · rw [hr]; exact hd
    · rw [hr]
    · rw [vals_pre h a l n hv hn hl, colVals, List.take_append_of_le_length (by omega)]
    · rw [hr]; exact ⟨fun _ => ⟨hd, hl⟩, fun _ => (vals_valid h a l hv).2⟩

/-- **`padding1d` as translated, on an array that is valid in the heap** (`l` = the values it shows) -/
theorem padding1d_some_ok (h : Bufs) (n pad dt : Int) (a : Arr) (l : List Int) (hn : 0 ≤ n)
    (hv : Bufs.vals h a = some l) (hlen : (l.length : Int) = a.len) :
    ∃ h' r, padding1d h n (some a) pad (some dt) = some (h', r) ∧ PadOk h n (some a) (some l) pad dt h' r := by
  by_cases hd : a.dtype = dt
  · exact padding1d_same_ok h n pad dt a l hn hd hv hlen
  · -- `astype` first: the same-dtype part on the heap with the copy; its result cannot lie in the old heap, since a result inside
    -- the heap it started from is a view of the copy
    obtain ⟨h', r, he, ok⟩ :=
      padding1d_same_ok (h ++ [l]) n pad dt ⟨(h.length : Int), (l.length : Int), dt⟩ l hn rfl (vals_new h l dt) rfl
    obtain ⟨ext, hf⟩ := ok.frame
    refine ⟨h', r, by rw [pad_cast h n pad dt a l hd hv, he], .of_some ⟨[l] ++ ext, by rw [hf, List.append_assoc]⟩ ok.dtype ok.len ok.vals
      ⟨fun hb => ?_, fun c => absurd c.1 hd⟩ fun c => absurd c hd⟩
    have hin : r.buf < ((h ++ [l]).length : Int) := by rw [List.length_append, List.length_singleton]; omega
    obtain ⟨a', ha', hd', hl'⟩ := ok.alias_iff.1 hin
    have hr := (ok.alias_is a' ha' hd' hl').1
    cases ha'
    rw [hr] at hb
    exact absurd hb (by simp [Arr.pre])

/-- **`padding1d(n, v, padding_value=pad, dtype=dt)` as translated**, `v` = `None` or an array valid in the heap -/
theorem padding1d_ok (h : Bufs) (n pad dt : Int) (hn : 0 ≤ n) (v : Option Arr)
    (hv : ∀ a, v = some a → ∃ l, Bufs.vals h a = some l ∧ (l.length : Int) = a.len) :
    ∃ h' r, padding1d h n v pad (some dt) = some (h', r) ∧ PadOk h n v (v.bind (Bufs.vals h)) pad dt h' r := by
  cases v with
  | none => exact padding1d_none_ok h n pad dt hn
  | some a =>
    obtain ⟨l, hl, hlen⟩ := hv a rfl
    rw [Option.bind_some, hl]
    exact padding1d_some_ok h n pad dt a l hn hl hlen

/-! ### `Tree.__init__` -/

/-- the standard columns in the order of the `ndata` literal: (name, padding value, dtype tag); the names are the string keys of the generated
`tree_init` (`tree_init_eq` compares them), not `Gen.Consts.name_*` -/
def STD : List (String × Int × Int) :=
  [("id", 0, 0), ("type", 0, 0), ("x", 0, 1), ("y", 0, 1), ("z", 0, 1), ("r", 1, 1), ("pid", 0, 0)]

theorem STD_nodup : (STD.map (·.1)).Nodup := by decide

/-- `k: padding1d(n, kwargs.pop(k, None), padding_value=pad, dtype=dt)` for the listed columns, left to right -/
def padAll (n : Int) : List (String × Int × Int) → Bufs → Dict String Arr → Dict String Arr → Option (Bufs × Dict String Arr × Dict String Arr)
  | [], h, kw, acc => some (h, kw, acc)
  | (k, pad, dt) :: rest, h, kw, acc =>
    (padding1d h n (dictPopD kw k).2 pad (some dt)).bind fun p => padAll n rest p.1 (dictPopD kw k).1 (Dict.set acc k p.2)

/-- the missing-`id` / missing-`pid` defaults: `np.arange(a, b, step=1, dtype=np.int32)` stored under the key -/
def withDefault (h : Bufs) (kw : Dict String Arr) (k : String) (a b : Int) : Bufs × Dict String Arr :=
  if Dict.contains kw k then (h, kw) else ((Bufs.arange h a b 0).1, Dict.set kw k (Bufs.arange h a b 0).2)

/-- the heap and the keyword dict after the two defaults (`id = arange(0, n)`, `pid = arange(-1, n - 1)` when missing) -/
def defaults (h : Bufs) (n : Int) (kw : Dict String Arr) : Bufs × Dict String Arr :=
  withDefault (withDefault h kw "id" 0 n).1 (withDefault h kw "id" 0 n).2 "pid" (-1) (n - 1)

/-- what `Py.seq s1 s2` does with the outcome of `s1` -/
def after {V R : Type} (r : Res V R) (s2 : V → Res V R) : Res V R :=
  match r with
  | .next v' => s2 v'
  | .brk v' => .brk v'
  | .cont v' => .cont v'
  | .ret v' x => .ret v' x
  | .err => .err

theorem seq_after {V R : Type} (s1 s2 : V → Res V R) (v : V) : Py.seq s1 s2 v = after (s1 v) s2 := rfl

@[simp] theorem after_next {V R : Type} (v : V) (s2 : V → Res V R) : after (.next v) s2 = s2 v := rfl

theorem contains_set_ne (d : Dict String Arr) (k k' : String) (x : Arr) (hk : k' ≠ k) :
    Dict.contains (Dict.set d k x) k' = Dict.contains d k' := by
  simp [Dict.contains, Py.Dict.get?_set, hk]

/-- **`Tree.__init__` as translated is**: default `id` / `pid` when missing, the seven `padding1d` calls in order (each popping its key),
then `ndata` followed by the columns that are left -/
theorem tree_init_eq (h : Bufs) (n : Int) (kw : Dict String Arr) :
    tree_init h n kw =
      (padAll n STD (defaults h n kw).1 (defaults h n kw).2 []).map fun p => (p.1, dictMerge p.2.2 p.2.1, ()) := by
  simp only [tree_init, tree_init.body]
  -- the seven `padding1d` calls and the merge are run once, on whatever heap and `kwargs` the two defaults leave
  generalize hK : Py.seq _ (fun (v : tree_init.V) => Res.next { v with self_ndata := Py.dictMerge v.ndata v.kwargs }) = K
  have tail : ∀ (H : Bufs) (KW : Dict String Arr),
      (Py.finish default (K { (default : tree_init.V) with heap := H, n_nodes := n, kwargs := KW })).map
          (fun r => (r.1.heap, r.1.self_ndata, r.2)) =
        (padAll n STD H KW []).map fun p => (p.1, dictMerge p.2.2 p.2.1, ()) := by
    intro H KW
    subst hK
    simp -implicitDefEqProofs only [seq_eq_bindS, bindS_bind, bindS_next, map_finish_bind, finish_next, padAll, STD, Py.map_bind,
      Option.map_some]
  by_cases h1 : Dict.contains kw "id" = true <;> by_cases h2 : Dict.contains kw "pid" = true <;>
    simp -implicitDefEqProofs only [seq_eq_bindS, bindS_next, skip_apply, defaults, withDefault, h1, h2, Bool.not_true, Bool.not_false,
      Bool.false_eq_true, if_false, if_true, contains_set_ne _ "id" "pid" _ (by decide)] <;>
    exact tail _ _

/-! ### the seven columns, by induction over the list of columns -/

/-- every array of the dict is valid in the heap: it shows values, and its window lies inside its buffer -/
def AllValid (h : Bufs) (kw : Dict String Arr) : Prop := ∀ p ∈ kw, ∃ l, Bufs.vals h p.2 = some l ∧ (l.length : Int) = p.2.len

theorem AllValid.grow {h : Bufs} {kw : Dict String Arr} (hv : AllValid h kw) (ext : Bufs) : AllValid (h ++ ext) kw := by
  intro p hp
  obtain ⟨l, hl, hlen⟩ := hv p hp
  exact ⟨l, vals_append h ext p.2 l hl, hlen⟩

theorem AllValid.filter {h : Bufs} {kw : Dict String Arr} (hv : AllValid h kw) (f : String × Arr → Bool) : AllValid h (kw.filter f) :=
  fun p hp => hv p (List.mem_filter.1 hp).1

/-- one column: the call succeeds and does what `PadOk` says; what is left of `kwargs` stays valid -/
theorem step_ok (h : Bufs) (n pad dt : Int) (kw : Dict String Arr) (k : String) (hn : 0 ≤ n) (hv : AllValid h kw) :
    ∃ h' r, padding1d h n (dictPopD kw k).2 pad (some dt) = some (h', r) ∧
      PadOk h n (Dict.get? kw k) ((Dict.get? kw k).bind (Bufs.vals h)) pad dt h' r ∧ AllValid h' (dictPopD kw k).1 := by
  obtain ⟨h', r, he, ok⟩ := padding1d_ok h n pad dt hn (Dict.get? kw k) fun a ha => hv (k, a) (Dict.get?_mem kw k a ha)
  obtain ⟨ext, hext⟩ := ok.frame
  exact ⟨h', r, he, ok, hext ▸ (hv.filter _).grow ext⟩

/-- a column `r` of the new tree, relative to the heap `h` before the constructor ran and the heap `hF` after it: dtype, length, values; it
shares storage with a buffer that existed before exactly when an array of the right dtype and at least `n` long was handed in, and then it IS
the view `a[:n]` of that array -/
structure ColOk (h hF : Bufs) (n : Int) (given : Option Arr) (pad dt : Int) (r : Arr) : Prop where
  dtype : r.dtype = dt
  len : r.len = n
  vals : Bufs.vals hF r = some (colVals n (given.bind (Bufs.vals h)) pad)
  alias_iff : r.buf < (h.length : Int) ↔ ∃ a, given = some a ∧ a.dtype = dt ∧ n ≤ a.len
  alias_is : ∀ a, given = some a → a.dtype = dt → n ≤ a.len → r = a.pre n

theorem PadOk.colOk {h h1 : Bufs} {n pad dt : Int} {v : Option Arr} {r : Arr} (ok : PadOk h n v (v.bind (Bufs.vals h)) pad dt h1 r)
    (ext : Bufs) : ColOk h (h1 ++ ext) n v pad dt r :=
  ⟨ok.dtype, ok.len, vals_append h1 ext r _ ok.vals, ok.alias_iff, fun a ha hd hl => (ok.alias_is a ha hd hl).1⟩

theorem ColOk.of_grow {h ext hF : Bufs} {n pad dt : Int} {v : Option Arr} {r : Arr} (c : ColOk (h ++ ext) hF n v pad dt r)
    (hv : ∀ a, v = some a → ∃ l, Bufs.vals h a = some l) : ColOk h hF n v pad dt r := by
  have hvals : v.bind (Bufs.vals (h ++ ext)) = v.bind (Bufs.vals h) := by
    cases v with
    | none => rfl
    | some a => obtain ⟨l, hl⟩ := hv a rfl; rw [Option.bind_some, Option.bind_some, hl, vals_append h ext a l hl]
  refine ⟨c.dtype, c.len, hvals ▸ c.vals, ⟨fun hb => c.alias_iff.1 (by rw [List.length_append]; omega), ?_⟩, c.alias_is⟩
  rintro ⟨a, ha, hd, hl⟩
  obtain ⟨l, hl'⟩ := hv a ha
  rw [c.alias_is a ha hd hl]
  exact (vals_valid h a l hl').2

theorem pop_filter {κ ν : Type} [DecidableEq κ] (d : Dict κ ν) (k : κ) (ks : List κ) :
    (dictPopD d k).1.filter (fun p => decide (p.1 ∉ ks)) = d.filter fun p => decide (p.1 ∉ k :: ks) := by
  rw [dictPopD, List.filter_filter]
  congr 1
  funext p
  simp only [List.mem_cons, not_or, Bool.decide_and, Bool.and_comm]

/-- the accumulator only grows (`acc ++ cols`, one entry per column, in order): the keys are distinct and new to it, so every `Dict.set`
appends; each column is described relative to the heap and the `kwargs` the run STARTED from -/
theorem padAll_ok (n : Int) (hn : 0 ≤ n) : ∀ (specs : List (String × Int × Int)) (h : Bufs) (kw acc : Dict String Arr),
    (specs.map (·.1)).Nodup → AllValid h kw → (∀ k ∈ specs.map (·.1), k ∉ acc.map (·.1)) →
    ∃ hF cols, padAll n specs h kw acc = some (hF, kw.filter (fun p => decide (p.1 ∉ specs.map (·.1))), acc ++ cols) ∧
      (∃ ext, hF = h ++ ext) ∧ cols.map (·.1) = specs.map (·.1) ∧
      (∀ s ∈ specs, ∃ r, Dict.get? cols s.1 = some r ∧ ColOk h hF n (Dict.get? kw s.1) s.2.1 s.2.2 r) := by
  intro specs
  induction specs with
  | nil =>
    intro h kw acc _ _ _
    have hft : kw = List.filter (fun p => true) kw := (List.filter_eq_self.2 (fun _ _ => rfl)).symm
    exact ⟨h, [], by simpa [padAll] using hft, ⟨[], by simp⟩, rfl, fun s hs => absurd hs (by simp)⟩
  | cons s rest ih =>
    obtain ⟨k, pad, dt⟩ := s
    intro h kw acc hnd hv hacc
    obtain ⟨hk, hnd'⟩ : k ∉ rest.map (·.1) ∧ (rest.map (·.1)).Nodup := List.nodup_cons.1 hnd
    obtain ⟨h1, r, he, ok, hv1⟩ := step_ok h n pad dt kw k hn hv
    obtain ⟨ext, hext⟩ := ok.frame
    obtain ⟨hset, hacc1⟩ := Dict.set_fresh_cons hnd hacc r
    obtain ⟨hF, cols, hpa, ⟨ext', hext'⟩, hkeys, hcols⟩ := ih h1 (dictPopD kw k).1 (acc ++ [(k, r)]) hnd' hv1 hacc1
    refine ⟨hF, (k, r) :: cols, ?_, ⟨ext ++ ext', by rw [hext', hext, List.append_assoc]⟩, by rw [List.map_cons, hkeys]; rfl, ?_⟩
    · simp only [padAll, he, Option.bind_some, hset, hpa, pop_filter, List.append_assoc, List.singleton_append, List.map_cons]
    · intro s hs
      rw [Py.Dict.get?_cons]
      rcases List.mem_cons.1 hs with rfl | hs
      · exact ⟨r, if_pos rfl, hext' ▸ ok.colOk ext'⟩
      · obtain ⟨r2, hr2, c⟩ := hcols s hs
        have hne : s.1 ≠ k := fun e => hk (e ▸ List.mem_map_of_mem hs)
        rw [show Dict.get? (dictPopD kw k).1 s.1 = Dict.get? kw s.1 from (Py.Dict.get?_filter_ne kw k s.1).trans (if_neg hne), hext] at c
        exact ⟨r2, by rw [if_neg (Ne.symm hne)]; exact hr2,
          c.of_grow fun a ha => (hv (s.1, a) (Dict.get?_mem kw s.1 a ha)).imp fun l hl => hl.1⟩

/-! ### the whole constructor -/

theorem merge_fresh : ∀ (b a : Dict String Arr), (b.map (·.1)).Nodup → (∀ k ∈ b.map (·.1), k ∉ a.map (·.1)) → dictMerge a b = a ++ b
  | [], a, _, _ => by simp [dictMerge]
  | p :: t, a, hnd, hdis => by
    obtain ⟨hset, hdis'⟩ := Dict.set_fresh_cons hnd hdis p.2
    have ih := merge_fresh t (a ++ [p]) (List.nodup_cons.1 hnd).2 hdis'
    simp only [dictMerge, List.foldl_cons, hset] at ih ⊢
    rw [ih, List.append_assoc, List.singleton_append]

theorem get?_filter_not_mem (ks : List String) (k : String) (hk : k ∉ ks) (d : Dict String Arr) :
    Dict.get? (d.filter fun p => decide (p.1 ∉ ks)) k = Dict.get? d k := by
  simp only [Dict.get?, List.find?_filter]
  congr 2
  funext p
  by_cases c : p.1 = k <;> simp [c, hk]

/-- when both `id` and `pid` are handed in (every tree built from a table or from another tree) nothing happens here -/
theorem defaults_given (h : Bufs) (n : Int) (kw : Dict String Arr) (h1 : Dict.contains kw "id" = true) (h2 : Dict.contains kw "pid" = true) :
    defaults h n kw = (h, kw) := by
  simp [defaults, withDefault, h1, h2]

/-- **`Tree.__init__` as translated** (every heap, every `n ≥ 0`, every dict of valid arrays with distinct keys), stated on the heap / dict
`(h₂, kw₂) = defaults h n kw` (= `(h, kw)` when `id` and `pid` are given): it succeeds; NO existing buffer is written (`hF = h₂ ++ ext`); the
first seven columns of the new `ndata` are `id, type, x, y, z, r, pid` with the dtypes int32 / float32, length `n` and the values `colVals`
(what was given, cut or padded — with 1 for `r`, 0 otherwise; zeros when nothing was given); a standard column SHARES STORAGE with a buffer that
existed before exactly when an array of the right dtype and at least `n` long was handed in, and is then the view `a[:n]` of it; every other
column handed in is stored as it is (the same array object). -/
theorem tree_init_ok (h : Bufs) (n : Int) (kw : Dict String Arr) (hn : 0 ≤ n)
    (hv : AllValid (defaults h n kw).1 (defaults h n kw).2) (hnd : ((defaults h n kw).2.map (·.1)).Nodup) :
    ∃ hF nd, tree_init h n kw = some (hF, nd, ()) ∧ (∃ ext, hF = (defaults h n kw).1 ++ ext) ∧
      nd.map (·.1) = STD.map (·.1) ++ ((defaults h n kw).2.filter fun p => decide (p.1 ∉ STD.map (·.1))).map (·.1) ∧
      (∀ s ∈ STD, ∃ r, Dict.get? nd s.1 = some r ∧
        ColOk (defaults h n kw).1 hF n (Dict.get? (defaults h n kw).2 s.1) s.2.1 s.2.2 r) ∧
      (∀ k, k ∉ STD.map (·.1) → Dict.get? nd k = Dict.get? (defaults h n kw).2 k) := by
  obtain ⟨hF, cols, hpa, hfr, hkeys, hcols⟩ :=
    padAll_ok n hn STD (defaults h n kw).1 (defaults h n kw).2 [] STD_nodup hv fun _ _ => List.not_mem_nil
  generalize hrest : ((defaults h n kw).2.filter fun p => decide (p.1 ∉ STD.map (·.1))) = rest at hpa ⊢
  have hrest_not : ∀ k ∈ rest.map (·.1), k ∉ cols.map (·.1) := by
    intro k hm
    obtain ⟨p, hp, rfl⟩ := List.mem_map.1 hm
    rw [← hrest] at hp
    rw [hkeys]
    exact of_decide_eq_true (List.mem_filter.1 hp).2
  have hnd' : (rest.map (·.1)).Nodup := hrest ▸ (List.filter_sublist.map _).nodup hnd
  refine ⟨hF, cols ++ rest, ?_, hfr, by rw [List.map_append, hkeys], fun s hs => ?_, fun k hk => ?_⟩
  · rw [tree_init_eq, hpa, ← merge_fresh rest cols hnd' hrest_not]; rfl
  · obtain ⟨r, hr, c⟩ := hcols s hs
    exact ⟨r, by rw [Dict.get?_append, hr]; rfl, c⟩
  · rw [Dict.get?_append, Py.Dict.get?_none_of_not_mem cols k (hkeys ▸ hk), Option.none_or, ← hrest]
    exact get?_filter_not_mem _ k hk _

/-- `tree_init_ok` when `id` and `pid` are handed in: about the caller's own heap and dict -/
theorem tree_init_given (h : Bufs) (n : Int) (kw : Dict String Arr) (hn : 0 ≤ n) (hv : AllValid h kw) (hnd : (kw.map (·.1)).Nodup)
    (h1 : Dict.contains kw "id" = true) (h2 : Dict.contains kw "pid" = true) :
    ∃ hF nd, tree_init h n kw = some (hF, nd, ()) ∧ (∃ ext, hF = h ++ ext) ∧
      (∀ s ∈ STD, ∃ r, Dict.get? nd s.1 = some r ∧ ColOk h hF n (Dict.get? kw s.1) s.2.1 s.2.2 r) ∧
      (∀ k, k ∉ STD.map (·.1) → Dict.get? nd k = Dict.get? kw k) := by
  have hd := defaults_given h n kw h1 h2
  obtain ⟨hF, nd, he, hfr, _, hc, hx⟩ := tree_init_ok h n kw hn (by rw [hd]; exact hv) (by rw [hd]; exact hnd)
  rw [hd] at hfr hc hx
  exact ⟨hF, nd, he, hfr, hc, hx⟩

end RefineCtorInit
