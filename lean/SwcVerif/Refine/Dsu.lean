import SwcVerif.Gen.AlgoDsu
import SwcVerif.Model.AlgoRunDsu
import SwcVerif.Refine.PyRun
import SwcVerif.Proofs.Dsu
/-! Refinement: the definitions GENERATED from `swcgeom/utils/dsu.py` (`Gen.Algo.dsu_*`, regenerated from the
current source on every run) compute what the hand-written model `Dsu` (functions with point updates, the model
all C18 theorems are about) computes.  `Rep g n par rank`: the two Python lists of `g` hold the tables `par`, `rank`;
`Good g d` adds what every operation keeps (closed table, ranks increasing along parent pointers). -/
namespace RefineDsu
open Gen.Algo Dsu AlgoRun

/-- the generated object `g` represents the tables `par`, `rank` on `n` nodes -/
structure Rep (g : DisjointSetUnion) (n : Nat) (par rank : Nat → Nat) : Prop where
  lp : g.element_parent.length = n
  lr : g.rank.length = n
  hp : ∀ i, i < n → g.element_parent[i]? = some ((par i : Nat) : Int)
  hr : ∀ i, i < n → g.rank[i]? = some ((rank i : Nat) : Int)

section
variable {g : DisjointSetUnion} {n : Nat} {par rank : Nat → Nat}

theorem tab_set {l : List Int} {n : Nat} {f : Nat → Nat} (hl : l.length = n) (h : ∀ i, i < n → l[i]? = some ((f i : Nat) : Int))
    (x r i : Nat) (hi : i < n) : (l.set x (r : Int))[i]? = some ((updN f x r i : Nat) : Int) := by
  by_cases e : i = x
  · subst e; simp [updN, hl, hi]
  · simp [updN, e, List.getElem?_set_ne (Ne.symm e), h i hi]

theorem rep_set_par (h : Rep g n par rank) (x r : Nat) :
    Rep { g with element_parent := g.element_parent.set x (r : Int) } n (updN par x r) rank :=
  ⟨by simp [h.lp], h.lr, tab_set h.lp h.hp x r, h.hr⟩

theorem rep_set_rank (h : Rep g n par rank) (x r : Nat) :
    Rep { g with rank := g.rank.set x (r : Int) } n par (updN rank x r) :=
  ⟨h.lp, by simp [h.lr], h.hp, tab_set h.lr h.hr x r⟩

theorem Rep.idx_par (h : Rep g n par rank) {x : Nat} (hx : x < n) :
    Py.idx g.element_parent (x : Int) = some ((par x : Nat) : Int) := by
  rw [Py.idx_nat _ _ (h.lp ▸ hx)]; exact h.hp x hx

theorem Rep.idx_rank (h : Rep g n par rank) {x : Nat} (hx : x < n) :
    Py.idx g.rank (x : Int) = some ((rank x : Nat) : Int) := by
  rw [Py.idx_nat _ _ (h.lr ▸ hx)]; exact h.hr x hx

theorem closed_updN (h : Closed n par) (k : Nat) {v : Nat} (hv : v < n) : Closed n (updN par k v) := by
  intro i hi
  by_cases e : i = k
  · subst e; simpa [updN] using hv
  · simpa [updN, e] using h i hi

/-- `find_parent`: with the model's fuel the generated recursion returns the model's root and leaves the
model's (path-compressed) table; the table stays closed and the root is a node -/
theorem find_refines {n : Nat} {rank : Nat → Nat} {B : Nat} :
    ∀ (f : Nat) (g : DisjointSetUnion) (par : Nat → Nat) (x : Nat),
      Rep g n par rank → Closed n par → DInv par rank B → x < n → B - rank x < f →
      ∃ g', dsu_find_parent f g (x : Int) = some (g', (((find f par x).2 : Nat) : Int)) ∧
        Rep g' n (find f par x).1 rank ∧ Closed n (find f par x).1 ∧ (find f par x).2 < n := by
  intro f
  induction f with
  | zero => intro g par x _ _ _ _ hf; exact absurd hf (Nat.not_lt_zero _)
  | succ f ih =>
    intro g par x hrep hcl hinv hx hf
    have hget := hrep.idx_par hx
    by_cases hroot : par x = x
    · rw [show find (f + 1) par x = (par, x) by simp [find, hroot]]
      exact ⟨g, by simp [dsu_find_parent, Py.seq, Py.bind, Py.skip, Py.finish, hget, hroot], hrep, hcl, hx⟩
    · obtain ⟨g1, e1, r1, c1, lt1⟩ := ih g par (par x) hrep hcl hinv (hcl x hx) (hinv.fuel hroot hf)
      have hne : ((x : Nat) : Int) ≠ ((par x : Nat) : Int) := fun c => hroot (Int.ofNat.inj c).symm
      rw [show find (f + 1) par x = (updN (find f par (par x)).1 x (find f par (par x)).2, (find f par (par x)).2) by
        simp [find, hroot]]
      refine ⟨_, ?_, rep_set_par r1 x _, closed_updN c1 x lt1, lt1⟩
      have hxl1 : x < g1.element_parent.length := r1.lp ▸ hx
      simp only [dsu_find_parent, Py.seq, Py.bind, Py.skip, Py.finish, hget]
      simp [hne, e1, Py.setIdx_nat _ _ _ hxl1, Py.idx_nat, hxl1]

/-- enough fuel: the model's `find` does not depend on the amount -/
theorem find_fuel {par rank : Nat → Nat} {B : Nat} (h : DInv par rank B) :
    ∀ (f g x : Nat), B - rank x < f → B - rank x < g → find f par x = find g par x := by
  intro f
  induction f with
  | zero => intro g x hx; exact absurd hx (Nat.not_lt_zero _)
  | succ f ih =>
    intro g x hf hg
    cases g with
    | zero => exact absurd hg (Nat.not_lt_zero _)
    | succ g =>
      simp only [find]
      split
      · rfl
      · rename_i hne
        rw [ih g (par x) (h.fuel hne hf) (h.fuel hne hg)]

theorem find_parent_refines {n : Nat} {rank : Nat → Nat} {B : Nat} (F : Nat) (g : DisjointSetUnion) (par : Nat → Nat)
    (x : Nat) (hrep : Rep g n par rank) (hcl : Closed n par) (hinv : DInv par rank B) (hx : x < n) (hF : B < F) :
    ∃ g', dsu_find_parent F g (x : Int) = some (g', (((find (B + 1) par x).2 : Nat) : Int)) ∧
      Rep g' n (find (B + 1) par x).1 rank ∧ Closed n (find (B + 1) par x).1 ∧ (find (B + 1) par x).2 < n := by
  have h1 : B - rank x < F := Nat.lt_of_le_of_lt (Nat.sub_le _ _) hF
  rw [← find_fuel hinv F (B + 1) x h1 (Nat.lt_succ_of_le (Nat.sub_le _ _))]
  exact find_refines F g par x hrep hcl hinv hx h1

theorem validate_nat (h : Rep g n par rank) (a : Nat) :
    dsu_validate_node g (a : Int) = some (decide (a < n)) := by
  simp [dsu_validate_node, dsu_validate_node.body, Py.finish, Py.len, h.lp]

end

theorem validate_neg (g : DisjointSetUnion) (a : Int) (h : a < 0) : dsu_validate_node g a = some false := by
  have : ¬ (0 ≤ a) := by omega
  simp [dsu_validate_node, dsu_validate_node.body, Py.finish, this]

structure Good (g : DisjointSetUnion) (d : D) : Prop where
  rep : Rep g d.n d.par d.rank
  cl  : Closed d.n d.par
  inv : DInv d.par d.rank d.b

theorem Good.dsuInv {g : DisjointSetUnion} {d : D} (h : Good g d) : DsuInv d d.n (fun x y => root d x = root d y) :=
  ⟨h.inv, rfl, fun _ _ _ _ => Iff.rfl⟩

theorem find2_refines {g : DisjointSetUnion} {d : D} (h : Good g d) (a b : Nat) (ha : a < d.n) (hb : b < d.n) (F : Nat) (hF : d.b < F) :
    ∃ g1 g2, dsu_find_parent F g (a : Int) = some (g1, (((find (d.b + 1) d.par a).2 : Nat) : Int)) ∧
      dsu_find_parent F g1 (b : Int) = some (g2, (((find (d.b + 1) (find (d.b + 1) d.par a).1 b).2 : Nat) : Int)) ∧
      Good g2 (same d a b).2 ∧
      (find (d.b + 1) d.par a).2 < (same d a b).2.n ∧ (find (d.b + 1) (find (d.b + 1) d.par a).1 b).2 < (same d a b).2.n := by
  obtain ⟨g1, e1, r1, c1, l1⟩ := find_parent_refines F g d.par a h.rep h.cl h.inv ha hF
  obtain ⟨g2, e2, r2, c2, l2⟩ := find_parent_refines F g1 _ b r1 c1 (find_inv h.inv (d.b + 1) a (Nat.lt_succ_of_le (Nat.sub_le _ _))) hb hF
  exact ⟨g1, g2, e1, e2, ⟨r2, c2, (same_inv h.dsuInv a b).inv⟩, l1, l2⟩

/-- `is_same_set(a, b)` refines `Dsu.same` -/
theorem same_refines {g : DisjointSetUnion} {d : D} (h : Good g d) (a b : Nat) (ha : a < d.n) (hb : b < d.n) (F : Nat) (hF : d.b < F) :
    ∃ g', dsu_is_same_set F g (a : Int) (b : Int) = some (g', (same d a b).1) ∧ Good g' (same d a b).2 := by
  obtain ⟨g1, g2, e1, e2, h2, _, _⟩ := find2_refines h a b ha hb F hF
  refine ⟨g2, ?_, h2⟩
  simp only [dsu_is_same_set, dsu_is_same_set.body, Py.bind, Py.finish, e1, e2, same, Option.map_some, Int.natCast_inj]
  rw [Bool.beq_eq_decide_eq]

theorem union_refines {g : DisjointSetUnion} {d : D} (h : Good g d) (a b : Nat) (ha : a < d.n) (hb : b < d.n) (F : Nat) (hF : d.b < F) :
    ∃ g', dsu_union_sets F g (a : Int) (b : Int) = some (g', ()) ∧ Good g' (union d a b) := by
  obtain ⟨g1, g2, e1, e2, ⟨r2, c2, _⟩, l1, l2⟩ := find2_refines h a b ha hb F hF
  have hi := (union_inv h.dsuInv a b ha hb).inv
  rw [union_eq_link] at hi ⊢
  generalize (find (d.b + 1) d.par a).2 = ra at *
  generalize (find (d.b + 1) (find (d.b + 1) d.par a).1 b).2 = rb at *
  generalize (same d a b).2 = d1 at *
  suffices ∃ g', dsu_union_sets F g (a : Int) (b : Int) = some (g', ()) ∧
      Rep g' d1.n (link d1 ra rb).par (link d1 ra rb).rank ∧ Closed d1.n (link d1 ra rb).par by
    obtain ⟨g', e, r, c⟩ := this
    have hn := (link_b_le d1 ra rb).2
    exact ⟨g', e, by rw [hn]; exact r, by rw [hn]; exact c, hi⟩
  simp only [dsu_union_sets, dsu_union_sets.body, Py.seq, Py.bind, Py.skip, validate_nat h.rep, ha, hb, e1, e2,
    decide_true, if_true, Option.bind_some, r2.idx_rank l1, r2.idx_rank l2, Int.natCast_inj, ne_eq, decide_not, Int.ofNat_lt,
    gt_iff_lt, Py.setIdx_nat _ ra _ (r2.lp ▸ l1), Py.setIdx_nat _ rb _ (r2.lp ▸ l2)]
  unfold link
  by_cases hsame : ra = rb
  · simp only [hsame, decide_true, Bool.not_true, Bool.false_eq_true, if_false, if_true]
    exact ⟨g2, rfl, r2, c2⟩
  · simp only [hsame, decide_false, Bool.not_false, if_true, if_false]
    by_cases hlt : d1.rank ra < d1.rank rb
    · simp only [hlt, decide_true, if_true]
      exact ⟨_, rfl, rep_set_par r2 ra rb, closed_updN c2 ra l2⟩
    · simp only [hlt, decide_false, Bool.false_eq_true, if_false]
      by_cases hgt : d1.rank rb < d1.rank ra
      · simp only [hgt, decide_true, if_true]
        exact ⟨_, rfl, rep_set_par r2 rb ra, closed_updN c2 rb l1⟩
      · simp only [hgt, decide_false, Bool.false_eq_true, if_false, Py.setIdx_nat _ ra _ (r2.lr ▸ l1)]
        exact ⟨_, rfl, rep_set_rank (rep_set_par r2 rb ra) ra (d1.rank ra + 1), closed_updN c2 rb l1⟩

/-- an invalid node is rejected by the generated `union_sets` (the `assert`) -/
theorem union_invalid {g : DisjointSetUnion} {n : Nat} {par rank : Nat → Nat} (hrep : Rep g n par rank) (f a b : Nat)
    (h : ¬ (a < n ∧ b < n)) : dsu_union_sets f g (a : Int) (b : Int) = none := by
  by_cases ha : a < n
  · have hb : ¬ b < n := fun c => h ⟨ha, c⟩
    simp [dsu_union_sets, dsu_union_sets.body, Py.seq, Py.bind, Py.finish, validate_nat hrep, ha, hb]
  · simp [dsu_union_sets, dsu_union_sets.body, Py.seq, Py.bind, Py.finish, validate_nat hrep, ha]

/-- `DisjointSetUnion(node_number=n)` refines `Dsu.init n` -/
theorem init_refines (g0 : DisjointSetUnion) (n : Nat) :
    ∃ g, dsu_init g0 (n : Int) = some (g, ()) ∧ Rep g n (init n).par (init n).rank := by
  -- the two comprehensions `[i for i in range(n)]`, `[0 for _ in range(n)]`
  obtain ⟨v1, e1, ⟨s1, n1⟩, a1⟩ := Py.forEach_collect dsu_init.for1 (·.c0_) id (fun v => v.self = g0 ∧ v.node_number = n) (Py.range n)
    (fun x _ v hv => ⟨_, rfl, hv, rfl⟩) { (default : dsu_init.V) with self := g0, node_number := n, c0_ := [] } ⟨rfl, rfl⟩
  obtain ⟨v2, e2, s2, a2⟩ := Py.forEach_collect dsu_init.for2 (·.c2_) (fun _ => (0 : Int))
    (fun v => v.self = { g0 with element_parent := v1.c0_ }) (Py.range v1.node_number) (fun x _ v hv => ⟨_, rfl, hv, rfl⟩)
    { v1 with self := { v1.self with element_parent := v1.c0_ }, c2_ := [] } (by rw [s1])
  refine ⟨{ element_parent := v1.c0_, rank := v2.c2_ }, ?_, ?_⟩
  · simp only [dsu_init, dsu_init.body, Py.seq, Py.bindS, e1, e2, s2, Py.finish, Option.map]
  · rw [a1, a2, n1]
    refine ⟨by simp, by simp, ?_, ?_⟩ <;> intro i hi <;> simp [init, hi]

theorem init_good (g0 : DisjointSetUnion) (n : Nat) : ∃ g, dsu_init g0 (n : Int) = some (g, ()) ∧ Good g (init n) := by
  obtain ⟨g, e, r⟩ := init_refines g0 n
  exact ⟨g, e, r, fun _ hi => hi, (init_inv n).inv⟩

theorem union_b_le (d : D) (a b : Nat) : (union d a b).b ≤ d.b + 1 ∧ (union d a b).n = d.n :=
  link_b_le (same d a b).2 _ _

theorem find_invalid (f : Nat) (g : DisjointSetUnion) (a : Nat) (h : ¬ a < g.element_parent.length) :
    dsu_find_parent f g (a : Int) = none := by
  cases f with
  | zero => rfl
  | succ f => simp [dsu_find_parent, Py.seq, Py.bind, Py.finish, Py.idx_nat_none _ _ h]

/-- `is_same_set` on a node that does not exist raises (IndexError) -/
theorem same_invalid {g : DisjointSetUnion} {d : D} (h : Good g d) (F a b : Nat) (hF : d.b < F) (hv : ¬ (a < d.n ∧ b < d.n)) :
    dsu_is_same_set F g (a : Int) (b : Int) = none := by
  by_cases ha : a < d.n
  · have hb : ¬ b < d.n := fun c => hv ⟨ha, c⟩
    obtain ⟨g1, e1, r1, _, _⟩ := find_parent_refines F g d.par a h.rep h.cl h.inv ha hF
    have : ¬ b < g1.element_parent.length := by rw [r1.lp]; exact hb
    simp [dsu_is_same_set, dsu_is_same_set.body, Py.bind, Py.finish, e1, find_invalid _ _ _ this]
  · have : ¬ a < g.element_parent.length := by rw [h.rep.lp]; exact ha
    simp [dsu_is_same_set, dsu_is_same_set.body, Py.bind, Py.finish, find_invalid _ _ _ this]

/-- **every script**: running the methods GENERATED from the current `dsu.py` answers every query exactly as the
model `Dsu.runOps` does (including the point at which an invalid node raises), for any fuel beyond the number of
operations (the rank bound) -/
theorem script_refines : ∀ (ops : List Op) (g : DisjointSetUnion) (d : D) (F : Nat), Good g d → d.b + ops.length < F →
    genRun F g ops = runOps d ops := by
  intro ops
  induction ops with
  | nil => intro g d F _ _; rfl
  | cons op ops ih =>
    intro g d F h hF
    have hlt : d.b < F := Nat.lt_of_le_of_lt (Nat.le_add_right _ _) hF
    cases op with
    | union a b =>
      by_cases hv : a < d.n ∧ b < d.n
      · obtain ⟨g', e, h'⟩ := union_refines h a b hv.1 hv.2 F hlt
        -- a union raises the rank bound by one at most
        have hF' : d.b + 1 + ops.length < F := by rw [Nat.add_right_comm]; exact hF
        have := ih g' (union d a b) F h' (Nat.lt_of_le_of_lt (Nat.add_le_add_right (union_b_le d a b).1 _) hF')
        simp [genRun, runOps, stepOp_union hv.1 hv.2, e, this]
      · have e := union_invalid h.rep F a b hv
        simp [genRun, runOps, stepOp, valid_pair_false hv, e]
    | same a b =>
      by_cases hv : a < d.n ∧ b < d.n
      · obtain ⟨g', e, h'⟩ := same_refines h a b hv.1 hv.2 F hlt
        have := ih g' (same d a b).2 F h' (Nat.lt_of_succ_lt hF)
        simp [genRun, runOps, stepOp_same hv.1 hv.2, e, this]
      · have e := same_invalid h F a b hlt hv
        simp [genRun, runOps, stepOp, valid_pair_false hv, e]

/-- from the generated constructor on -/
theorem script_refines_init (n : Nat) (ops : List Op) (g0 : DisjointSetUnion) :
    ∃ g, dsu_init g0 (n : Int) = some (g, ()) ∧ genRun (ops.length + 1) g ops = runOps (init n) ops := by
  obtain ⟨g, e, h⟩ := init_good g0 n
  exact ⟨g, e, script_refines ops g (init n) _ h (by simp [init])⟩

end RefineDsu
