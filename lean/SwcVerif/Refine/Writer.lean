import SwcVerif.Gen.AlgoWriter
import SwcVerif.Refine.PyRun
import SwcVerif.Model.SwcText
/-! Refinement for C01: the definitions GENERATED from `swcgeom/core/swc_utils/io.py::to_swc` (a generator: the comment loop, the header
line, the nested closure `get_v`, the row loop that indexes every column with the VALUE of the id column) and from
`swcgeom/core/swc.py::SWCLike.to_swc` (the `source:` header, `comments is True`, `"".join(it)`).

Part 1 (`to_swc_refines`, `swclike_to_swc_refines`): for EVERY float payload type `F`, every `fmt4 : F → String`, every table whose seven
standard columns have one common length `n` and whose id VALUES are row positions `0 ≤ id < n` (in any order, repetitions allowed), every
`id_offset` (negative ones too) and every comment list, the generated functions return exactly the specification `linesG` / `textG`
below - one row per id value `j`, built from row `j` of every column.

Part 2 (`to_swc_eq_writeLines`, `swclike_to_swc_eq_writeSwc`): on tables whose ids ARE the positions (`rows[k].id = k`), with the float
payload of the hand-written model (`sign × magnitude·10⁻⁴`, printed by `SwcText.fmt4`) and offsets `≥ 0`, that specification is the
hand-written `SwcText.writeLines` / `SwcText.writeSwc`, character for character. -/
namespace RefineWriter
open Gen.Algo Py

/-! ## Part 1: what the generated code computes -/

variable {F : Type} [Inhabited F]

/-- the seven standard columns -/
structure Tbl (F : Type) where
  ids : List Int
  types : List Int
  xs : List F
  ys : List F
  zs : List F
  rs : List F
  pids : List Int

/-- `get_ndata` reads this table -/
def Reads (get : String → Py.Col F) (T : Tbl F) : Prop :=
  get Gen.Consts.name_id = .ints T.ids ∧ get Gen.Consts.name_type = .ints T.types ∧ get Gen.Consts.name_x = .flts T.xs ∧
  get Gen.Consts.name_y = .flts T.ys ∧ get Gen.Consts.name_z = .flts T.zs ∧ get Gen.Consts.name_r = .flts T.rs ∧
  get Gen.Consts.name_pid = .ints T.pids

/-- every column has `n` entries -/
def Tbl.Rect (T : Tbl F) (n : Nat) : Prop :=
  T.ids.length = n ∧ T.types.length = n ∧ T.xs.length = n ∧ T.ys.length = n ∧ T.zs.length = n ∧ T.rs.length = n ∧ T.pids.length = n

def cols7 : List String :=
  [Gen.Consts.name_id, Gen.Consts.name_type, Gen.Consts.name_x, Gen.Consts.name_y, Gen.Consts.name_z, Gen.Consts.name_r, Gen.Consts.name_pid]

/-- the parent column as written: shifted unless it is the root marker `-1` -/
def pidOut (off pid : Int) : Int := if pid ≠ -1 then pid + off else pid

/-- the text of column `k` in the row built from table position `i` -/
def cellText (fmt4 : F → String) (off : Int) (T : Tbl F) (i : Nat) (k : String) : String :=
  if k = Gen.Consts.name_id then strInt (T.ids.getD i 0 + off)
  else if k = Gen.Consts.name_type then strInt (T.types.getD i 0)
  else if k = Gen.Consts.name_x then fmt4 (T.xs.getD i default)
  else if k = Gen.Consts.name_y then fmt4 (T.ys.getD i default)
  else if k = Gen.Consts.name_z then fmt4 (T.zs.getD i default)
  else if k = Gen.Consts.name_r then fmt4 (T.rs.getD i default)
  else strInt (pidOut off (T.pids.getD i 0))

/-- the data line built from table position `i` -/
def rowAt (fmt4 : F → String) (off : Int) (T : Tbl F) (i : Nat) : String :=
  strJoin " " (cols7.map (cellText fmt4 off T i)) ++ "\n"

def commentLineG (c : String) : String := if strIsSpace c then "#\n" else "# " ++ strLstrip c ++ "\n"

def headerLineG : String := "# " ++ strJoin " " cols7 ++ "\n"

/-- the lines `io.to_swc` yields: one data line per VALUE `j` of the id column, built from row `j` -/
def linesG (fmt4 : F → String) (off : Int) (T : Tbl F) (comments : List String) : List String :=
  comments.map commentLineG ++ headerLineG :: T.ids.map (fun j => rowAt fmt4 off T j.toNat)

/-- the `source` header of `SWCLike.to_swc`: none for `source=False`, the given string, or the tree's `source` attribute / `"Unknown"` -/
def sourceText (self : SWCLike) : BoolOrStr → Option String
  | .bool false => none
  | .bool true => some (if self.source ≠ "" then self.source else "Unknown")
  | .str s => some s

/-- the comment list `SWCLike.to_swc` hands to `io.to_swc` -/
def writtenG (self : SWCLike) (source : BoolOrStr) (wc : Bool) : List String :=
  (match sourceText self source with
    | some s => ["source: " ++ s, ""]
    | none => []) ++ (if wc then self.comments else [])

def textG (fmt4 : F → String) (off : Int) (T : Tbl F) (self : SWCLike) (source : BoolOrStr) (wc : Bool) : String :=
  strJoin "" (linesG fmt4 off T (writtenG self source wc))

variable (fmt4 : F → String) (get : String → Py.Col F)

/-- `get_v` on an integer column: the offset is added to an id and to a parent that is not the root marker -/
theorem get_v_ints (k : String) (l : List Int) (hk : get k = .ints l) (i : Nat) (hi : i < l.length) (off : Int) :
    to_swc_get_v fmt4 get off k (.int i) = some (off, strInt
      (if k = Gen.Consts.name_id then l.getD i 0 + off else if k = Gen.Consts.name_pid then pidOut off (l.getD i 0) else l.getD i 0)) := by
  have hget : l[i]? = some (l.getD i 0) := by simp [List.getD, hi]
  generalize l.getD i 0 = x at hget ⊢
  simp only [to_swc_get_v, to_swc_get_v.body, Py.seq, Py.bind, Py.skip, hk, Col.get, idx_nat l i hi, hget, Option.map_some,
    Col.isFloating, Bool.false_eq_true, if_false]
  by_cases h1 : k = Gen.Consts.name_id
  · simp [h1, Cell.addInt, Cell.str, Py.finish]
  · by_cases h2 : k = Gen.Consts.name_pid
    · subst h2
      by_cases h3 : x = -1
      · simp [h1, h3, pidOut, Cell.neInt, Cell.str, Py.finish]
      · simp [h1, h3, pidOut, Cell.neInt, Cell.addInt, Cell.str, Py.finish]
    · simp [h1, h2, Cell.str, Py.finish]

/-- `get_v` on a float column: the formatting callback, no offset -/
theorem get_v_flts (k : String) (l : List F) (hk : get k = .flts l) (i : Nat) (hi : i < l.length) (off : Int) :
    to_swc_get_v fmt4 get off k (.int i) = some (off, fmt4 (l.getD i default)) := by
  have hget : l[i]? = some (l.getD i default) := by simp [List.getD, hi]
  generalize l.getD i default = x at hget ⊢
  simp [to_swc_get_v, to_swc_get_v.body, Py.seq, Py.bind, hk, Col.get, idx_nat l i hi, hget, Col.isFloating, Cell.fmtFloat, Py.finish]

/-- the seven cells of the row at position `i`; the tests `k = name_…` of `cellText` are decided by evaluation (the names are distinct) -/
theorem cellText_cols7 (off : Int) (T : Tbl F) (i : Nat) :
    cols7.map (cellText fmt4 off T i) =
      [strInt (T.ids.getD i 0 + off), strInt (T.types.getD i 0), fmt4 (T.xs.getD i default), fmt4 (T.ys.getD i default),
       fmt4 (T.zs.getD i default), fmt4 (T.rs.getD i default), strInt (pidOut off (T.pids.getD i 0))] := by rfl

/-- `get_v` on every standard column, at a valid position -/
theorem get_v_spec (T : Tbl F) (n : Nat) (hr : Reads get T) (hn : T.Rect n) (i : Nat) (hi : i < n) (off : Int) :
    ∀ k ∈ cols7, to_swc_get_v fmt4 get off k (.int i) = some (off, cellText fmt4 off T i k) := by
  obtain ⟨r1, r2, r3, r4, r5, r6, r7⟩ := hr
  obtain ⟨n1, n2, n3, n4, n5, n6, n7⟩ := hn
  -- as an equation between two lists of seven cells; what is left of the name tests is between literals
  apply List.map_inj_left.1
  rw [show (fun k => some (off, cellText fmt4 off T i k)) = (fun s => some (off, s)) ∘ cellText fmt4 off T i from rfl, ← List.map_map,
    cellText_cols7]
  simp only [cols7, List.map_cons, List.map_nil,
    get_v_ints fmt4 get _ _ r1 i (n1 ▸ hi), get_v_ints fmt4 get _ _ r2 i (n2 ▸ hi), get_v_flts fmt4 get _ _ r3 i (n3 ▸ hi),
    get_v_flts fmt4 get _ _ r4 i (n4 ▸ hi), get_v_flts fmt4 get _ _ r5 i (n5 ▸ hi), get_v_flts fmt4 get _ _ r6 i (n6 ▸ hi),
    get_v_ints fmt4 get _ _ r7 i (n7 ▸ hi)]
  rfl

theorem for1_step (c : String) (v : to_swc.V F) :
    to_swc.for1 fmt4 get c v = .next { v with c := c, yielded_ := v.yielded_ ++ [commentLineG c] } := by
  simp only [to_swc.for1, commentLineG]
  cases strIsSpace c <;> rfl

/-- the comment loop: one line per comment, in order -/
theorem for1_loop (off : Int) (cs : List String) (v : to_swc.V F) (ho : v.id_offset = off) :
    ∃ v', forEach (to_swc.for1 fmt4 get) cs v = .next v' ∧ v'.id_offset = off ∧ v'.yielded_ = v.yielded_ ++ cs.map commentLineG :=
  forEach_collect _ (·.yielded_) commentLineG (fun v : to_swc.V F => v.id_offset = off) cs (fun c _ v ho => ⟨_, for1_step fmt4 get c v, ho, rfl⟩) v ho

/-- the inner loop `get_v(k, idx) for k in cols`: the texts of the cells, in column order -/
theorem for2_loop (txt : String → String) (off : Int) (cell : Cell F) : ∀ (ks : List String),
    (∀ k ∈ ks, to_swc_get_v fmt4 get off k cell = some (off, txt k)) →
    ∀ (v : to_swc.V F), v.id_offset = off → v.idx = cell →
    ∃ k', forEach (to_swc.for2 fmt4 get) ks v = .next { v with k := k', c1_ := v.c1_ ++ ks.map txt } := by
  intro ks
  induction ks with
  | nil => intro _ v _ _; exact ⟨v.k, by simp [forEach]⟩
  | cons k ks ih =>
    intro h v ho hc
    subst ho; subst hc
    obtain ⟨k', e⟩ := ih (fun k hk => h k (List.mem_cons_of_mem _ hk)) { v with k := k, c1_ := v.c1_ ++ [txt k] } rfl rfl
    exact ⟨k', by simp [forEach, to_swc.for2, Py.bind, h k List.mem_cons_self, e]⟩

/-- the row loop: one data line per id VALUE `j`, built from row `j` of every column -/
theorem for3_loop (T : Tbl F) (n : Nat) (hr : Reads get T) (hn : T.Rect n) (off : Int) (js : List Int) (hjs : ∀ j ∈ js, 0 ≤ j ∧ j < n)
    (v : to_swc.V F) (hv : v.id_offset = off ∧ v.cols = cols7) :
    ∃ v', forEach (to_swc.for3 fmt4 get) (js.map Cell.int) v = .next v' ∧ (v'.id_offset = off ∧ v'.cols = cols7) ∧
      v'.yielded_ = v.yielded_ ++ js.map (fun j => rowAt fmt4 off T j.toNat) := by
  rw [forEach_map]
  refine forEach_collect _ (·.yielded_) _ (fun v => v.id_offset = off ∧ v.cols = cols7) js (fun j hj v ⟨ho, hc⟩ => ?_) v hv
  obtain ⟨hj0, hjn⟩ := hjs j hj
  have hj : j = ((j.toNat : Nat) : Int) := by omega
  obtain ⟨k1, e1⟩ := for2_loop fmt4 get (cellText fmt4 off T j.toNat) off (.int j) v.cols
    (by rw [hc, hj]; exact get_v_spec fmt4 get T n hr hn j.toNat (by omega) off) { v with idx := .int j, c1_ := [] } ho rfl
  exact ⟨_, by simp only [to_swc.for3, Py.bindS, Py.seq, e1]; rfl, by exact ⟨ho, hc⟩, by rw [rowAt, ← hc]; rfl⟩

/-- **`io.to_swc` as translated yields exactly `linesG`**: every float type and formatting function, every table with equally long columns
whose id values are row positions (any order), every offset, comments absent (`none`) or given. -/
theorem to_swc_refines (T : Tbl F) (n : Nat) (hr : Reads get T) (hn : T.Rect n) (hids : ∀ j ∈ T.ids, 0 ≤ j ∧ j < n)
    (comments : Option (List String)) (off : Int) :
    to_swc fmt4 get comments off = some (linesG fmt4 off T (comments.getD []), ()) := by
  have rows := for3_loop fmt4 get T n hr hn off T.ids hids
  unfold to_swc to_swc.body
  simp only [Py.seq, hr.1, Col.cells]
  cases comments with
  | none =>
    obtain ⟨v', e, -, hy⟩ := rows
      { (default : to_swc.V F) with comments := none, id_offset := off, cols := cols7, yielded_ := [headerLineG] } ⟨rfl, rfl⟩
    simp only [Option.isSome_none, Bool.false_eq_true, if_false, Py.skip]
    erw [e] -- the state in the goal has `cols7` and `headerLineG` written out
    simp [Py.finish, hy, linesG]
  | some cs =>
    obtain ⟨v1, e1, o1, y1⟩ := for1_loop fmt4 get off cs { (default : to_swc.V F) with comments := some cs, id_offset := off } rfl
    obtain ⟨v', e, -, hy⟩ := rows { v1 with cols := cols7, yielded_ := v1.yielded_ ++ [headerLineG] } ⟨o1, rfl⟩
    simp only [Option.isSome_some, if_true, Py.bind, e1]
    erw [e]
    simp [Py.finish, hy, y1, linesG]
    rfl

/-- **`SWCLike.to_swc` as translated returns exactly `textG`** (same domain; every `source` argument - `False`, `True`, a string -, every
`source` attribute and comment list of the tree, both values of `comments`) -/
theorem swclike_to_swc_refines (T : Tbl F) (n : Nat) (hr : Reads get T) (hn : T.Rect n) (hids : ∀ j ∈ T.ids, 0 ≤ j ∧ j < n)
    (self : SWCLike) (source : BoolOrStr) (wc : Bool) (off : Int) :
    swclike_to_swc fmt4 get self source wc off = some (textG fmt4 off T self source wc) := by
  unfold swclike_to_swc swclike_to_swc.body
  simp only [Py.seq, Py.bind, Py.skip, to_swc_refines fmt4 get T n hr hn hids, Option.getD_some]
  rcases source with (_ | _) | s <;> cases wc <;>
    simp [BoolOrStr.isBool, BoolOrStr.isStr, BoolOrStr.format, Py.finish, textG, writtenG, sourceText, strTruthy]

/-! ## Part 2: the specification is the hand-written writer model -/

section Model
open SwcText

/-- the float payload of the hand-written model: sign bit and magnitude in units of 10⁻⁴ (what CPython's `.4f` rounds the value to);
"writer float", unrelated to the well-formedness predicates `C07.WF` / `Pipeline.WFr` -/
abbrev WF := Bool × Nat

/-- `f"{v:.4f}"` on that payload -/
def mfmt4 (p : WF) : String := String.ofList (SwcText.fmt4 p.1 p.2)

/-- the table of a row list -/
def tblOf (rows : List WRow) : Tbl WF :=
  ⟨rows.map (fun w => (w.id : Int)), rows.map (fun w => (w.type : Int)), rows.map (·.x), rows.map (·.y), rows.map (·.z), rows.map (·.r),
   rows.map (·.pid)⟩

/-- ids are the row positions (what a `Tree` guarantees) -/
def Positions (rows : List WRow) : Prop := ∀ k (h : k < rows.length), rows[k].id = k

theorem tblOf_rect (rows : List WRow) : (tblOf rows).Rect rows.length := by simp [Tbl.Rect, tblOf]

theorem tblOf_ids_range (rows : List WRow) (hp : Positions rows) : ∀ j ∈ (tblOf rows).ids, 0 ≤ j ∧ j < (rows.length : Int) := by
  intro j hj
  simp only [tblOf, List.mem_map] at hj
  obtain ⟨w, hw, rfl⟩ := hj
  obtain ⟨k, hk, rfl⟩ := List.getElem_of_mem hw
  rw [hp k hk]; omega

theorem isSpaceChar_eq : Py.isSpaceChar = SwcText.isWs := rfl

theorem strIsSpace_toList (s : String) : strIsSpace s = isSpaceStr s.toList := rfl

theorem dropWhile_isWs (l : Str) : l.dropWhile isWs = dropWs l := by
  induction l with
  | nil => rfl
  | cons c cs ih => by_cases h : isWs c = true <;> simp [List.dropWhile, dropWs, h, ih]

theorem strLstrip_toList (s : String) : (strLstrip s).toList = dropWs s.toList := by
  simp [strLstrip, isSpaceChar_eq, dropWhile_isWs]

theorem commentLineG_toList (c : String) : (commentLineG c).toList = commentLine c.toList := by
  unfold commentLineG commentLine
  rw [strIsSpace_toList]
  split <;> simp [String.toList_append, strLstrip_toList]

theorem headerLineG_toList : headerLineG.toList = headerLine := by decide +kernel

theorem digitChar_eq : ∀ n, n < 10 → Nat.digitChar n = SwcText.digitChar n := by decide

theorem toDigits_eq_digits (n : Nat) : Nat.toDigits 10 n = digits n := by
  induction n using Nat.strongRecOn with
  | _ n ih =>
    rw [digits]
    by_cases h : n < 10
    · rw [dif_pos h, Nat.toDigits_of_lt_base h, digitChar_eq n h]
    · rw [dif_neg h, Nat.toDigits_of_base_le (by omega) (by omega), ih (n / 10) (by omega), digitChar_eq _ (Nat.mod_lt _ (by omega))]

theorem strInt_toList (i : Int) : (strInt i).toList = showInt i := by
  show i.repr.toList = _
  rw [Int.repr_eq_if, showInt]
  by_cases h : 0 ≤ i
  · simp [h, Int.not_lt.2 h, Nat.toList_repr, toDigits_eq_digits]
  · simp [h, Int.not_le.1 h, Nat.toList_repr, toDigits_eq_digits, String.toList_append]

theorem showInt_nat (n : Nat) : showInt (n : Int) = digits n := by
  rw [showInt, if_neg (Int.not_lt.2 (Int.natCast_nonneg n)), Int.toNat_natCast]

theorem strJoin_empty_toList (l : List String) : (strJoin "" l).toList = (l.map String.toList).flatten := by
  induction l with
  | nil => simp [strJoin]
  | cons a l ih =>
    cases l with
    | nil => simp [strJoin]
    | cons b l => simp only [strJoin, String.toList_append] at ih ⊢; simp [ih]

/-- the data line built from table position `k` is the model's line of row `k` -/
theorem rowAt_toList (rows : List WRow) (off : Nat) (k : Nat) (h : k < rows.length) :
    (rowAt mfmt4 (off : Int) (tblOf rows) k).toList = formatRow off rows[k] := by
  have hp : pidOut off rows[k].pid = if rows[k].pid = -1 then -1 else rows[k].pid + off := by
    unfold pidOut; by_cases hp : rows[k].pid = -1 <;> simp [hp]
  rw [rowAt, cellText_cols7]
  simp only [tblOf, getD_map _ rows default _ h, getD_eq_getElem rows default h, hp, strJoin, String.toList_append, mfmt4, String.toList_ofList, formatRow, strInt_toList,
    ← Int.natCast_add, showInt_nat]
  simp

/-- the lines of the specification are the model's lines -/
theorem linesG_toList (rows : List WRow) (hp : Positions rows) (off : Nat) (comments : List String) :
    (linesG mfmt4 (off : Int) (tblOf rows) comments).map String.toList = writeLines off (comments.map String.toList) rows := by
  simp only [linesG, writeLines, List.map_append, List.map_cons, List.map_map, headerLineG_toList]
  congr 1
  · exact List.map_congr_left fun c _ => commentLineG_toList c
  · congr 1
    rw [tblOf, List.map_map]
    refine List.map_congr_left fun w hw => ?_
    obtain ⟨k, hk, rfl⟩ := List.getElem_of_mem hw
    simp only [Function.comp, hp k hk, Int.toNat_natCast]
    exact rowAt_toList rows off k hk

variable (get : String → Py.Col WF)

/-- **the generated `io.to_swc` yields the lines of `SwcText.writeLines`**, character for character: every row list whose ids are the row
positions, every offset `≥ 0`, comments absent or any list -/
theorem to_swc_eq_writeLines (rows : List WRow) (hr : Reads get (tblOf rows)) (hp : Positions rows) (comments : Option (List String)) (off : Nat) :
    (to_swc mfmt4 get comments (off : Int)).map (fun r => r.1.map String.toList)
      = some (writeLines off ((comments.getD []).map String.toList) rows) := by
  rw [to_swc_refines mfmt4 get (tblOf rows) rows.length hr (tblOf_rect rows) (tblOf_ids_range rows hp)]
  simp [linesG_toList rows hp]

/-- the `source` argument of the model: the header text, if one is written -/
def sourceStr (self : SWCLike) (source : BoolOrStr) : Option Str := (sourceText self source).map String.toList

/-- **the generated `SWCLike.to_swc` returns the text of `SwcText.writeSwc`** (the concatenation of its lines): same domain, every
`source` argument and attribute, both values of `comments` -/
theorem swclike_to_swc_eq_writeSwc (rows : List WRow) (hr : Reads get (tblOf rows)) (hp : Positions rows)
    (self : SWCLike) (source : BoolOrStr) (wc : Bool) (off : Nat) :
    (swclike_to_swc mfmt4 get self source wc (off : Int)).map String.toList
      = some (writeSwc off (sourceStr self source) wc (self.comments.map String.toList) rows).flatten := by
  rw [swclike_to_swc_refines mfmt4 get (tblOf rows) rows.length hr (tblOf_rect rows) (tblOf_ids_range rows hp)]
  simp only [Option.map_some, textG, strJoin_empty_toList, linesG_toList rows hp, Option.some.injEq]
  congr 2
  unfold writtenG sourceStr
  cases sourceText self source <;> cases wc <;> simp [String.toList_append]

end Model

end RefineWriter
