import SwcVerif.Gen.AlgoRedirect
import SwcVerif.Refine.PyLemmas
import SwcVerif.Refine.PyRun
import SwcVerif.Refine.Sort
import SwcVerif.Refine.Node
import SwcVerif.Model.Redirect
import SwcVerif.Proofs.Redirect
/-! Refinement for C07: the definitions GENERATED from `swcgeom/core/tree_utils.py::redirect_tree` / `_sort_tree` and
`swcgeom/core/tree.py::Tree.Node.parent` (node handles are row indices, the copied tree is its columns `ids`, `pids`, `types`)
equal the hand-written model `Redir.redirect` / `Redir.redirectSorted` on every tree object (ids = positions) whose root walk from
the requested node ends at a parentless node. -/
namespace RefineRedirect
open Gen.Algo Redir Py SortM

variable {α : Type}

theorem setIdx_nonneg (l : List α) (k : Int) (x : α) (h0 : 0 ≤ k) (h1 : k < l.length) :
    setIdx l k x = some (setAt l k x) := by
  rw [setIdx_inrange l k x ⟨h0, by omega⟩, setAt, if_neg (by omega)]

/-- `Tree.Node.parent` as translated: the entry of the parent column, `None` for −1 -/
theorem node_parent_spec (pids : List Int) (k : Int) (h0 : 0 ≤ k) (h1 : k < pids.length) :
    node_parent pids k =
      some (if pids.getD k.toNat (-1) = -1 then none else some (pids.getD k.toNat (-1))) := by
  rw [RefineNode.node_parent_eq, idx_inrange pids k (-1) ⟨h0, by omega⟩]; rfl

/-! ### the walk to the root -/

/-- one pass of `while (p := path[-1].parent()) is not None: path.append(p)` from a path that ends at the node `k` -/
theorem while_step (k : Int) (pre : List Int) (v : redirect_tree.V) (hpath : v.path = pre ++ [k])
    (hk : 0 ≤ k ∧ k < v.pids.length) (f : Nat) :
    whileF redirect_tree.while1_cond redirect_tree.while1_body (f + 1) v =
      if v.pids.getD k.toNat (-1) = -1 then .next { v with p := none }
      else whileF redirect_tree.while1_cond redirect_tree.while1_body f
        { v with p := some (v.pids.getD k.toNat (-1)), path := v.path ++ [v.pids.getD k.toNat (-1)] } := by
  have e1 : idx v.path (-1) = some k := by rw [hpath, idx_last, List.getLast?_concat]
  have e2 := node_parent_spec v.pids k hk.1 hk.2
  split
  · next hz =>
    rw [if_pos hz] at e2
    exact whileF_brk _ _ f v _ rfl (by simp only [redirect_tree.while1_body, seq, Py.bind, e1, e2]; rfl)
  · next hz =>
    rw [if_neg hz] at e2
    exact whileF_next _ _ f v _ rfl (by simp only [redirect_tree.while1_body, seq, Py.bind, e1, e2]; rfl)

/-- the `while (p := path[-1].parent()) is not None: path.append(p)` loop computes the model's `rootPath` -/
theorem while_path : ∀ (f : Nat) (k : Int) (pre : List Int) (v : redirect_tree.V),
    v.path = pre ++ [k] →
    (∀ w ∈ rootPath v.pids f k, 0 ≤ w ∧ w < v.pids.length) →
    (∀ z, (rootPath v.pids f k).getLast? = some z → v.pids.getD z.toNat (-1) = -1) →
    ∀ F, whileF redirect_tree.while1_cond redirect_tree.while1_body (f + 1 + F) v =
      .next { v with path := pre ++ rootPath v.pids f k, p := none } := by
  intro f
  induction f with
  | zero =>
    intro k pre v hpath hval hlast F
    rw [Nat.add_right_comm, while_step k pre v hpath (hval k (by simp [rp_zero])) _, if_pos (hlast k (by simp [rp_zero])), rp_zero,
      ← hpath]
  | succ f ih =>
    intro k pre v hpath hval hlast F
    rw [Nat.add_right_comm, while_step k pre v hpath (hval k (by rw [rp_succ]; split <;> simp)) _, rp_succ]
    split
    · rw [← hpath]
    · next hz =>
      rw [rp_succ, if_neg hz] at hval hlast
      refine Eq.trans (ih (v.pids.getD k.toNat (-1)) (pre ++ [k]) _ ?_ ?_ ?_ F) ?_
      · simp [hpath]
      · exact fun w hw => hval w (List.mem_cons_of_mem _ hw)
      · exact fun z hzz => hlast z (by rw [List.getLast?_cons_of_ne_nil (rp_ne_nil _ _ _)]; exact hzz)
      · simp

/-! ### reversing the parent pointers along the path -/

theorem dropEnd_cons_cons (a b : α) (l : List α) : dropEnd (a :: b :: l) 1 = a :: dropEnd (b :: l) 1 := by
  simp [dropEnd, List.take_succ_cons]

theorem ids_idx (n : Nat) (c : Int) (h0 : 0 ≤ c) (h1 : c < n) :
    idx ((List.range n).map (fun (k : Nat) => (k : Int))) c = some c := by
  obtain ⟨k, rfl⟩ := Int.eq_ofNat_of_zero_le h0
  have hk : k < n := Int.ofNat_lt.1 h1
  rw [idx_nat _ _ (by rw [List.length_map, List.length_range]; exact hk), List.getElem?_map, List.getElem?_range hk]
  rfl

/-- `for n, p in zip(path[1:], path[:-1]): n.pid = p.id` is the model's `reversePath` -/
theorem for2_loop (n : Nat) : ∀ (l : List Int) (v : redirect_tree.V),
    v.ids = (List.range n).map (fun (k : Nat) => (k : Int)) → v.pids.length = n →
    (∀ w ∈ l, 0 ≤ w ∧ w < (n : Int)) →
    ∃ n' p', forEach redirect_tree.for2 (Py.zip (l.drop 1) (dropEnd l 1)) v =
      .next { v with pids := reversePath v.pids l, n := n', p := p' } := by
  intro l
  induction l with
  | nil => intro v _ _ _; exact ⟨v.n, v.p, by simp [Py.zip, forEach, reversePath_nil]⟩
  | cons c rest ih =>
    cases rest with
    | nil => intro v _ _ _; exact ⟨v.n, v.p, by simp [Py.zip, forEach, reversePath_single]⟩
    | cons p rest =>
      intro v hids hlen hval
      have hc := hval c (by simp)
      have hpv := hval p (by simp)
      have e1 : idx v.ids c = some c := by rw [hids]; exact ids_idx n c hc.1 hc.2
      have e2 : setIdx v.pids p c = some (setAt v.pids p c) := setIdx_nonneg _ _ _ hpv.1 (by rw [hlen]; exact hpv.2)
      obtain ⟨n', p', e⟩ := ih { v with n := p, p := some c, pids := setAt v.pids p c } hids
        (by simp [setAt_length, hlen]) (fun w hw => hval w (List.mem_cons_of_mem _ hw))
      refine ⟨n', p', ?_⟩
      rw [dropEnd_cons_cons]
      simp only [List.drop_succ_cons, List.drop_zero, Py.zip, List.zip_cons_cons, forEach, redirect_tree.for2, Py.bind, e1, e2]
      simp only [Py.zip, List.drop_succ_cons, List.drop_zero] at e
      rw [e, reversePath_cons_cons]

/-! ### `_sort_tree` -/

theorem take_of_lt (l : List Int) : ∀ (is : List Nat), (∀ k ∈ is, k < l.length) →
    Py.take l (is.map (fun (k : Nat) => (k : Int))) = some (permute l is) := by
  intro is h
  rw [take_inrange l 0 _ (by simpa using h), List.map_map]
  rfl

/-- the row indices returned by the model are rows -/
theorem indices_lt (ids pids : List Int) (r : Result) (h : sortNodesImpl ids pids = .ok r) : ∀ k ∈ r.indices, k < ids.length := by
  obtain ⟨root, fin, -, hroot, hfin, -, -, rfl⟩ := sortNodesImpl_ok h
  intro k hk
  obtain ⟨op, hop, rfl⟩ := List.mem_map.1 hk
  have hm := RefineSort.mem_ids ids pids (ids.length + 1) ⟨[(root, -1)], []⟩
    (by intro x hx; simp at hx; subst hx; exact RefineSort.firstRoot_mem ids pids root hroot) (by simp) op (by rw [hfin]; exact hop)
  exact List.idxOf_lt_length_of_mem hm

/-- **`_sort_tree` as translated**: whenever the model's renumbering succeeds on a table with distinct ids, every column is
gathered by the row permutation and the two topology columns are replaced by `arange(n)` / the new parents -/
theorem sortTree_refines (ids pids types : List Int) (hnd : ids.Nodup) (hlp : pids.length = ids.length) (hlt : types.length = ids.length)
    (r : Result) (h : sortNodesImpl ids pids = .ok r) (F : Nat) :
    sort_tree_ (ids.length + 1 + F) ids pids types =
      some (range (ids.length : Int), r.newPids, permute types r.indices, ()) := by
  have hs := RefineSort.sort_refines ids pids hnd r h F
  have hlt' := indices_lt ids pids r h
  have t1 := take_of_lt ids r.indices hlt'
  have t2 := take_of_lt pids r.indices (by rw [hlp]; exact hlt')
  have t3 := take_of_lt types r.indices (by rw [hlt]; exact hlt')
  simp only [sort_tree_, sort_tree_.body, seq, Py.bind, hs, t1, t2, t3, finish]
  simp

/-! ### the whole function -/

/-- the translated `redirect_tree` on every tree object (ids = positions) and node `k` whose walk to the root stays inside the
table and ends at a parentless node: the columns are rewritten as the model `Redir.redirect` says; with `sort` the translated
`_sort_tree` is then applied to exactly those columns -/
theorem redirect_core (pids types : List Int) (k : Int) (b : Bool) (hlt : types.length = pids.length)
    (hval : ∀ w ∈ rootPath pids pids.length k, 0 ≤ w ∧ w < pids.length)
    (hlast : ∀ z, (rootPath pids pids.length k).getLast? = some z → pids.getD z.toNat (-1) = -1) (F : Nat) :
    redirect_tree (pids.length + 1 + F) ((List.range pids.length).map (fun (j : Nat) => (j : Int))) pids types k b =
      if b then
        (sort_tree_ (pids.length + 1 + F) ((List.range pids.length).map (fun (j : Nat) => (j : Int)))
          (redirect pids types k).pids (redirect pids types k).types).map (fun t => (t.1, t.2.1, t.2.2.1, ()))
      else some ((List.range pids.length).map (fun (j : Nat) => (j : Int)), (redirect pids types k).pids, (redirect pids types k).types, ()) := by
  obtain ⟨z, hz⟩ : ∃ z, (rootPath pids pids.length k).getLast? = some z :=
    ⟨_, List.getLast?_eq_some_getLast (rp_ne_nil _ _ _)⟩
  have hw := while_path pids.length k []
    { (default : redirect_tree.V) with ids := (List.range pids.length).map (fun (j : Nat) => (j : Int)), pids := pids, types := types, new_root := k, sort := b, path := [k] } rfl hval hlast F
  dsimp only at hw
  have i0 := (idx_head _).trans (rp_head pids pids.length k)
  rw [redirect_of_last pids types k z hz]
  generalize rootPath pids pids.length k = P at hval hz hw i0 ⊢
  have i1 : idx P (-1) = some z := by rw [idx_last, hz]
  have hk := hval k (List.mem_of_mem_head? ((idx_head P).symm.trans i0))
  have hzv := hval z (List.mem_of_getLast? hz)
  have s1 : setIdx pids k (-1) = some (setAt pids k (-1)) := setIdx_nonneg _ _ _ hk.1 hk.2
  have tz := idx_inrange types z 0 ⟨hzv.1, by omega⟩
  have tk := idx_inrange types k 0 ⟨hk.1, by omega⟩
  have s2 : setIdx types k (types.getD z.toNat 0) = some (setAt types k (types.getD z.toNat 0)) :=
    setIdx_nonneg _ _ _ hk.1 (by rw [hlt]; exact hk.2)
  have s3 : setIdx (setAt types k (types.getD z.toNat 0)) z (types.getD k.toNat 0) =
      some (setAt (setAt types k (types.getD z.toNat 0)) z (types.getD k.toNat 0)) :=
    setIdx_nonneg _ _ _ hzv.1 (by rw [setAt_length, hlt]; exact hzv.2)
  obtain ⟨n', p', hf⟩ := for2_loop pids.length P
    { (default : redirect_tree.V) with ids := (List.range pids.length).map (fun (j : Nat) => (j : Int)), pids := setAt pids k (-1), types := setAt (setAt types k (types.getD z.toNat 0)) z (types.getD k.toNat 0), new_root := k, sort := b, path := P, p := none, u10_ := types.getD z.toNat 0, u11_ := types.getD k.toNat 0 }
    rfl (by simp [setAt_length]) hval
  simp only [List.nil_append] at hw
  dsimp only at hf
  simp -implicitDefEqProofs only [redirect_tree, redirect_tree.body, seq_eq_bindS, bindS_next, hw, bind_some, i0, i1, s1, tz, tk, s2,
    s3, hf]
  cases b with
  | false => rfl
  | true =>
    simp only [if_true]
    generalize sort_tree_ _ _ _ _ = o
    cases o <;> rfl

/-- **`redirect_tree(tree, new_root, sort=False)` as translated IS the model**: the parent and type columns of the returned tree
are `Redir.redirect`'s, the id column is untouched, nothing raises. -/
theorem redirect_nosort (pids types : List Int) (k : Int) (hlt : types.length = pids.length)
    (hval : ∀ w ∈ rootPath pids pids.length k, 0 ≤ w ∧ w < pids.length)
    (hlast : ∀ z, (rootPath pids pids.length k).getLast? = some z → pids.getD z.toNat (-1) = -1) (F : Nat) :
    redirect_tree (pids.length + 1 + F) ((List.range pids.length).map (fun (j : Nat) => (j : Int))) pids types k false =
      some ((List.range pids.length).map (fun (j : Nat) => (j : Int)), (redirect pids types k).pids, (redirect pids types k).types, ()) := by
  rw [redirect_core pids types k false hlt hval hlast F]; rfl

/-- **`redirect_tree(tree, new_root, sort=True)` as translated IS the model** whenever the model's final renumbering succeeds
(it does on every well-formed tree, `Pipeline.wfr_sorted`): ids `arange(n)`, the new parents, and the type column (already
exchanged between old and new root) carried along by the row permutation -/
theorem redirect_sort (pids types : List Int) (k : Int) (hlt : types.length = pids.length)
    (hval : ∀ w ∈ rootPath pids pids.length k, 0 ≤ w ∧ w < pids.length)
    (hlast : ∀ z, (rootPath pids pids.length k).getLast? = some z → pids.getD z.toNat (-1) = -1)
    (r : Result) (h : sortNodesImpl ((List.range pids.length).map (fun (j : Nat) => (j : Int))) (redirect pids types k).pids = .ok r) (F : Nat) :
    redirect_tree (pids.length + 1 + F) ((List.range pids.length).map (fun (j : Nat) => (j : Int))) pids types k true =
      some (range (pids.length : Int), r.newPids, permute (redirect pids types k).types r.indices, ()) := by
  rw [redirect_core pids types k true hlt hval hlast F, if_pos rfl]
  have := sortTree_refines ((List.range pids.length).map (fun (j : Nat) => (j : Int))) (redirect pids types k).pids
    (redirect pids types k).types (range_nodup _) (by simp [(redirect_lengths pids types k).1])
    (by simp [(redirect_lengths pids types k).2, hlt]) r h F
  simp only [List.length_map, List.length_range] at this
  rw [this]
  simp

end RefineRedirect
