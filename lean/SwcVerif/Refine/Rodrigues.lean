import SwcVerif.Gen.AlgoRodrigues
import SwcVerif.Refine.Affine
/-! # Refinement: the GENERATED `rotate3d` (Rodrigues), `_to_homogeneous`, `model_view_transformation`,
`orthographic_projection_simple` (`Gen/AlgoRodrigues.lean`, translated from `swcgeom/utils/transforms.py` on every run) -/
namespace RefineRodrigues
open Gen.Algo Gen.Mat Gen.Affine RefineAffine

variable {K : Type} [Field K] [LinearOrder K] [Inhabited K]

theorem slice3 (nx ny nz : K) (rest : List K) :
    Py.slice (nx :: ny :: nz :: rest) (some (0 : Int)) (some (3 : Int)) = [nx, ny, nz] := by
  simp [Py.slice, Py.sliceBound]

theorem identity4 : Py.identity (K := K) (4 : Int) = some [[1, 0, 0, 0], [0, 1, 0, 0], [0, 0, 1, 0], [0, 0, 0, 1]] := rfl

theorem identity3 : Py.identity (K := K) (3 : Int) = some [[1, 0, 0], [0, 1, 0], [0, 0, 1]] := rfl

/-- **the generated `rotate3d` is the Rodrigues matrix of `Gen/Matrices.lean`** for every axis array with at least three entries
(the source reads `n[0:3]`; further entries are ignored), every `c`, `s` -/
theorem rotate3d_refines (nx ny nz c s : K) (rest : List K) :
    rd_rotate3d (nx :: ny :: nz :: rest) c s = some (rotate3d nx ny nz c s) := by
  rw [rotate3d_eq_aff]
  simp only [rd_rotate3d, rd_rotate3d.body, Py.seq, Py.bind, Py.finish, slice3, identity4, identity3, Option.map, fneg_eq]
  -- the array arithmetic and the block store evaluate by unfolding; entry `(i, j)` comes out as `c·δ + ((1 - c)·nⱼ)·nᵢ + s·Nᵢⱼ`
  show some [[_, _, _, _], [_, _, _, _], [_, _, _, _], [_, _, _, _]] = _
  simp only [aff, mul_one, mul_zero, zero_add, mul_assoc, mul_comm ny nx, mul_comm nz nx, mul_comm nz ny]

/-- an axis array with fewer than three entries: the unpacking `nx, ny, nz = n` raises -/
theorem rotate3d_short (n : List K) (c s : K) (h : n.length < 3) : rd_rotate3d n c s = none := by
  match n, h with
  | [], _ | [_], _ | [_, _], _ => simp [rd_rotate3d, rd_rotate3d.body, Py.seq, Py.finish, Py.slice, Py.sliceBound]

/-! ### `orthographic_projection_simple`, `_to_homogeneous` -/

theorem ortho_simple_refines :
    rd_ortho_simple (K := K) = some [[1, 0, 0, 0], [0, 1, 0, 0], [0, 0, 0, 0], [0, 0, 0, 0]] := rfl

theorem zipWith_append_replicate (rows : List (List K)) (w : K) :
    List.zipWith (· ++ ·) rows (List.replicate rows.length [w]) = rows.map (· ++ [w]) := by
  induction rows with
  | nil => rfl
  | cons r rs ih => simp [List.replicate_succ, ih]

/-- `_to_homogeneous` on an `(N, 3)` array, `N ≥ 1` (the column count is read from the first row): `w` is appended to every row —
`w = 1` for points, `w = 0` for vectors.  Any number of rows. -/
theorem to_homogeneous2_fill (r : List K) (rows : List (List K)) (w : K) (h : r.length = 3) :
    rd_to_homogeneous2 (r :: rows) w = some ((r :: rows).map (· ++ [w])) := by
  have := zipWith_append_replicate (r :: rows) w
  simp only [List.length_cons] at this
  have hn : ¬ ((rows.length : Int) + 1 < 0) := by omega
  simp [rd_to_homogeneous2, rd_to_homogeneous2.body, Py.seq, Py.bind, Py.finish, Py.ncols, Py.skip, h, Py.full2, Py.concatCols, hn]
  simpa using this

/-- an array that is already homogeneous (first row has 4 entries) is returned as it is -/
theorem to_homogeneous2_pass (r : List K) (rows : List (List K)) (w : K) (h : r.length = 4) :
    rd_to_homogeneous2 (r :: rows) w = some (r :: rows) := by
  simp [rd_to_homogeneous2, rd_to_homogeneous2.body, Py.seq, Py.bind, Py.finish, Py.ncols, h]

/-- any other column count: the `assert` fails; an array without rows has no column count here -/
theorem to_homogeneous2_error (xyz : List (List K)) (w : K) (h : ∀ r rows, xyz = r :: rows → r.length ≠ 3 ∧ r.length ≠ 4) :
    rd_to_homogeneous2 xyz w = none := by
  match xyz, h with
  | [], _ => simp [rd_to_homogeneous2, rd_to_homogeneous2.body, Py.seq, Py.bind, Py.finish, Py.ncols]
  | r :: rows, h =>
    obtain ⟨h3, h4⟩ := h r rows rfl
    have h3' : ¬ ((r.length : Int) = 3) := by exact_mod_cast h3
    have h4' : ¬ ((r.length : Int) = 4) := by exact_mod_cast h4
    simp [rd_to_homogeneous2, rd_to_homogeneous2.body, Py.seq, Py.bind, Py.finish, Py.ncols, Py.skip, h3', h4']

/-! ### `model_view_transformation` -/

/-- the rotation block the source builds from the normalised look-at `g` and up `t`: rows `g × t`, `t`, `−g` -/
def viewRot (g t : Pt K) : List (List K) :=
  [[g.2.1 * t.2.2 - g.2.2 * t.2.1, g.2.2 * t.1 - g.1 * t.2.2, g.1 * t.2.1 - g.2.1 * t.1, 0],
   [t.1, t.2.1, t.2.2, 0], [-g.1, -g.2.1, -g.2.2, 0], [0, 0, 0, 1]]

theorem divS3 (F : Py.Fld K) (hF : ∀ a b : K, F.div a b = a / b) (x y z r : K) (hr : r ≠ 0) :
    Py.divS [x, y, z] r = some [x / r, y / r, z / r] := by
  have : r < 0 ∨ 0 < r := lt_or_gt_of_ne hr
  simp [Py.divS, Py.mapOpt, Py.fdiv, this, hF]

/-- **the generated `model_view_transformation`** on three 3-vectors, `ng`, `nt` (the two `np.linalg.norm` values) non-zero:
the product `viewRot(g/ng, t/nt) · translate3d(−e)` -/
theorem model_view_refines (F : Py.Fld K) (hF : ∀ a b : K, F.div a b = a / b) (ex ey ez gx gy gz ux uy uz ng nt : K)
    (hg : ng ≠ 0) (ht : nt ≠ 0) :
    rd_model_view F [ex, ey, ez] [gx, gy, gz] [ux, uy, uz] ng nt
      = some (mmul (viewRot (gx / ng, gy / ng, gz / ng) (ux / nt, uy / nt, uz / nt)) (translate3d (-ex) (-ey) (-ez))) := by
  simp only [rd_model_view, rd_model_view.body, Py.seq, Py.bind, Py.finish, divS3 F hF _ _ _ _ hg, divS3 F hF _ _ _ _ ht, Py.smul1,
    List.map_cons, List.map_nil, fneg_eq, neg_one_mul]
  rfl

end RefineRodrigues
