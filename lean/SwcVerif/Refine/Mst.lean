import SwcVerif.Gen.AlgoMst
import SwcVerif.Model.Mst
import SwcVerif.Proofs.Mst
import SwcVerif.Refine.PyArrays
/-! Refinement for C17: the definition GENERATED from the greedy loop of `swcgeom/transforms/mst.py::PointsToCuntzMST.__call__`
(`Gen.Algo.mst_loop`, run at `K = Rat`) equals the hand-written model `Mst.run … (Mst.init n)` — parents, path lengths, child counts,
connected flags and the mask — for every `n > 0`, every `n × n` distance matrix, every `bf`, `furcations`, `exclude_soma`; for `n ≤ 0` it
raises (as the source does: `conn[0] = True` on an empty array). -/
namespace RefineMst
open Py Gen.Algo Mst

/-! ## the masked `argmin` of the library is the model's first-minimum fold -/

/-- the model's fold state `(cost, i, j)` as the library scan's state `(cost, flat index)` over an array with rows of length `n` -/
def flat (n : Nat) (b : Option (Rat × Nat × Nat)) : Option (Rat × Nat) := b.map fun p => (p.1, p.2.1 * n + p.2.2)

theorem flat_pick (masked : Nat → Nat → Bool) (cost : Nat → Nat → Rat) (n i j : Nat) (b : Option (Rat × Nat × Nat)) :
    flat n (pick masked cost b (i, j)) = argminStep (flat n b) (cost i j, masked i j) (i * n + j) := by
  unfold pick argminStep
  cases masked i j
  · rcases b with _ | ⟨c, i0, j0⟩
    · rfl
    · exact apply_ite (flat n) (cost i j < c) _ _
  · rfl

theorem row_scan (masked : Nat → Nat → Bool) (cost : Nat → Nat → Rat) (n i : Nat) :
    ∀ (len j0 : Nat) (b : Option (Rat × Nat × Nat)),
      flat n (((List.range' j0 len).map fun j => (i, j)).foldl (pick masked cost) b) =
        argminFrom ((List.range' j0 len).map fun j => (cost i j, masked i j)) (i * n + j0) (flat n b) := by
  intro len
  induction len with
  | zero => intro j0 b; rfl
  | succ len ih =>
    intro j0 b
    have := ih (j0 + 1) (pick masked cost b (i, j0))
    rwa [flat_pick] at this

theorem rows_scan (masked : Nat → Nat → Bool) (cost : Nat → Nat → Rat) (n : Nat) :
    ∀ (len i0 : Nat) (b : Option (Rat × Nat × Nat)),
      flat n (((List.range' i0 len).flatMap fun i => (List.range n).map fun j => (i, j)).foldl (pick masked cost) b) =
        argminFrom ((List.range' i0 len).map fun i => (List.range n).map fun j => (cost i j, masked i j)).flatten
          (i0 * n) (flat n b) := by
  intro len
  induction len with
  | zero => intro i0 b; rfl
  | succ len ih =>
    intro i0 b
    have h1 := row_scan masked cost n i0 n 0 b
    rw [← List.range_eq_range', Nat.add_zero] at h1
    rw [List.range'_succ, List.flatMap_cons, List.foldl_append, List.map_cons, List.flatten_cons, argminFrom_append,
      List.length_map, List.length_range, ih, h1, Nat.succ_mul]

def Shape (n : Nat) (s : St) : Prop :=
  s.pid.length = n ∧ s.acc.length = n ∧ s.furc.length = n ∧ s.conn.length = n ∧ Square n s.mask

/-- an `n × n` matrix of numbers -/
def SquareQ (n : Nat) (dis : List (List Rat)) : Prop := dis.length = n ∧ ∀ r ∈ dis, r.length = n

/-- `dis + bf * acc[:, None]` -/
def costM (dis : List (List Rat)) (bf : Rat) (acc : List Rat) : List (List Rat) :=
  List.zipWith (fun row x => row.map (fun y => y + x)) dis (acc.map (fun x => bf * x))

theorem getD_row_length {α} {n : Nat} {m : List (List α)} (hm : m.length = n ∧ ∀ r ∈ m, r.length = n) (t : Nat) (ht : t < n) :
    (m.getD t []).length = n := hm.2 _ (getD_mem m t [] (hm.1 ▸ ht))

theorem costM_lengths (dis : List (List Rat)) (bf : Rat) (acc : List Rat) (n : Nat) (hd : SquareQ n dis) (ha : acc.length = n) :
    (costM dis bf acc).length = n ∧ ∀ r ∈ costM dis bf acc, r.length = n := by
  constructor
  · rw [costM, List.length_zipWith, List.length_map, hd.1, ha, Nat.min_self]
  · intro r hr
    obtain ⟨t, ht, rfl⟩ := List.mem_iff_getElem.mp hr
    simp only [costM, List.getElem_zipWith, List.length_map]
    exact hd.2 _ (List.getElem_mem _)

theorem lengths_eq_replicate {α} {n : Nat} {m : List (List α)} (hm : m.length = n ∧ ∀ r ∈ m, r.length = n) :
    m.map List.length = List.replicate n n := by
  rw [List.eq_replicate_iff]
  refine ⟨by rw [List.length_map, hm.1], ?_⟩
  intro x hx
  obtain ⟨r, hr, rfl⟩ := List.mem_map.mp hx
  exact hm.2 r hr

theorem cells_eq (dis : List (List Rat)) (bf : Rat) (s : St) (n : Nat) (hd : SquareQ n dis) (hs : Shape n s) :
    List.zipWith List.zip (costM dis bf s.acc) s.mask =
      (List.range n).map fun i => (List.range n).map fun j => (cellCost dis bf s i j, smask s i j) := by
  obtain ⟨_, hacc, _, _, hm, hmr⟩ := hs
  have hc := costM_lengths dis bf s.acc n hd hacc
  apply List.ext_getElem
  · rw [List.length_zipWith, hc.1, hm, Nat.min_self, List.length_map, List.length_range]
  intro i h1 h2
  rw [List.length_map, List.length_range] at h2
  have hdi : i < dis.length := hd.1 ▸ h2
  have hai : i < s.acc.length := hacc ▸ h2
  have hmi : i < s.mask.length := hm ▸ h2
  have hdl : dis[i].length = n := hd.2 _ (List.getElem_mem hdi)
  have hml : s.mask[i].length = n := hmr _ (List.getElem_mem hmi)
  rw [List.getElem_zipWith, List.getElem_map, List.getElem_range]
  apply List.ext_getElem
  · rw [List.length_zip, hc.2 _ (List.getElem_mem _), hml, Nat.min_self, List.length_map, List.length_range]
  intro j h3 h4
  rw [List.length_map, List.length_range] at h4
  rw [List.getElem_zip, List.getElem_map, List.getElem_range]
  simp only [costM, cellCost, smask, List.getElem_zipWith, List.getElem_map, getD_eq_getElem _ _ hdi,
    getD_eq_getElem _ _ hai, getD_eq_getElem _ _ hmi, getD_eq_getElem dis[i] 0 (hdl ▸ h4),
    getD_eq_getElem s.mask[i] true (hml ▸ h4)]

/-- the library's masked `argmin` on the cost matrix the loop builds is the model's `argmin` (as a flat index) -/
theorem maArgmin_eq (dis : List (List Rat)) (bf : Rat) (s : St) (n : Nat) (hn : 0 < n) (hd : SquareQ n dis) (hs : Shape n s) :
    Py.maArgmin (K := Rat) (costM dis bf s.acc, s.mask) =
      some (((argmin dis bf s n).1 * n + (argmin dis bf s n).2 : Nat) : Int) ∧
    (argmin dis bf s n).1 < n ∧ (argmin dis bf s n).2 < n := by
  have hscan : flat n ((cells n).foldl (pick (smask s) (cellCost dis bf s)) none) =
      argminFrom (Py.maCells (costM dis bf s.acc, s.mask)) 0 none := by
    have := rows_scan (smask s) (cellCost dis bf s) n n 0 none
    rwa [← List.range_eq_range', Nat.zero_mul, ← cells_eq dis bf s n hd hs] at this
  have hne : (Py.maCells (costM dis bf s.acc, s.mask)).isEmpty = false := by
    obtain ⟨m, rfl⟩ : ∃ m, n = m + 1 := ⟨n - 1, by omega⟩
    simp [Py.maCells, cells_eq dis bf s _ hd hs, List.range_succ_eq_map]
  obtain ⟨h1, h2, _⟩ := firstMin_spec (smask s) (cellCost dis bf s) n hn
  refine ⟨?_, h1, h2⟩
  rw [argmin_eq, Py.maArgmin, hne, if_neg Bool.false_ne_true, ← hscan, firstMin]
  cases (cells n).foldl (pick (smask s) (cellCost dis bf s)) none with
  | none => rw [Nat.zero_mul]; rfl
  | some p => rfl

/-- `self.furcations` as the model's limit: `-1` = no limit; any other value `k` is the limit `max k 0` (a negative limit other than
`-1` saturates every point at its first child, exactly as limit `0`) -/
def limitOf (k : Int) : Option Nat := if k = -1 then none else some k.toNat

/-- the record of the generated function's variables that represents the model state `s` (scratch variables arbitrary) -/
def toV (n : Nat) (dis : List (List Rat)) (bf : Rat) (k : Int) (ex : Bool) (s : St) (cost : Py.Masked2 Rat) (i j u : Int) :
    mst_loop.V Rat :=
  { n := n, dis := dis, bf := bf, limit := k, exclude_soma := ex, pid := s.pid, acc := s.acc,
    furcations := s.furc.map (fun (x : Nat) => (x : Int)), conn := s.conn, mask := s.mask, cost := cost, i := i, j := j, underscore_ := u }

theorem idx_map_cast (l : List Nat) (a : Nat) (h : a < l.length) :
    Py.idx (l.map (fun (x : Nat) => (x : Int))) (a : Int) = some ((l.getD a 0 : Nat) : Int) := by
  rw [Py.idx_nat_getD _ a 0 (by rwa [List.length_map]), getD_map _ l 0 0 h]

theorem sat_test (k : Int) (ex : Bool) (f a : Nat) :
    (if decide (k ≠ -1) = true then
        (some (f : Int)).bind fun t => if decide (t ≥ k) = true then some (!ex || decide ((a : Int) ≠ 0)) else some false
      else some false) = some (satFlag (limitOf k) ex f a) := by
  unfold limitOf satFlag
  by_cases hk : k = -1
  · subst hk; rfl
  · have h1 : decide ((f : Int) ≥ k) = decide (f ≥ k.toNat) := decide_eq_decide.mpr (by omega)
    have h2 : decide ((a : Int) ≠ 0) = (a != 0) := by cases a <;> rfl
    simp only [if_neg hk, decide_eq_true hk, if_true, Option.bind_some, h1, h2]
    cases decide (f ≥ k.toNat) <;> rfl

/-- `m[k] = r; m[:, k] = True` on a square mask is `cross` -/
theorem setRow_cross {n k : Nat} {m : List (List Bool)} {r : List Bool} (hm : Square n m) (hk : k < n) (hr : r.length = n) :
    Py.setRow m (k : Int) r = some (m.set k r) ∧ Py.setColConst (m.set k r) (k : Int) true = some (cross m k r) := by
  refine ⟨Py.setRow_nat _ _ _ (hm.1 ▸ hk) (by rw [getD_row_length hm k hk, hr]), Py.setColConst_nat _ _ _ ?_⟩
  intro q hq
  rcases List.mem_or_eq_of_mem_set hq with h | h
  · rw [hm.2 q h]; exact hk
  · rw [h, hr]; exact hk

theorem step_calls {n : Nat} (hn : 0 < n) {dis : List (List Rat)} (hd : SquareQ n dis) (bf : Rat) (k : Int) (ex : Bool) {s : St}
    (hs : Shape n s) :
    ∃ a b : Nat, step dis bf (limitOf k) ex n s = stepAt dis (limitOf k) ex n s a b ∧
    (Py.bcastCol (fun x y => x + y) dis (s.acc.map (fun x => bf * x)) = some (costM dis bf s.acc) ∧
    Py.maArray (costM dis bf s.acc) s.mask = some (costM dis bf s.acc, s.mask) ∧
    Py.maArgmin (costM dis bf s.acc, s.mask) = some ((a * n + b : Nat) : Int) ∧
    Py.shape2 (costM dis bf s.acc) = ((n : Int), (n : Int)) ∧
    Py.unravelIndex ((a * n + b : Nat) : Int) ((n : Int), (n : Int)) = some ((a : Int), (b : Int)) ∧
    Py.idx (s.furc.map (fun (x : Nat) => (x : Int))) (a : Int) = some ((s.furc.getD a 0 : Nat) : Int) ∧
    Py.setIdx (s.furc.map (fun (x : Nat) => (x : Int))) (a : Int) (((s.furc.getD a 0 : Nat) : Int) + 1) =
      some ((s.furc.set a (s.furc.getD a 0 + 1)).map (fun (x : Nat) => (x : Int))) ∧
    Py.idx ((s.furc.set a (s.furc.getD a 0 + 1)).map (fun (x : Nat) => (x : Int))) (a : Int) =
      some (((s.furc.set a (s.furc.getD a 0 + 1)).getD a 0 : Nat) : Int) ∧
    Py.setRowConst s.mask (a : Int) true = some (s.mask.set a (List.replicate n true)) ∧
    Py.setColConst (s.mask.set a (List.replicate n true)) (a : Int) true = some (cross s.mask a (List.replicate n true)) ∧
    Py.setIdx s.pid (b : Int) (a : Int) = some (s.pid.set b (a : Int)) ∧
    Py.idx s.acc (a : Int) = some (s.acc.getD a 0) ∧
    Py.idx2 dis (a : Int) (b : Int) = some ((dis.getD a []).getD b 0) ∧
    (∀ y, Py.setIdx s.acc (b : Int) y = some (s.acc.set b y)) ∧
    Py.setIdx s.conn (b : Int) true = some (s.conn.set b true) ∧
    Square n s.mask ∧ Square n (cross s.mask a (List.replicate n true)) ∧
    ∀ m1, Square n m1 → Py.setRow m1 (b : Int) (s.conn.set b true) = some (m1.set b (s.conn.set b true)) ∧
      Py.setColConst (m1.set b (s.conn.set b true)) (b : Int) true = some (cross m1 b (s.conn.set b true))) := by
  obtain ⟨hA, ha, hb⟩ := maArgmin_eq dis bf s n hn hd hs
  refine ⟨_, _, step_eq dis bf _ ex n s, ?_⟩
  generalize (argmin dis bf s n).1 = a at hA ha ⊢
  generalize (argmin dis bf s n).2 = b at hA hb ⊢
  obtain ⟨hpid, hacc, hfurc, hconn, hmask⟩ := hs
  have hcl := costM_lengths dis bf s.acc n hd hacc
  have haf : a < s.furc.length := hfurc ▸ ha
  have hrow := setRow_cross (r := List.replicate n true) hmask ha List.length_replicate
  refine ⟨Py.bcastCol_same _ _ _ (by rw [hd.1, List.length_map, hacc]), ?_, hA, ?_, Py.unravelIndex_nat a b n ha hb,
    idx_map_cast _ _ haf, ?_, idx_map_cast _ _ (by rwa [List.length_set]), ?_, hrow.2, Py.setIdx_nat _ _ _ (hpid ▸ hb),
    Py.idx_nat_getD _ _ _ (hacc ▸ ha), Py.idx2_nat _ _ _ _ (hd.1 ▸ ha) (by rw [getD_row_length hd a ha]; exact hb),
    fun y => Py.setIdx_nat _ _ _ (hacc ▸ hb), Py.setIdx_nat _ _ _ (hconn ▸ hb), hmask,
    cross_square a hmask List.length_replicate, fun m1 hm1 => setRow_cross hm1 hb (by rw [List.length_set, hconn])⟩
  · rw [Py.maArray, lengths_eq_replicate hcl, lengths_eq_replicate hmask, if_pos rfl]
  · rw [Py.shape2, List.headD_eq_getD, getD_row_length hcl 0 hn, hcl.1]
  · rw [Py.setIdx_nat _ a _ (by rwa [List.length_map]), List.map_set]; rfl
  · rw [Py.setRowConst_nat _ a _ (hmask.1 ▸ ha), getD_row_length hmask a ha]

theorem for1_step (n : Nat) (hn : 0 < n) (dis : List (List Rat)) (hd : SquareQ n dis) (bf : Rat) (k : Int) (ex : Bool)
    (x : Int) (s : St) (hs : Shape n s) (c : Py.Masked2 Rat) (i j u : Int) :
    ∃ c' i' j', mst_loop.for1 x (toV n dis bf k ex s c i j u) =
      .next (toV n dis bf k ex (step dis bf (limitOf k) ex n s) c' i' j' x) := by
  obtain ⟨a, b, hstep, hcalls⟩ := step_calls hn hd bf k ex hs
  rw [hstep]
  refine ⟨(costM dis bf s.acc, s.mask), (a : Int), (b : Int), ?_⟩
  simp -implicitDefEqProofs only [mst_loop.for1, toV, seq_eq_bindS, bindS_next, bind_some, hcalls, sat_test]
  by_cases hsat : satFlag (limitOf k) ex ((s.furc.set a (s.furc.getD a 0 + 1)).getD a 0) a = true
  · simp -implicitDefEqProofs only [hsat, if_true, seq_eq_bindS, bindS_next, bind_some, hcalls, stepAt]
  · simp -implicitDefEqProofs only [hsat, if_false, Bool.false_eq_true, seq_eq_bindS, bindS_next, bind_some, skip_apply, hcalls,
      stepAt]

theorem step_shape (dis : List (List Rat)) (bf : Rat) (limit : Option Nat) (ex : Bool) (n : Nat) (s : St)
    (hs : Shape n s) : Shape n (step dis bf limit ex n s) := by
  rw [step_eq]; exact stepAt_len dis limit ex _ _ hs

theorem forEach_run {V : Type} (body : Int → V → Py.Res V Unit) (rep : St → Py.Masked2 Rat → Int → Int → Int → V)
    (dis : List (List Rat)) (bf : Rat) (limit : Option Nat) (ex : Bool) (n : Nat)
    (hstep : ∀ (x : Int) (s : St), Shape n s → ∀ (c : Py.Masked2 Rat) (i j u : Int),
      ∃ c' i' j', body x (rep s c i j u) = .next (rep (step dis bf limit ex n s) c' i' j' x)) :
    ∀ (xs : List Int) (s : St), Shape n s → ∀ (c : Py.Masked2 Rat) (i j u : Int),
      ∃ c' i' j' u', Py.forEach body xs (rep s c i j u) = .next (rep (run dis bf limit ex n xs.length s) c' i' j' u') := by
  intro xs
  induction xs with
  | nil => intro s _ c i j u; exact ⟨c, i, j, u, rfl⟩
  | cons x xs ih =>
    intro s hs c i j u
    obtain ⟨c1, i1, j1, e1⟩ := hstep x s hs c i j u
    obtain ⟨c2, i2, j2, u2, e2⟩ := ih _ (step_shape dis bf limit ex n s hs) c1 i1 j1 x
    refine ⟨c2, i2, j2, u2, ?_⟩
    simp only [Py.forEach, e1, e2, List.length_cons, run]

theorem init_succ (m : Nat) : (init (m + 1)).conn = true :: List.replicate m false ∧
    (init (m + 1)).mask = (true :: List.replicate m false) :: List.replicate m (List.replicate (m + 1) true) := by
  simp [init, List.range_succ_eq_map, Function.comp_def, List.replicate_succ]

theorem init_calls (n : Nat) (hn : 0 < n) :
    Py.setIdx (List.replicate n false) (0 : Int) true = some (init n).conn ∧
    Py.setRowConst (List.replicate n (List.replicate n true)) (0 : Int) false =
      some ((List.replicate n (List.replicate n true)).set 0 (List.replicate n false)) ∧
    Py.setIdx2 ((List.replicate n (List.replicate n true)).set 0 (List.replicate n false)) (0 : Int) (0 : Int) true =
      some (init n).mask ∧
    Py.range ((n : Int) - 1) = (List.range (n - 1)).map (fun (k : Nat) => (k : Int)) := by
  have h2 := Py.setRowConst_nat (List.replicate n (List.replicate n true)) 0 false (by rwa [List.length_replicate])
  rw [getD_replicate n 0 _ _ hn, List.length_replicate] at h2
  have h4 : Py.range ((n : Int) - 1) = (List.range (n - 1)).map (fun (k : Nat) => (k : Int)) := by
    rw [show (n : Int) - 1 = ((n - 1 : Nat) : Int) by omega, Py.range_natCast]
  -- arrays of length `m + 1` are conses, on which the calls at index 0 compute
  obtain ⟨m, rfl⟩ := Nat.exists_eq_succ_of_ne_zero hn.ne'
  rw [(init_succ m).1, (init_succ m).2]
  exact ⟨rfl, h2, rfl, h4⟩

/-- **the generated greedy loop equals the model**: for every `n > 0`, every `n × n` distance matrix, every balancing factor, every
value of `furcations` and `exclude_soma`, the definition generated from the source returns exactly the parents, path lengths, child
counts, connected flags and mask of `Mst.run … (n - 1) (Mst.init n)` (in particular it never raises) -/
theorem mst_loop_refines (n : Nat) (hn : 0 < n) (dis : List (List Rat)) (hd : SquareQ n dis) (bf : Rat) (k : Int) (ex : Bool) :
    mst_loop (K := Rat) (n : Int) dis bf k ex =
      some ((run dis bf (limitOf k) ex n (n - 1) (init n)).pid, (run dis bf (limitOf k) ex n (n - 1) (init n)).acc,
        (run dis bf (limitOf k) ex n (n - 1) (init n)).furc.map (fun (x : Nat) => (x : Int)),
        (run dis bf (limitOf k) ex n (n - 1) (init n)).conn, (run dis bf (limitOf k) ex n (n - 1) (init n)).mask, ()) := by
  obtain ⟨c', i', j', u', e⟩ := forEach_run mst_loop.for1 (toV n dis bf k ex) dis bf (limitOf k) ex n (for1_step n hn dis hd bf k ex)
    ((List.range (n - 1)).map (fun (k : Nat) => (k : Int))) (init n) (init_len n) (default : mst_loop.V Rat).cost
    (default : mst_loop.V Rat).i (default : mst_loop.V Rat).j (default : mst_loop.V Rat).underscore_
  simp only [List.length_map, List.length_range, toV, init, List.map_replicate, Nat.cast_zero] at e
  simp -implicitDefEqProofs only [mst_loop, mst_loop.body, seq_eq_bindS, bindS_next, bind_some, Py.full_nat, Py.full2_nat,
    init_calls n hn, init, e]
  rfl

/-- without points the generated loop raises (as the source does: `np.full` of a negative size, `conn[0] = True` on an empty array) -/
theorem mst_loop_raises (n : Int) (hn : n ≤ 0) (dis : List (List Rat)) (bf : Rat) (k : Int) (ex : Bool) :
    mst_loop (K := Rat) n dis bf k ex = none := by
  rcases Int.lt_or_eq_of_le hn with h | rfl
  · simp -implicitDefEqProofs only [mst_loop, mst_loop.body, seq_eq_bindS, Py.full_neg n _ h, bind_none, bindS_err, Py.finish,
      Option.map]
  · have hf : ∀ {α : Type} (c : α), Py.full (0 : Int) c = some [] := fun _ => rfl
    have hs : Py.setIdx ([] : List Bool) (0 : Int) true = none := rfl
    simp -implicitDefEqProofs only [mst_loop, mst_loop.body, seq_eq_bindS, bindS_next, bind_some, hf, hs, bind_none, bindS_err,
      Py.finish, Option.map]

-- non-vacuity: 4 points on a line at 0, 10, 11, 1 (the matrix of `C17.exDis`)
example : SquareQ 4 [[0, 10, 11, 1], [10, 0, 1, 9], [11, 1, 0, 10], [1, 9, 10, 0]] := ⟨rfl, by decide⟩
example : (mst_loop (K := Rat) 4 [[0, 10, 11, 1], [10, 0, 1, 9], [11, 1, 0, 10], [1, 9, 10, 0]] 0 (-1) true).map (·.1) =
    some [-1, 3, 1, 0] := by decide +kernel
example : (mst_loop (K := Rat) 4 [[0, 10, 11, 1], [10, 0, 1, 9], [11, 1, 0, 10], [1, 9, 10, 0]] 1 1 false).map (·.1) =
    some [-1, 3, 1, 0] := by decide +kernel

end RefineMst
