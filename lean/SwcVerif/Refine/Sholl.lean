import SwcVerif.Gen.AlgoSholl
import SwcVerif.Gen.AlgoFeatFront
import SwcVerif.Refine.PyRun
/-! Refinement for C10: the definitions GENERATED from `swcgeom/analysis/sholl.py` (`Sholl.__init__`, `intersect`, `get`,
`get_rs`, `_get_rs`), from the segment construction they rest on (`Tree.get_segments` / `get_compartments`, `Compartments.get_ndata`,
`Compartment.get_ndata`) and from the padding front end of `feature_extractor.py`, for EVERY table / radius / value vectors (no bound on
sizes), over any numeric type `K`. -/
namespace RefineSholl
open Py Gen.Algo

variable {K : Type} [Inhabited K] [Add K] [Sub K] [Mul K] [OfNat K 0] [OfNat K 1] [LT K] [DecidableLT K] [LE K] [DecidableLE K]

/-! ## the segments of a tree -/

/-- the (parent, child) index pair of row `i` -/
def segOf (ids pids : List Int) (i : Int) : List Int := [pids.getD i.toNat 0, ids.getD i.toNat 0]

theorem nodesFrom_one (n : Nat) : Py.Sh.nodesFrom (n : Int) 1 = (List.range (n - 1)).map fun (k : Nat) => ((k + 1 : Nat) : Int) := by
  simp only [Py.Sh.nodesFrom, Py.range, Int.toNat_natCast]
  cases n with
  | zero => simp
  | succ m =>
    rw [List.range_succ_eq_map]; simp [Function.comp_def]

/-- **`Tree.get_compartments()` as translated**: for the rows `1 .. n-1`, in order, the index pair `[pid[i], id[i]]` — (parent, child) -/
theorem segments_refines (ids pids : List Int) (hl : pids.length = ids.length) :
    sholl_segments ids pids = some ((List.range (ids.length - 1)).map fun (k : Nat) => segOf ids pids ((k + 1 : Nat) : Int)) := by
  obtain ⟨v', e, -, hc⟩ := Py.forEach_collect sholl_segments.for1 (·.c0_) (segOf ids pids) (fun v => v.ids = ids ∧ v.pids = pids)
    ((List.range (ids.length - 1)).map fun (k : Nat) => ((k + 1 : Nat) : Int)) (by
      intro i hi v hv
      simp only [List.mem_map, List.mem_range] at hi
      obtain ⟨k, hk, rfl⟩ := hi
      refine ⟨{ v with n := ((k + 1 : Nat) : Int), c0_ := v.c0_ ++ [segOf ids pids ((k + 1 : Nat) : Int)] }, ?_, hv, rfl⟩
      have hi : ((k + 1 : Nat) : Int).toNat < ids.length := by omega
      simp only [sholl_segments.for1, hv.1, hv.2, Py.bind, segOf, Py.idx_inrange pids _ 0 ⟨Int.natCast_nonneg _, hl ▸ hi⟩,
        Py.idx_inrange ids _ 0 ⟨Int.natCast_nonneg _, hi⟩])
    ⟨ids, pids, (default : sholl_segments.V).n, []⟩ ⟨rfl, rfl⟩
  simp only [sholl_segments, sholl_segments.body, Py.seq_eq_bindS, Py.bindS_next, Py.len, nodesFrom_one, e, Py.finish_ret, Option.map_some, hc,
    List.nil_append, List.map_map, Function.comp_def]

theorem tree_get_segments_eq (ids pids : List Int) : tree_get_segments ids pids = sholl_segments ids pids :=
  finish_return _ _ _

/-! ## gathering a column over the segments -/

theorem compartment_get_ndata_eq (col : List K) (idx : List Int) : compartment_get_ndata col idx = Py.take col idx :=
  finish_return _ _ _

/-- **`Compartments.get_ndata` as translated**: one row per segment, the column's values at the segment's index array -/
theorem compartments_get_ndata_refines (col : List K) (segs : List (List Int)) (hr : ∀ s ∈ segs, ∀ i ∈ s, 0 ≤ i ∧ i.toNat < col.length) :
    compartments_get_ndata segs col = some (segs.map fun s => s.map fun i => col.getD i.toNat default) := by
  obtain ⟨v', e, -, hc⟩ := Py.forEach_collect compartments_get_ndata.for1 (·.c0_) (fun s => s.map fun i => col.getD i.toNat default)
    (fun v => v.col = col) segs (fun s hs v hv => ⟨{ v with s := s, c0_ := v.c0_ ++ [s.map fun i => col.getD i.toNat default] },
      by simp only [compartments_get_ndata.for1, compartment_get_ndata_eq, hv, Py.take_inrange col default s (hr s hs), Py.bind], hv, by rfl⟩)
    ⟨segs, col, (default : compartments_get_ndata.V K).s, []⟩ rfl
  simp only [compartments_get_ndata, compartments_get_ndata.body, Py.seq_eq_bindS, Py.bindS_next, e, hc, Py.finish_ret, Option.map_some,
    List.nil_append]

/-! ## `Sholl.__init__` -/

/-- the radii of the two ends of every segment about the root: row `k` is `[rad[pid[k+1]], rad[k+1]]` — (parent, child) -/
def segRadii (pids : List Int) (rad : List K) : List (List K) :=
  (List.range (pids.length - 1)).map fun (k : Nat) => [rad.getD (pids.getD (k + 1) 0).toNat default, rad.getD (k + 1) default]

/-- a tree table with ids = positions: every row but the first has its parent among the rows -/
def ParentsInRange (pids : List Int) : Prop := ∀ k, 1 ≤ k → k < pids.length → 0 ≤ pids.getD k 0 ∧ (pids.getD k 0).toNat < pids.length

theorem init_rs (pids : List Int) (rad : List K) (hp : ParentsInRange pids) (hl : rad.length = pids.length) :
    (tree_get_segments (Py.range pids.length) pids).bind (fun s => compartments_get_ndata s rad) = some (segRadii pids rad) := by
  have hlen : (Py.range (pids.length : Int)).length = pids.length := by simp [Py.range]
  have hlt : ∀ k ∈ List.range (pids.length - 1), k + 1 < pids.length := fun k hk => by have := List.mem_range.1 hk; omega
  rw [tree_get_segments_eq, segments_refines _ _ (by rw [hlen]), hlen, Option.bind_some, compartments_get_ndata_refines]
  · rw [segRadii, List.map_map]
    refine congrArg some (List.map_congr_left fun k hk => ?_)
    have hk' := hlt k hk
    simp only [Function.comp_apply, segOf, List.map_cons, List.map_nil, Int.toNat_natCast, Py.range_natCast, Py.getD_range_map _ _ hk']
  · intro s hs i hi
    obtain ⟨k, hk, rfl⟩ := List.mem_map.1 hs
    have hk' := hlt k hk
    rcases List.mem_cons.1 hi with rfl | hi
    · rw [hl, Int.toNat_natCast]; exact hp (k + 1) (Nat.le_add_left 1 k) hk'
    · rw [List.mem_singleton.1 hi, Int.toNat_natCast, Py.range_natCast, Py.getD_range_map _ _ hk', hl, Int.toNat_natCast]; exact ⟨Int.natCast_nonneg _, hk'⟩

/-- the warning `Sholl(x, step=…)` logs -/
def stepWarning : Py.Exc := ⟨"DeprecationWarning", "`Sholl(x, step=...)` has been replaced by `Sholl(x).get(steps=...)` since v0.6.0 because it has been change to dynamic calculate, and will be removed in next version", []⟩

/-- **`Sholl.__init__` as translated, on a tree with at least one segment**: `rs` holds, per segment `(pid[i], i)`, `i = 1 .. n-1`, the
root distances `[rad[pid[i]], rad[i]]` of its two ends, `rmax` is their largest entry, nothing raises; a `step` is stored and warned about -/
theorem init_refines (pids : List Int) (rad : List K) (step : Option K) (hp : ParentsInRange pids) (hl : rad.length = pids.length)
    (hn : 2 ≤ pids.length) :
    ∃ m, Py.Sh.max2 (segRadii pids rad) = some m ∧
      sholl_init (Py.range pids.length) pids rad step
        = some (segRadii pids rad, m, step, (if step.isSome then [stepWarning] else []), .ok ()) := by
  obtain ⟨segs, hs, h1⟩ := Option.bind_eq_some_iff.1 (init_rs pids rad hp hl)
  obtain ⟨m, hm⟩ : ∃ m, Py.Sh.max2 (segRadii pids rad) = some m := by
    obtain ⟨n, hn2⟩ : ∃ n, pids.length - 1 = n + 1 := ⟨pids.length - 2, by omega⟩
    exact ⟨_, by rw [segRadii, hn2, List.range_succ_eq_map]; rfl⟩
  refine ⟨m, hm, ?_⟩
  simp only [sholl_init, sholl_init.body, Py.seq, Py.Sh.tryAnyRaise, hs, h1, hm, Py.bind]
  cases step <;> rfl

/-- **a tree without a segment (a single node) is refused**: `ValueError("invalid tree: …")` (numpy cannot take the maximum of no radii) -/
theorem init_single (p : Int) (r0 : K) (step : Option K) :
    (sholl_init (Py.range 1) [p] [r0] step).map (fun r => r.2.2.2.2)
      = some (.error ⟨"ValueError", "invalid tree: {tree.source or ''}", []⟩) := by
  have h : tree_get_segments (Py.range 1) [p] = some [] := by
    rw [tree_get_segments_eq]; exact segments_refines (Py.range 1) [p] (by simp [Py.range])
  have h2 : compartments_get_ndata (K := K) [] [r0] = some [] := compartments_get_ndata_refines [r0] [] (by simp)
  simp [sholl_init, sholl_init.body, Py.seq, Py.Sh.tryAnyRaise, h, h2, Py.bind, Py.finishX, Py.Sh.max2]

/-! ## `Sholl.intersect` -/

/-- the source's test on one segment with end radii `a` (parent) and `b` (child): `(a ≤ r ∧ b > r) ∨ (b ≤ r ∧ a > r)` -/
def straddle (a b r : K) : Bool := (decide (a ≤ r) && decide (b > r)) || (decide (b ≤ r) && decide (a > r))

/-- the rows of `rs` as pairs -/
def rows (pairs : List (K × K)) : List (List K) := pairs.map fun p => [p.1, p.2]

theorem cols (pairs : List (K × K)) :
    Py.col (rows pairs) 0 = some (pairs.map (·.1)) ∧ Py.col (rows pairs) 1 = some (pairs.map (·.2)) := by
  unfold Py.col rows
  induction pairs with
  | nil => exact ⟨rfl, rfl⟩
  | cons p ps ih =>
    have e : Py.idx [p.1, p.2] (0 : Int) = some p.1 ∧ Py.idx [p.1, p.2] (1 : Int) = some p.2 := ⟨rfl, rfl⟩
    simp only [List.map_cons, Py.mapOpt, ih, e, and_self]

theorem countNonzero_map {α : Type} (l : List α) (f : α → Bool) : Py.countNonzero (l.map f) = ((l.filter f).length : Int) := by
  rw [Py.countNonzero, List.filter_map, List.length_map]; rfl

/-- the boolean array the source builds for one radius — `rs[:, 0] <= r & rs[:, 1] > r`, the same with the columns exchanged, their
`or` — marks the straddling segments, whatever is done with it next -/
theorem straddleMask {V R : Type} (pairs : List (K × K)) (r : K) (rs : List (List K)) (h : rs = rows pairs) (k : List Bool → Py.Res V R) :
    (Py.bind (Py.col rs 0) fun t0 =>
      Py.bind (Py.col rs 1) fun t1 =>
      Py.bind (Py.Sh.logicalAnd (Py.Sh.leMask t0 r) (Py.Sh.gtMask t1 r)) fun t2 =>
      Py.bind (Py.col rs 1) fun t3 =>
      Py.bind (Py.col rs 0) fun t4 =>
      Py.bind (Py.Sh.logicalAnd (Py.Sh.leMask t3 r) (Py.Sh.gtMask t4 r)) fun t5 =>
      Py.bind (Py.Sh.logicalOr t2 t5) k) = k (pairs.map fun p => straddle p.1 p.2 r) := by
  simp [h, cols, Py.bind, Py.Sh.logicalAnd, Py.Sh.logicalOr, Py.Sh.leMask, Py.Sh.gtMask, List.zipWith_map, List.zipWith_self, straddle]

/-- **`Sholl.intersect(r)` as translated is the number of segments whose end radii straddle `r`** (half-open: one end `≤ r`, the other
`> r`), for every array of end radii and every radius -/
theorem intersect_refines (pairs : List (K × K)) (r : K) :
    sholl_intersect (rows pairs) r = some (((pairs.filter fun p => straddle p.1 p.2 r).length : Nat) : Int) := by
  simp only [sholl_intersect, sholl_intersect.body, Py.seq, straddleMask pairs r _ rfl, Py.finish, countNonzero_map, Option.map_some]

/-! ## `Sholl.get` -/

/-- the number of segments straddling `r` -/
def count (pairs : List (K × K)) (r : K) : Int := (((pairs.filter fun p => straddle p.1 p.2 r).length : Nat) : Int)

theorem countRows (pairs : List (K × K)) (radii : List K) :
    Py.Sh.countNonzeroRows (radii.map fun r => pairs.map fun p => straddle p.1 p.2 r) = if radii = [] then none else some (radii.map (count pairs)) := by
  cases radii with
  | nil => rfl
  | cons x xs => simp [Py.Sh.countNonzeroRows, countNonzero_map, count]

theorem get_rs_self_arr_none (F : Py.Fld K) (rmax : K) (steps : List K) : sholl_get_rs_self_arr F rmax none steps = some steps := by
  simp [sholl_get_rs_self_arr, sholl_get_rs_self_arr.body, sholl_get_rs_arr, sholl_get_rs_arr.body, Py.seq, Py.skip, Py.bind, Py.finish]

/-- **`Sholl.get(steps=[r₀, r₁, …])` as translated is the list of the straddle counts at the given radii, in the given order**; an empty list
of radii raises (numpy's `AxisError`: `np.count_nonzero([], axis=1)`) -/
theorem get_arr_refines (F : Py.Fld K) (pairs : List (K × K)) (rmax : K) (steps : List K) :
    sholl_get_arr F (rows pairs) rmax none steps = if steps = [] then none else some (steps.map (count pairs)) := by
  obtain ⟨v', e, -, hc⟩ := Py.forEach_collect (sholl_get_arr.for1 F) (·.c0_) (fun r => pairs.map fun p => straddle p.1 p.2 r)
    (fun v => v.rs = rows pairs) steps (fun r _ v hv => ⟨_, straddleMask pairs r v.rs hv _, hv, by rfl⟩)
    ⟨rows pairs, rmax, none, steps, (default : sholl_get_arr.V K).intersections, (default : sholl_get_arr.V K).r, []⟩ rfl
  simp only [sholl_get_arr, sholl_get_arr.body, Py.seq_eq_bindS, Py.bindS_next, get_rs_self_arr_none, Py.bind_some, e, hc,
    List.nil_append, countRows, finish_return]

/-- `get(steps)` is `intersect` at every radius -/
theorem get_arr_eq_intersect (F : Py.Fld K) (pairs : List (K × K)) (rmax : K) (steps : List K) (hs : steps ≠ []) :
    sholl_get_arr F (rows pairs) rmax none steps = steps.mapM (sholl_intersect (rows pairs)) := by
  rw [get_arr_refines, if_neg hs, Py.mapM_eq_some_map _ (count pairs) steps fun r _ => intersect_refines pairs r]

/-- **`Sholl.get(steps=k)` (an integer, or the legacy `step`) as translated is `get` at the radii `_get_rs` computes** -/
theorem get_int_refines (F : Py.Fld K) (pairs : List (K × K)) (rmax : K) (sstep : Option K) (k : Int) :
    sholl_get_int F (rows pairs) rmax sstep k =
      (sholl_get_rs_self_int F rmax sstep k).bind fun radii => if radii = [] then none else some (radii.map (count pairs)) := by
  cases hrs : sholl_get_rs_self_int F rmax sstep k with
  | none => simp only [sholl_get_int, sholl_get_int.body, Py.seq_eq_bindS, Py.bindS_next, hrs, Py.bind_none, Py.bindS_err]; rfl
  | some radii =>
    obtain ⟨v', e, -, hc⟩ := Py.forEach_collect (sholl_get_int.for1 F) (·.c0_) (fun r => pairs.map fun p => straddle p.1 p.2 r)
      (fun v => v.rs = rows pairs) radii (fun r _ v hv => ⟨_, straddleMask pairs r v.rs hv _, hv, by rfl⟩)
      ⟨rows pairs, rmax, sstep, k, (default : sholl_get_int.V K).intersections, (default : sholl_get_int.V K).r, []⟩ rfl
    simp only [sholl_get_int, sholl_get_int.body, Py.seq_eq_bindS, Py.bindS_next, hrs, Py.bind_some, e, hc, List.nil_append,
      Option.bind_some, countRows, finish_return]

theorem get_rs_int_eq (F : Py.Fld K) (rmax : K) (k : Int) :
    sholl_get_rs_int F rmax k = (Py.fdiv rmax (Py.Fld.ofInt (k + 1))).bind fun s => Py.Sh.arange s rmax s := by
  simp only [sholl_get_rs_int, sholl_get_rs_int.body, Py.seq_eq_bindS, Py.bindS_bind, Py.bindS_next, Py.bindS_ret, Py.map_finish_bind,
    Py.finish_ret, Option.map_some, Option.bind_fun_some]

/-- the radii of an integer step count: `s = rmax / (k + 1)`, then `np.arange(s, rmax, s)`; of the legacy `step`: `np.arange(step, ceil(rmax), step)` -/
theorem get_rs_self_int_eq (F : Py.Fld K) (rmax : K) (sstep : Option K) (k : Int) :
    sholl_get_rs_self_int F rmax sstep k = match sstep with
      | some st => Py.Sh.arange st (Py.Fld.ofInt (Py.Fld.ceil rmax)) st
      | none => (Py.fdiv rmax (Py.Fld.ofInt (k + 1))).bind fun s => Py.Sh.arange s rmax s := by
  cases sstep <;>
    simp only [sholl_get_rs_self_int, sholl_get_rs_self_int.body, Py.seq_eq_bindS, Option.isSome_some, Option.isSome_none, if_true,
      Bool.false_eq_true, if_false, Py.skip_apply, Py.bind_some, Py.bindS_bind, Py.bindS_next, Py.bindS_ret, Py.map_finish_bind,
      Py.finish_ret, Option.map_some, Option.bind_fun_some, get_rs_int_eq]

/-! ## the front end: `PopulationFeatureExtractor._get_impl` -/

/-- the longest value vector -/
def maxLen {α : Type} (vals : List (List α)) : Nat := vals.foldl (fun a v => max a v.length) 0

theorem foldl_max_int {α : Type} : ∀ (l : List (List α)) (n : Nat),
    (l.map fun v => (v.length : Int)).foldl (fun a b => if a < b then b else a) (n : Int) = ((l.foldl (fun a v => max a v.length) n : Nat) : Int) := by
  intro l
  induction l with
  | nil => intro n; rfl
  | cons x xs ih =>
    intro n
    have : (if (n : Int) < x.length then (x.length : Int) else n) = ((max n x.length : Nat) : Int) := by split <;> omega
    rw [List.map_cons, List.foldl_cons, List.foldl_cons, this, ih]

theorem maxInts_lens {α : Type} (vals : List (List α)) (hne : vals ≠ []) :
    Py.Sh.maxInts (vals.map fun v => (v.length : Int)) = some ((maxLen vals : Nat) : Int) := by
  cases vals with
  | nil => exact absurd rfl hne
  | cons x xs =>
    simp only [List.map_cons, Py.Sh.maxInts, maxLen, List.foldl_cons]
    rw [foldl_max_int, show max 0 x.length = x.length by omega]

theorem maxLen_ge {α : Type} (vals : List (List α)) : ∀ v ∈ vals, v.length ≤ maxLen vals := (foldl_max_ge vals 0).2

theorem slice_prefix {α : Type} (l : List α) (k : Nat) : Py.slice l none (some (k : Int)) = l.take k := by
  have : ¬ ((k : Int) < 0) := by omega
  simp [Py.slice, Py.sliceBound, this]

/-- `padding1d(m, v)` for `len(v) ≤ m`: `v` followed by zeros up to length `m` -/
theorem padding1d_eq (m : Nat) (v : List K) (h : v.length ≤ m) :
    Py.Sh.padding1d (m : Int) v = v ++ List.replicate (m - v.length) (0 : K) := by
  unfold Py.Sh.padding1d
  by_cases hge : (v.length : Int) ≥ (m : Int)
  · have e : v.length = m := by omega
    rw [if_pos hge, ← e, slice_prefix, List.take_length, Nat.sub_self, List.replicate_zero, List.append_nil]
  · rw [if_neg hge]; rfl

theorem stackRows_map {α β : Type} (l : List α) (f : α → List β) (m : Nat) (hne : l ≠ []) (h : ∀ x ∈ l, (f x).length = m) :
    Py.Sh.stackRows (l.map f) = some (l.map f) := by
  cases l with
  | nil => exact absurd rfl hne
  | cons x xs =>
    rw [List.map_cons, Py.Sh.stackRows, if_pos]
    simp only [List.all_eq_true, decide_eq_true_eq, List.mem_map]
    rintro _ ⟨y, hy, rfl⟩
    exact (h y (List.mem_cons_of_mem _ hy)).trans (h x List.mem_cons_self).symm

/-- the rows the front end returns for a population: every tree's vector followed by zeros up to the longest vector -/
def padRows (vals : List (List K)) : List (List K) := vals.map fun v => v ++ List.replicate (maxLen vals - v.length) (0 : K)

/-- **`PopulationFeatureExtractor._get_impl` as translated**: for EVERY non-empty list of value vectors (vectors of any lengths, empty
ones included) nothing raises and the result has one row per tree, row `i` = tree `i`'s vector followed by zeros up to the longest
vector (width 0 when every vector is empty); with no tree at all it raises (`max()` of an empty sequence) -/
theorem population_refines (vals : List (List K)) :
    population_get_impl vals = if vals = [] then none else some (padRows vals) := by
  by_cases hne : vals = []
  · subst hne; rfl
  obtain ⟨v1, e1, hv1, hc1⟩ := Py.forEach_collect population_get_impl.for1 (·.c1_) (fun x : List K => (x.length : Int))
    (fun v => v.vals = vals) vals (fun x _ v hv => ⟨_, rfl, hv, rfl⟩)
    { (default : population_get_impl.V K) with vals := vals, c1_ := [] } rfl
  obtain ⟨v2, e2, -, hc2⟩ := Py.forEach_collect population_get_impl.for2 (·.c5_)
    (fun x => x ++ List.replicate (maxLen vals - x.length) (0 : K)) (fun v => v.len_max = ((maxLen vals : Nat) : Int)) vals
    (fun x hx v hv => ⟨{ v with v_c4 := x, c5_ := v.c5_ ++ [x ++ List.replicate (maxLen vals - x.length) (0 : K)] },
      by simp only [population_get_impl.for2, hv, padding1d_eq _ _ (maxLen_ge vals x hx)], hv, rfl⟩)
    { v1 with vals := vals, len_max := ((maxLen vals : Nat) : Int), c1_ := vals.map fun x => (x.length : Int), c5_ := [] } rfl
  have hstack := stackRows_map vals (fun x => x ++ List.replicate (maxLen vals - x.length) (0 : K)) (maxLen vals) hne fun x hx => by
    have := maxLen_ge vals x hx
    rw [List.length_append, List.length_replicate]; omega
  simp only [population_get_impl, population_get_impl.body, Py.seq_eq_bindS, Py.bindS_next, e1, hc1, List.nil_append,
    maxInts_lens vals hne, Py.bind_some, hv1, e2, hc2, hstack, Py.finish_ret, Option.map_some, if_neg hne, padRows]

/-! ## the front end: `PopulationsFeatureExtractor._get_impl` -/

/-! Both loops fill a list of `n` cells `z` from the left (the rows of a block, the blocks of the answer): once the members `done` have
been written it is `done.map f ++ replicate (n - |done|) z`. -/

theorem fill_get {α β : Type} (f : α → β) (z : β) (n : Nat) (done : List α) (h : done.length < n) :
    (done.map f ++ List.replicate (n - done.length) z)[done.length]? = some z := by
  rw [List.getElem?_append_right (by simp), List.length_map, Nat.sub_self, List.getElem?_replicate, if_pos (by omega)]

theorem fill_set {α β : Type} (f : α → β) (z : β) (n : Nat) (done : List α) (x : α) (h : done.length < n) :
    (done.map f ++ List.replicate (n - done.length) z).set done.length (f x)
      = (done ++ [x]).map f ++ List.replicate (n - (done ++ [x]).length) z := by
  have hm : n - done.length = n - (done ++ [x]).length + 1 := by rw [List.length_append, List.length_singleton]; omega
  rw [hm, List.set_append_right _ _ (by simp), List.length_map, Nat.sub_self, List.replicate_succ, List.set_cons_zero, List.map_append,
    List.append_assoc]
  rfl

section populations
variable (T F : Nat)

/-- a tree's vector followed by zeros up to width `F` -/
def padF (vv : List K) : List K := vv ++ List.replicate (F - vv.length) (0 : K)
/-- the block of one population: its trees' padded vectors, then zero rows up to `T` rows -/
def blockOf (pop : List (List K)) : List (List K) :=
  pop.map (padF F) ++ List.replicate (T - pop.length) (List.replicate F (0 : K))

/-- `out[i, j, :len(vv)] = vv` for the next tree `vv` of population `i`, whose rows `done` are written already -/
theorem setRow_step (out : List (List (List K))) (i : Nat) (done : List (List K)) (vv : List K)
    (hi : out[i]? = some (blockOf T F done)) (hd : done.length < T) (hv : vv.length ≤ F) :
    Py.Sh.setRowPrefix3 out (i : Int) (done.length : Int) (Py.len vv) vv = some (out.set i (blockOf T F (done ++ [vv]))) := by
  obtain ⟨hi', -⟩ := List.getElem?_eq_some_iff.1 hi
  have hj : (blockOf T F done)[done.length]? = some (List.replicate F (0 : K)) := fill_get (padF F) _ T done hd
  obtain ⟨hj', -⟩ := List.getElem?_eq_some_iff.1 hj
  have hw : (Py.slice (List.replicate F (0 : K)) none (some (Py.len vv))).length = vv.length := by
    rw [Py.len, slice_prefix, List.length_take, List.length_replicate, Nat.min_eq_left hv]
  unfold Py.Sh.setRowPrefix3
  rw [Py.idx_nat _ _ hi', hi, Option.bind_some, Py.idx_nat _ _ hj', hj, Option.bind_some]
  simp only [hw, if_true, Option.bind_some, Py.setIdx_nat _ _ _ hj', Py.setIdx_nat _ _ _ hi', List.drop_replicate]
  exact congrArg (fun b => some (out.set i b)) (fill_set (padF F) _ T done vv hd)

theorem inner_loop (i : Nat) (pop : List (List K)) (hT : pop.length ≤ T) (hF : ∀ vv ∈ pop, vv.length ≤ F)
    (v : populations_get_impl.V K) (hi : v.i = (i : Int)) (ho : v.out[i]? = some (blockOf T F [])) :
    ∃ v', Py.forEach populations_get_impl.for5 (Py.enumerate pop) v = .next v' ∧ v'.out = v.out.set i (blockOf T F pop) := by
  obtain ⟨hlt, hget⟩ := List.getElem?_eq_some_iff.1 ho
  obtain ⟨v', e, -, h⟩ := Py.forEach_enumerate populations_get_impl.for5 pop
    (fun done w => w.i = (i : Int) ∧ w.out = v.out.set i (blockOf T F done)) (by
      intro done x rest w e ⟨hwi, hwo⟩
      have hstep := setRow_step T F w.out i done x (by rw [hwo]; simp [hlt]) (by rw [e] at hT; simp at hT; omega) (hF x (by rw [e]; simp))
      rw [hwo, List.set_set] at hstep
      exact ⟨{ w with j := (done.length : Int), vv := x, out := v.out.set i (blockOf T F (done ++ [x])) },
        by simp only [populations_get_impl.for5, hwi, hwo, hstep, Py.bind], hwi, rfl⟩)
    v ⟨hi, by rw [← hget, List.set_getElem_self]⟩
  exact ⟨v', e, h⟩

theorem outer_loop (vals : List (List (List K))) (hb : ∀ pop ∈ vals, pop.length ≤ T ∧ ∀ vv ∈ pop, vv.length ≤ F)
    (v : populations_get_impl.V K) (ho : v.out = List.replicate vals.length (blockOf T F [])) :
    ∃ v', Py.forEach populations_get_impl.for6 (Py.enumerate vals) v = .next v' ∧ v'.out = vals.map (blockOf T F) := by
  obtain ⟨v', e, h⟩ := Py.forEach_enumerate populations_get_impl.for6 vals
    (fun doneP w => w.out = doneP.map (blockOf T F) ++ List.replicate (vals.length - doneP.length) (blockOf T F [])) (by
      intro doneP pop rest w e hw
      obtain ⟨hpT, hpF⟩ := hb pop (by rw [e]; simp)
      have hlt : doneP.length < vals.length := by rw [e]; simp
      obtain ⟨w', e', h'⟩ := inner_loop T F doneP.length pop hpT hpF { w with i := (doneP.length : Int), v := pop } rfl
        (hw ▸ fill_get (blockOf T F) _ _ doneP hlt)
      exact ⟨w', e', by rw [h', ← fill_set (blockOf T F) _ _ doneP pop hlt, ← hw]⟩)
    v (by simpa using ho)
  exact ⟨v', e, by simpa using h⟩
end populations

/-- **`PopulationsFeatureExtractor._get_impl` as translated**: for EVERY collection of populations with at least one tree in total (populations
of any sizes, empty ones included; value vectors of any lengths, empty ones included) nothing raises — a single tree in total included (the
case of finding D31, DESIGN.md §6) — and the answer has one block per population, every block with as many rows as the largest population:
the trees' vectors followed by zeros up to the longest vector of the whole collection, then zero rows.  With no tree at all it raises
(`max()` of nothing). -/
theorem populations_refines (vals : List (List (List K))) :
    populations_get_impl vals =
      if vals.flatten = [] then none else some (vals.map (blockOf (maxLen vals) (maxLen vals.flatten))) := by
  by_cases hv : vals = []
  · subst hv; rfl
  obtain ⟨v1, e1, hv1, hc1⟩ := Py.forEach_collect populations_get_impl.for1 (·.c0_) (fun x : List (List K) => (x.length : Int))
    (fun v => v.vals = vals) vals (fun x _ v hv => ⟨_, rfl, hv, rfl⟩)
    { (default : populations_get_impl.V K) with vals := vals, c0_ := [] } rfl
  obtain ⟨v2, e2, ⟨hv2, hl2⟩, hc2⟩ := Py.forEach_collect populations_get_impl.for4 (·.c3_)
    (fun x : List (List K) => x.map fun y => (y.length : Int))
    (fun v => v.vals = vals ∧ v.len_max1 = ((maxLen vals : Nat) : Int)) vals (by
      intro x _ v hv
      obtain ⟨w, e, ⟨hw, hw3⟩, hc⟩ := Py.forEach_collect populations_get_impl.for3 (·.c4_) (fun y : List K => (y.length : Int))
        (fun w => (w.vals = vals ∧ w.len_max1 = ((maxLen vals : Nat) : Int)) ∧ w.c3_ = v.c3_) x
        (fun y _ w hw => ⟨_, rfl, hw, rfl⟩)
        { v with v := x, c4_ := [] } ⟨hv, rfl⟩
      exact ⟨{ w with c3_ := w.c3_ ++ [w.c4_] }, by simp only [populations_get_impl.for4, Py.seq, Py.bindS, e], hw,
        by simp only [hw3, hc, List.nil_append]⟩)
    { v1 with vals := vals, len_max1 := ((maxLen vals : Nat) : Int), c0_ := vals.map fun x => (x.length : Int), c3_ := [] } ⟨rfl, rfl⟩
  simp only [populations_get_impl, populations_get_impl.body, Py.seq_eq_bindS, Py.bindS_next, e1, hc1, List.nil_append,
    maxInts_lens vals hv, Py.bindS_bind, Py.bind_some, hv1, e2, hc2, ← List.map_flatten]
  by_cases hf : vals.flatten = []
  · rw [if_pos hf, hf]; rfl
  · obtain ⟨v3, e3, h3⟩ := outer_loop (maxLen vals) (maxLen vals.flatten) vals
      (fun pop hp => ⟨maxLen_ge vals pop hp, fun vv hvv => maxLen_ge vals.flatten vv (List.mem_flatten.2 ⟨pop, hp, hvv⟩)⟩)
      { v2 with len_max2 := ((maxLen vals.flatten : Nat) : Int),
                out := List.replicate vals.length (blockOf (maxLen vals) (maxLen vals.flatten) []) } rfl
    have hz : Py.Sh.zeros3 (K := K) (Py.len vals) ((maxLen vals : Nat) : Int) ((maxLen vals.flatten : Nat) : Int)
        = some (List.replicate vals.length (blockOf (maxLen vals) (maxLen vals.flatten) [])) := by
      rw [Py.Sh.zeros3, if_neg (by simp only [Py.len]; omega)]
      simp [Py.len, blockOf]
    simp only [hv2, hl2, hc2, List.nil_append] at e3
    simp only [maxInts_lens vals.flatten hf, Py.bind_some, Py.bindS_next, hv2, hl2, hz, e3, h3, Py.finish_ret, Option.map_some, if_neg hf]

end RefineSholl
