import SwcVerif.Gen.AlgoResampleTree
import SwcVerif.Refine.Resample
import SwcVerif.Refine.PyRun
import SwcVerif.Refine.Assemble
/-! # C16 — `TreeSmoother.__call__` as translated (`Gen.Algo.smooth_tree`) is a fold over the branches

`for br in x.get_branches(): smoothed = self.trans(br); x.ndata[..][br.origin_id()] = smoothed.x()/y()/z()`:
every iteration gathers the three coordinate columns at the rows of the branch, smooths them (`conv_smooth`, generated) and scatters the
result back.  Here: one iteration = `stepCol` on each column (total functions `gather` / `put`), the loop = `List.foldl`
(`smooth_tree_eq`); what the fold leaves in the columns of a tree is in `Props/C16Tree2.lean`.

The second half of the file (namespace `RefineAsm`) is about the tree-level resampler instead: every acyclic branch-tree table represents
a rose tree (`Rep.relabel`, `Step`, `rep_exists`), with distinct key nodes when `pair` is a matching (`rep_exists_sized`). -/
namespace RefineSmoothTree
open Gen.Algo Py Resample RefineResample

/-- the rows `br` of a column (`col[br]`) -/
def gather (col : List Rat) (br : List Int) : List Rat := br.map fun i => col.getD i.toNat 0
/-- `col[br] = vals`, row by row -/
def put (col : List Rat) : List Int → List Rat → List Rat
  | i :: is, b :: bs => put (col.set i.toNat b) is bs
  | _, _ => col
/-- one iteration of the smoother on one column -/
def stepCol (k : Nat) (col : List Rat) (br : List Int) : List Rat := put col br (convSmooth (gather col br) k)
/-- all rows of the branch exist -/
def Valid (n : Nat) (br : List Int) : Prop := ∀ x ∈ br, 0 ≤ x ∧ x.toNat < n
def mid (br : List Int) : List Int := br.tail.dropLast

theorem toNat_inj {a b : Int} (ha : 0 ≤ a) (hb : 0 ≤ b) (h : a.toNat = b.toNat) : a = b := by
  rw [← Int.toNat_of_nonneg ha, h, Int.toNat_of_nonneg hb]

@[simp] theorem gather_length (col : List Rat) (br : List Int) : (gather col br).length = br.length := List.length_map _

theorem put_length (br : List Int) (col vals : List Rat) : (put col br vals).length = col.length := by
  fun_induction put col br vals with
  | case1 _ _ _ _ _ ih => exact ih.trans List.length_set
  | case2 => rfl

theorem Valid.set {col : List Rat} {br : List Int} (h : Valid col.length br) (n : Nat) (b : Rat) : Valid (col.set n b).length br := by
  rwa [List.length_set]

theorem put_getD_not_mem (j : Nat) (br : List Int) (col vals : List Rat) (h : ∀ x ∈ br, x.toNat ≠ j) :
    (put col br vals).getD j 0 = col.getD j 0 := by
  fun_induction put col br vals with
  | case1 col i is b bs ih =>
    rw [ih fun x hx => h x (List.mem_cons_of_mem _ hx), List.getD_eq_getElem?_getD,
      List.getElem?_set_ne (h i List.mem_cons_self), List.getD_eq_getElem?_getD]
  | case2 => rfl

theorem take_eq (col : List Rat) (br : List Int) (h : Valid col.length br) : Py.take col br = some (gather col br) :=
  Py.take_inrange col 0 br h

theorem scatter_eq : ∀ (br : List Int) (col vals : List Rat), Valid col.length br → vals.length = br.length →
    Py.scatter col br vals = some (put col br vals)
  | [], _, [], _, _ => rfl
  | [], _, _ :: _, _, h => by cases h
  | _ :: _, _, [], _, h => by cases h
  | i :: is, col, b :: bs, hv, hl => by
    rw [Py.scatter, Py.setIdx_inrange col i b (hv i List.mem_cons_self), Option.bind_some, put]
    exact scatter_eq is _ bs (Valid.set (fun x hx => hv x (List.mem_cons_of_mem _ hx)) _ _) (Nat.succ.inj hl)

/-- writing at distinct valid rows and reading them back -/
theorem gather_put : ∀ (br : List Int) (col vals : List Rat), Valid col.length br → br.Nodup → vals.length = br.length →
    gather (put col br vals) br = vals
  | [], _, [], _, _, _ => rfl
  | [], _, _ :: _, _, _, h => by cases h
  | _ :: _, _, [], _, _, h => by cases h
  | i :: is, col, b :: bs, hv, hn, hl => by
    have hi := hv i List.mem_cons_self
    rw [List.nodup_cons] at hn
    have hne : ∀ x ∈ is, x.toNat ≠ i.toNat := fun x hx he =>
      hn.1 (toNat_inj (hv x (List.mem_cons_of_mem _ hx)).1 hi.1 he ▸ hx)
    rw [gather, List.map_cons, put, put_getD_not_mem _ is _ _ hne, List.getD_eq_getElem?_getD, List.getElem?_set_self hi.2]
    exact congrArg (b :: ·)
      (gather_put is _ bs (Valid.set (fun x hx => hv x (List.mem_cons_of_mem _ hx)) _ _) hn.2 (Nat.succ.inj hl))

/-! ## the generated loop -/

/-- **one iteration of the generated loop** = `stepCol` on each of the three columns (all rows of the branch valid, `≥ 2` nodes) -/
theorem for1_step (k : Nat) (hk : 1 ≤ k) (br : List Int) (v : smooth_tree.V Rat) (hker : v.kernel = List.replicate k 1)
    (h2 : 2 ≤ br.length) (hx : Valid v.xs.length br) (hy : Valid v.ys.length br) (hz : Valid v.zs.length br) :
    ∃ sm, smooth_tree.for1 ratFld br v =
      .next { v with br := br, smoothed := sm, xs := stepCol k v.xs br, ys := stepCol k v.ys br, zs := stepCol k v.zs br } := by
  obtain ⟨nd', hc, gx, gy, gz⟩ : ∃ nd', conv_smooth ratFld [("x", gather v.xs br), ("y", gather v.ys br), ("z", gather v.zs br)]
        (br.length : Int) (List.replicate k 1) = some (nd', ()) ∧ Dict.get? nd' "x" = some (convSmooth (gather v.xs br) k) ∧
      Dict.get? nd' "y" = some (convSmooth (gather v.ys br) k) ∧ Dict.get? nd' "z" = some (convSmooth (gather v.zs br) k) :=
    ⟨_, convSmooth_refines _ _ _ _ br.length k hk h2 rfl rfl rfl (gather_length ..) (gather_length ..) (gather_length ..), get?_set_xyz ..⟩
  have sc := fun (col : List Rat) (h : Valid col.length br) =>
    scatter_eq br col (convSmooth (gather col br) k) h (by rw [C16.convSmooth_length, gather_length])
  refine ⟨nd', ?_⟩
  simp only [smooth_tree.for1, seq, Py.bind, take_eq _ _ hx, take_eq _ _ hy, take_eq _ _ hz, len_eq, hker, hc, gx, gy, gz,
    sc _ hx, sc _ hy, sc _ hz, stepCol]

@[simp] theorem stepCol_length (k : Nat) (col : List Rat) (br : List Int) : (stepCol k col br).length = col.length := put_length ..

@[simp] theorem foldl_stepCol_length (k : Nat) : ∀ (brs : List (List Int)) (col : List Rat),
    (brs.foldl (stepCol k) col).length = col.length
  | [], _ => rfl
  | b :: bs, col => by simp [foldl_stepCol_length k bs]

/-- **the generated loop** = the fold of `stepCol` over the branches, on each column -/
theorem for1_loop (k : Nat) (hk : 1 ≤ k) (n : Nat) : ∀ (brs : List (List Int)) (v : smooth_tree.V Rat), v.kernel = List.replicate k 1 →
    v.xs.length = n → v.ys.length = n → v.zs.length = n → (∀ b ∈ brs, 2 ≤ b.length ∧ Valid n b) →
    ∃ br sm, Py.forEach (smooth_tree.for1 ratFld) brs v =
      (.next { v with br := br, smoothed := sm, xs := brs.foldl (stepCol k) v.xs, ys := brs.foldl (stepCol k) v.ys, zs := brs.foldl (stepCol k) v.zs } : Res (smooth_tree.V Rat) Unit)
  | [], v, _, _, _, _, _ => ⟨v.br, v.smoothed, rfl⟩
  | b :: bs, v, hker, hx, hy, hz, hb => by
    have hb0 := hb b List.mem_cons_self
    obtain ⟨sm, e⟩ := for1_step k hk b v hker hb0.1 (hx ▸ hb0.2) (hy ▸ hb0.2) (hz ▸ hb0.2)
    obtain ⟨br', sm', e'⟩ := for1_loop k hk n bs
      { v with br := b, smoothed := sm, xs := stepCol k v.xs b, ys := stepCol k v.ys b, zs := stepCol k v.zs b } hker
      ((stepCol_length ..).trans hx) ((stepCol_length ..).trans hy) ((stepCol_length ..).trans hz)
      (fun b' hb' => hb b' (List.mem_cons_of_mem _ hb'))
    exact ⟨br', sm', by simp only [Py.forEach, e]; exact e'⟩

/-- **`TreeSmoother.__call__` as translated**: when `get_branches` returns `brs` (branches of `≥ 2` valid rows), the generated function returns the
three columns folded with `stepCol` over `brs` in this order; nothing else of the tree is touched (ids, parents, radii are not even read) -/
theorem smooth_tree_eq (k : Nat) (hk : 1 ≤ k) (fuel : Nat) (ids pids : List Int) (xs ys zs : List Rat) (brs : List (List Int))
    (hg : get_branches fuel ids pids = some brs) (hy : ys.length = xs.length) (hz : zs.length = xs.length)
    (hb : ∀ b ∈ brs, 2 ≤ b.length ∧ Valid xs.length b) :
    smooth_tree ratFld fuel ids pids xs ys zs (List.replicate k 1) =
      some (brs.foldl (stepCol k) xs, brs.foldl (stepCol k) ys, brs.foldl (stepCol k) zs, ()) := by
  obtain ⟨br, sm, e⟩ := for1_loop k hk xs.length brs
    { (default : smooth_tree.V Rat) with ids := ids, pids := pids, xs := xs, ys := ys, zs := zs, kernel := List.replicate k 1 } rfl rfl hy hz hb
  simp only [smooth_tree, smooth_tree.body, seq, Py.bind, hg, e, Py.finish, Option.map_some]

end RefineSmoothTree

/-! # `Rep` from the flat data: every acyclic branch-tree table represents a rose tree, whatever `pair` does -/
namespace RefineAsm
open Py Gen.Algo Asm
section
variable {σ : Type} [Inhabited σ] (pair : σ → List (List Int) → List Int → σ × List ((List Int) × Int))
  (dupFirst dupLast : List Int → Int → Bool) (ids pids : List Int) (branches : Py.Dict Int (List (List Int)))

/-- `Rep` does not look at the id and the sample count of the node itself -/
theorem Rep.relabel (i i' : Int) (m m' : Nat) (ks : List BT) (h : Int)
    (hr : Rep pair dupFirst dupLast ids pids branches (.node i m ks) h) :
    Rep pair dupFirst dupLast ids pids branches (.node i' m' ks) h := by
  simp only [Rep] at hr ⊢; exact hr

/-- what `Rep` needs of a key node `h` of the data, `pair` being ANY callback: it has a row, the list of pairs `pair` returns for it does not
depend on the callback state, and every node `pair` hands back is again such a node, of smaller rank -/
def Step (Dom : Int → Prop) (rk : Int → Nat) (h : Int) : Prop :=
  ∃ cs key, node_children ids pids h = some cs ∧ Py.idx ids h = some key ∧
    (∀ s s' : σ, (pair s (Py.Dict.getD branches key []) cs).2 = (pair s' (Py.Dict.getD branches key []) cs).2) ∧
    ∀ s : σ, ∀ pr ∈ (pair s (Py.Dict.getD branches key []) cs).2, Dom pr.2 ∧ rk pr.2 < rk h

/-- **every ranked table represents a rose tree**: if every node of `Dom` satisfies `Step`, every node of `Dom` is the handle of some `BT`
(built along the pairs `pair` returns; its sample counts are the trimmed lengths) -/
theorem rep_exists (Dom : Int → Prop) (rk : Int → Nat)
    (hstep : ∀ h, Dom h → Step pair ids pids branches Dom rk h) :
    ∀ (n : Nat) (h : Int), Dom h → rk h < n → ∃ t, Rep pair dupFirst dupLast ids pids branches t h := by
  intro n
  induction n with
  | zero => intro h _ hr; omega
  | succ n ih =>
    intro h hd hr
    obtain ⟨cs, key, hc, hk, hind, hdom⟩ := hstep h hd
    have hl : ∀ prs : List (List Int × Int), (∀ pr ∈ prs, Dom pr.2 ∧ rk pr.2 < rk h) →
        ∃ ks, RepL pair dupFirst dupLast ids pids branches ks h prs := by
      intro prs
      induction prs with
      | nil => intro _; exact ⟨[], by simp [RepL]⟩
      | cons pr prs ihp =>
        intro hall
        obtain ⟨ks, hks⟩ := ihp (fun q hq => hall q (List.mem_cons_of_mem _ hq))
        have hpr := hall pr List.mem_cons_self
        obtain ⟨t, ht⟩ := ih pr.2 hpr.1 (by omega)
        obtain ⟨i, m, kk⟩ := t
        refine ⟨.node i (trim dupFirst dupLast pr.1 h pr.2).length kk :: ks, ?_⟩
        simp only [RepL]
        exact ⟨rfl, Rep.relabel pair dupFirst dupLast ids pids branches i i m _ kk pr.2 ht, hks⟩
    obtain ⟨ks, hks⟩ := hl (pair default (Py.Dict.getD branches key []) cs).2 (hdom default)
    refine ⟨.node 0 0 ks, ?_⟩
    simp only [Rep]
    exact ⟨cs, key, _, hc, hk, fun s => hind s default, hks⟩

/-! ### the same with a bound on the size: when `pair` returns every child at most once, the key nodes of the rose tree are distinct rows -/

mutual
/-- the `id` fields in preorder -/
def idsBT : BT → List Int
  | .node i _ ks => i :: idsBTL ks
def idsBTL : List BT → List Int
  | [] => []
  | t :: ts => idsBT t ++ idsBTL ts
end

mutual
theorem idsBT_length : ∀ t : BT, (idsBT t).length = t.size
  | .node i m ks => by simp [idsBT, BT.size, idsBTL_length ks]; omega
theorem idsBTL_length : ∀ ts : List BT, (idsBTL ts).length = Asm.sizeL ts
  | [] => rfl
  | t :: ts => by simp [idsBTL, Asm.sizeL, idsBT_length t, idsBTL_length ts]
end

/-- `x` is `c` or a descendant of `c` in the children relation `kids` -/
inductive Desc (kids : Int → List Int) : Int → Int → Prop
  | refl (c : Int) : Desc kids c c
  | step {c x y : Int} : Desc kids c x → y ∈ kids x → Desc kids c y

variable (kids : Int → List Int) (Dom : Int → Prop) (rk : Int → Nat)

theorem Desc.of_kid {h c x : Int} (hc : c ∈ kids h) (hd : Desc kids c x) : Desc kids h x := by
  induction hd with
  | refl => exact Desc.step (Desc.refl _) hc
  | step _ hm ih => exact Desc.step ih hm

theorem Desc.dom_rk (hk : ∀ x y, Dom x → y ∈ kids x → Dom y ∧ rk y < rk x) {c x : Int} (hd : Desc kids c x) (hc : Dom c) :
    Dom x ∧ rk x ≤ rk c := by
  induction hd with
  | refl => exact ⟨hc, le_refl _⟩
  | step _ hy ih => have := hk _ _ ih.1 hy; exact ⟨this.1, by omega⟩

/-- the subtrees below two different children of one node are disjoint (every row has one parent, ranks drop) -/
theorem Desc.disjoint (hk : ∀ x y, Dom x → y ∈ kids x → Dom y ∧ rk y < rk x) (huniq : ∀ x x' y, y ∈ kids x → y ∈ kids x' → x = x')
    (h c1 c2 : Int) (hh : Dom h) (h1 : c1 ∈ kids h) (h2 : c2 ∈ kids h) (hne : c1 ≠ c2) :
    ∀ x, Desc kids c1 x → Desc kids c2 x → False := by
  have d1 := hk h c1 hh h1
  have d2 := hk h c2 hh h2
  intro x hx
  induction hx with
  | refl =>
    intro hx2
    cases hx2 with
    | refl => exact hne rfl
    | step hy hm =>
      have := huniq _ _ _ hm h1; subst this
      have := (Desc.dom_rk kids Dom rk hk hy d2.1).2; omega
  | step hx' hm ih =>
    intro hx2
    cases hx2 with
    | refl =>
      have := huniq _ _ _ hm h2; subst this
      have := (Desc.dom_rk kids Dom rk hk hx' d1.1).2; omega
    | step hy hm2 =>
      have := huniq _ _ _ hm hm2; subst this
      exact ih hy

/-- **`rep_exists` with distinct key nodes**: `kids h` is what `node_children` returns, `pair` hands back children of `h`, each at most once, whatever its
state; ranks drop and every row has one parent.  Then `h` represents a `BT` whose `id` fields are distinct descendants of `h` -/
theorem rep_exists_sized
    (hstep : ∀ h, Dom h → ∃ key, node_children ids pids h = some (kids h) ∧ Py.idx ids h = some key ∧
      (∀ s s' : σ, (pair s (Py.Dict.getD branches key []) (kids h)).2 = (pair s' (Py.Dict.getD branches key []) (kids h)).2) ∧
      ∀ s : σ, (∀ pr ∈ (pair s (Py.Dict.getD branches key []) (kids h)).2, pr.2 ∈ kids h) ∧
        ((pair s (Py.Dict.getD branches key []) (kids h)).2.map (·.2)).Nodup)
    (hk : ∀ x y, Dom x → y ∈ kids x → Dom y ∧ rk y < rk x) (huniq : ∀ x x' y, y ∈ kids x → y ∈ kids x' → x = x') :
    ∀ (n : Nat) (h : Int), Dom h → rk h < n →
      ∃ t, Rep pair dupFirst dupLast ids pids branches t h ∧ (idsBT t).Nodup ∧ ∀ x ∈ idsBT t, Desc kids h x := by
  intro n
  induction n with
  | zero => intro h _ hr; omega
  | succ n ih =>
    intro h hd hr
    obtain ⟨key, hc, hkey, hind, hout⟩ := hstep h hd
    have hl : ∀ prs : List (List Int × Int), (∀ pr ∈ prs, pr.2 ∈ kids h) → (prs.map (·.2)).Nodup →
        ∃ ks, RepL pair dupFirst dupLast ids pids branches ks h prs ∧ (idsBTL ks).Nodup ∧
          ∀ x ∈ idsBTL ks, ∃ pr ∈ prs, Desc kids pr.2 x := by
      intro prs
      induction prs with
      | nil => intro _ _; exact ⟨[], by simp [RepL], by simp [idsBTL], by simp [idsBTL]⟩
      | cons pr prs ihp =>
        intro hall hnd
        rw [List.map_cons, List.nodup_cons] at hnd
        obtain ⟨ks, hks, hksn, hksd⟩ := ihp (fun q hq => hall q (List.mem_cons_of_mem _ hq)) hnd.2
        have hpr := hall pr List.mem_cons_self
        have hprd := hk h pr.2 hd hpr
        obtain ⟨t, ht, htn, htd⟩ := ih pr.2 hprd.1 (by omega)
        obtain ⟨i, m, kk⟩ := t
        refine ⟨.node i (trim dupFirst dupLast pr.1 h pr.2).length kk :: ks, ?_, ?_, ?_⟩
        · simp only [RepL]
          exact ⟨rfl, Rep.relabel pair dupFirst dupLast ids pids branches i i m _ kk pr.2 ht, hks⟩
        · rw [idsBTL, List.nodup_append]
          refine ⟨htn, hksn, fun a ha b hb hab => ?_⟩
          subst hab
          obtain ⟨pr', hpr', hd'⟩ := hksd a hb
          have hne : pr.2 ≠ pr'.2 := fun e => hnd.1 (List.mem_map.2 ⟨pr', hpr', e.symm⟩)
          exact Desc.disjoint kids Dom rk hk huniq h pr.2 pr'.2 hd hpr (hall pr' (List.mem_cons_of_mem _ hpr')) hne a (htd a ha) hd'
        · intro x hx
          simp only [idsBTL, List.mem_append] at hx
          rcases hx with hx | hx
          · exact ⟨pr, List.mem_cons_self, htd x hx⟩
          · obtain ⟨pr', hpr', hd'⟩ := hksd x hx
            exact ⟨pr', List.mem_cons_of_mem _ hpr', hd'⟩
    obtain ⟨ks, hks, hksn, hksd⟩ := hl (pair default (Py.Dict.getD branches key []) (kids h)).2 (hout default).1 (hout default).2
    refine ⟨.node h 0 ks, ?_, ?_, ?_⟩
    · simp only [Rep]
      exact ⟨kids h, key, _, hc, hkey, fun s => hind s default, hks⟩
    · simp only [idsBT, List.nodup_cons]
      refine ⟨fun hm => ?_, hksn⟩
      obtain ⟨pr, hpr, hd'⟩ := hksd h hm
      have hp2 := (hout default).1 pr hpr
      have := (Desc.dom_rk kids Dom rk hk hd' (hk h pr.2 hd hp2).1).2
      have := (hk h pr.2 hd hp2).2
      omega
    · intro x hx
      simp only [idsBT, List.mem_cons] at hx
      rcases hx with rfl | hx
      · exact Desc.refl _
      · obtain ⟨pr, hpr, hd'⟩ := hksd x hx
        have hp2 := (hout default).1 pr hpr
        exact Desc.of_kid kids hp2 hd'
end
end RefineAsm
