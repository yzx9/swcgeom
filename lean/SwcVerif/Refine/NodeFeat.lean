import SwcVerif.Gen.AlgoNodeFeat
import SwcVerif.Refine.Sholl
import SwcVerif.Refine.LMeasure
import SwcVerif.Refine.PyArrays
/-! Refinement for C10 / C11: the definitions GENERATED from `swcgeom/core/path.py` (`Path.length` on any row list,
`straight_line_distance`, `tortuosity`), `swcgeom/core/tree.py` (`Tree.length`) and `swcgeom/analysis/features.py`
(`NodeFeatures.get_radial_distance`, `get_count`), for EVERY table (no bound on sizes), over any numeric type `K` and any
`norm : List K → K`. -/
namespace RefineNf
open Py Gen.Algo

variable {K : Type} [Inhabited K] [Add K] [Sub K] [Mul K] [OfNat K 0] [OfNat K 1] [LT K] [DecidableLT K] [LE K] [DecidableLE K]

/-- coordinate row of node `i` -/
def row (axyz : List (List K)) (i : Int) : List K := axyz.getD i.toNat []
/-- the vector from node `a` to node `b`: `xyz[b] − xyz[a]` -/
def vec (axyz : List (List K)) (a b : Int) : List K := List.zipWith (fun x y => x - y) (row axyz b) (row axyz a)
/-- `i` is a row of the table -/
def Valid (axyz : List (List K)) (i : Int) : Prop := 0 ≤ i ∧ i.toNat < axyz.length

theorem row_mem (axyz : List (List K)) (i : Int) (h : Valid axyz i) : row axyz i ∈ axyz := by
  rw [row, Py.getD_eq_getElem _ _ h.2]; exact List.getElem_mem _

theorem idx_row (axyz : List (List K)) (i : Int) (h : Valid axyz i) : Py.idx axyz i = some (row axyz i) :=
  Py.idx_inrange axyz i [] h

theorem take_rows (axyz : List (List K)) (idx : List Int) (h : ∀ i ∈ idx, Valid axyz i) : Py.take axyz idx = some (idx.map (row axyz)) :=
  Py.take_inrange axyz [] idx h

end RefineNf

/-! `Path.length` on an arbitrary row list is stated in the namespace of `Refine/NodeFeat2.lean`, with whose lemmas it is used; it stands in this
file because `seg_length` below is its instance for a list of two rows. -/
namespace RefineNf2
open Py Gen.Algo

variable {K : Type} [Inhabited K] [Add K] [Sub K] [Mul K] [OfNat K 0] [OfNat K 1] [LT K] [DecidableLT K] [LE K] [DecidableLE K]

def cpairs (idx : List Int) : List (Int × Int) := List.zip idx idx.tail

/-- `zip(a[1:], a[:-1])` -/
theorem zip_drop_dropEnd {α β : Type} (f : α → β) : ∀ idx : List α,
    List.zip ((idx.map f).drop 1) (Py.dropEnd (idx.map f) 1) = (List.zip idx idx.tail).map fun e => (f e.2, f e.1)
  | [] => rfl
  | [_] => rfl
  | a :: b :: t => by
    have ih := zip_drop_dropEnd f (b :: t)
    simp only [Py.dropEnd, List.map_cons, List.drop_one, List.tail_cons, List.length_cons, Nat.add_sub_cancel,
      List.take_succ_cons, List.zip_cons_cons] at ih ⊢
    rw [ih]

/-- **`Path.length` as translated, on an ARBITRARY row list `idx`** (any length, 0 and 1 included): the sum, in order, of
`norm (xyz[idx[k+1]] − xyz[idx[k]])` over the consecutive pairs of `idx` (all members rows of the table, all coordinate rows of one length) -/
theorem path_length_refines (norm : List K → K) (axyz : List (List K)) (d : Nat) (idx : List Int)
    (hv : ∀ i ∈ idx, RefineNf.Valid axyz i) (hd : ∀ i ∈ idx, (RefineNf.row axyz i).length = d) :
    nf_path_length norm axyz idx = some (Py.Nf.sumK ((cpairs idx).map fun e => norm (RefineNf.vec axyz e.1 e.2))) := by
  have hs : Py.Nf.sub2 ((idx.map (RefineNf.row axyz)).drop 1) (Py.dropEnd (idx.map (RefineNf.row axyz)) 1)
      = some ((cpairs idx).map fun e => RefineNf.vec axyz e.1 e.2) := by
    rw [Py.Nf.sub2, if_pos (by rw [Py.dropEnd, List.length_drop, List.length_take, Nat.min_eq_left (Nat.sub_le _ _)]), zip_drop_dropEnd,
      Py.mapOpt_total _ (fun p => List.zipWith (fun x y => x - y) p.1 p.2), List.map_map]
    · rfl
    · intro p hp
      obtain ⟨e, he, rfl⟩ := List.mem_map.1 hp
      obtain ⟨h1, h2⟩ := List.of_mem_zip he
      simp only [Py.Nf.subVec, hd _ h1, hd _ (List.mem_of_mem_tail h2), if_true]
  simp only [nf_path_length, nf_path_length.body, Py.seq_eq_bindS, RefineNf.take_rows axyz idx hv, Py.bind_some, Py.bindS_next, hs,
    Py.finish_ret, Option.map_some, Py.Nf.normRows, List.map_map, Function.comp_def]

end RefineNf2

namespace RefineNf
open Py Gen.Algo

variable {K : Type} [Inhabited K] [Add K] [Sub K] [Mul K] [OfNat K 0] [OfNat K 1] [LT K] [DecidableLT K] [LE K] [DecidableLE K]

/-- **`Path.length` as translated, on a segment** (a path of two rows `[a, b]`, what `Tree.get_segments` yields): the norm of `xyz[b] − xyz[a]`
(as the one-term sum the source forms) -/
theorem seg_length (norm : List K → K) (axyz : List (List K)) (a b : Int) (ha : Valid axyz a) (hb : Valid axyz b)
    (hd : (row axyz b).length = (row axyz a).length) :
    nf_path_length norm axyz [a, b] = some (Py.Nf.sumK [norm (vec axyz a b)]) :=
  RefineNf2.path_length_refines norm axyz (row axyz a).length [a, b] (List.forall_mem_cons.2 ⟨ha, List.forall_mem_singleton.2 hb⟩)
    (List.forall_mem_cons.2 ⟨rfl, List.forall_mem_singleton.2 hd⟩)

/-- the comprehension loop of `Tree.length` / `PathFeatures.get_length` / …: one `Path.length` per member, in order -/
theorem length_loop (norm : List K → K) (axyz : List (List K)) (g : List Int → K) (segs : List (List Int))
    (h : ∀ s ∈ segs, nf_path_length norm axyz s = some (g s)) (v : nf_tree_length.V K) (hv : v.axyz = axyz) :
    ∃ v', Py.forEach (nf_tree_length.for1 norm) segs v = .next v' ∧ v'.axyz = axyz ∧ v'.c0_ = v.c0_ ++ segs.map g :=
  Py.forEach_collect (nf_tree_length.for1 norm) (·.c0_) g (·.axyz = axyz) segs
    (fun s hs v hv => ⟨{ v with s := s, c0_ := v.c0_ ++ [g s] }, by simp only [nf_tree_length.for1, hv, h s hs, Py.bind], hv, rfl⟩) v hv

/-- **`Tree.length` as translated is the sum, over the non-root rows `1 .. n-1` in order, of the norm of `xyz[id] − xyz[pid]`** -/
theorem tree_length_refines (norm : List K → K) (ids pids : List Int) (axyz : List (List K)) (hl : pids.length = ids.length)
    (hv : ∀ k : Nat, k + 1 < ids.length → Valid axyz (pids.getD (k + 1) 0) ∧ Valid axyz (ids.getD (k + 1) 0) ∧
      (row axyz (ids.getD (k + 1) 0)).length = (row axyz (pids.getD (k + 1) 0)).length) :
    nf_tree_length norm ids pids axyz
      = some (Py.Nf.sumK ((List.range (ids.length - 1)).map fun (k : Nat) =>
          Py.Nf.sumK [norm (vec axyz (pids.getD (k + 1) 0) (ids.getD (k + 1) 0))])) := by
  obtain ⟨v', e, -, hc⟩ := length_loop norm axyz (fun s => Py.Nf.sumK [norm (vec axyz (s.getD 0 0) (s.getD 1 0))])
    ((List.range (ids.length - 1)).map fun (k : Nat) => RefineSholl.segOf ids pids ((k + 1 : Nat) : Int)) (by
      intro s hs
      obtain ⟨k, hk, rfl⟩ := List.mem_map.1 hs
      obtain ⟨h1, h2, h3⟩ := hv k (by have := List.mem_range.1 hk; omega)
      exact seg_length norm axyz _ _ h1 h2 h3)
    { (default : nf_tree_length.V K) with ids := ids, pids := pids, axyz := axyz, c0_ := [] } rfl
  simp only [nf_tree_length, nf_tree_length.body, Py.seq_eq_bindS, Py.bindS_next, RefineSholl.tree_get_segments_eq,
    RefineSholl.segments_refines ids pids hl, Py.bind_some, e, hc, Py.finish_ret, Option.map_some, List.nil_append, List.map_map]
  rfl

/-- **`Path.tortuosity` as translated**: with `L` the translated `Path.length` and `S` the translated `straight_line_distance`, the result
is `1` when `L` is neither below nor above `0` (the source's `length == 0` guard), and `S / L` otherwise; it raises exactly when `L` or
(past the guard) `S` does -/
theorem tortuosity_refines (F : Py.Fld K) (norm : List K → K) (axyz : List (List K)) (idx : List Int) :
    nf_path_tortuosity F norm axyz idx =
      (nf_path_length norm axyz idx).bind fun L =>
        if ¬ (L < 0) ∧ ¬ (0 < L) then some 1
        else (nf_path_straight norm axyz idx).bind fun S => some (F.div S L) := by
  -- the Boolean lemmas turn the guard `length == 0` as the translator renders it, `!(L < 0 || 0 < L)`, into the statement's condition
  simp only [nf_path_tortuosity, nf_path_tortuosity.body, Py.seq_eq_bindS, Py.bindS_bind, Py.map_finish_bind, Bool.not_eq_true',
    Bool.or_eq_false_iff, decide_eq_false_iff_not]
  refine congrArg _ (funext fun L => ?_)
  split
  · rfl
  · next hp =>
    have hf : ∀ t, Py.fdiv t L = some (F.div t L) := fun t => if_pos (by by_contra h; exact hp (not_or.1 h))
    simp only [Py.skip_apply, Py.bindS_next, Py.map_finish_bind, hf, Py.bind_some, Py.finish_ret, Option.map_some]

/-- **`Path.straight_line_distance` as translated**: the norm of `xyz[idx[-1]] − xyz[idx[0]]` -/
theorem straight_refines (norm : List K → K) (axyz : List (List K)) (a : Int) (mid : List Int) (b : Int)
    (ha : Valid axyz a) (hb : Valid axyz b) (hd : (row axyz b).length = (row axyz a).length) :
    nf_path_straight norm axyz (a :: (mid ++ [b])) = some (norm (vec axyz a b)) := by
  have h1 : (a :: (mid ++ [b])).getLast? = some b := by rw [← List.cons_append, List.getLast?_concat]
  simp only [nf_path_straight, nf_path_straight.body, Py.bind, Py.idx_last, Py.idx_head, h1, List.head?_cons, idx_row axyz a ha,
    idx_row axyz b hb, Py.Nf.subVec, hd, if_true, Py.finish, Option.map_some, vec]

/-- **`NodeFeatures.get_radial_distance` as translated**: for a tree whose first row is typed as soma, the norm of `xyz[i] − xyz[0]` for
every row `i`, in order; otherwise `Tree.soma` raises -/
theorem radial_refines (norm : List K → K) (ids pids types : List Int) (axyz : List (List K)) (h0 : 0 < axyz.length)
    (hd : ∀ r ∈ axyz, r.length = (row axyz 0).length) :
    (types.head? = some Gen.Consts.type_soma →
      nf_radial_distance norm ids pids types axyz
        = some (axyz.map fun r => norm (List.zipWith (fun x y => x - y) r (row axyz 0)))) ∧
    (types.head? ≠ some Gen.Consts.type_soma → nf_radial_distance norm ids pids types axyz = none) := by
  constructor
  · intro ht
    have hs : Py.Nf.subRows axyz (row axyz 0) = some (axyz.map fun r => List.zipWith (fun x y => x - y) r (row axyz 0)) :=
      Py.mapOpt_total _ _ _ fun r hr => if_pos (hd r hr)
    simp [nf_radial_distance, nf_radial_distance.body, Py.seq, Py.bind, RefineLm.tree_soma_eq, ht,
      idx_row axyz 0 ⟨le_refl _, by simpa using h0⟩, hs, Py.finish, Py.Nf.normRows, List.map_map, Function.comp_def]
  · intro ht
    simp [nf_radial_distance, nf_radial_distance.body, Py.seq, Py.bind, RefineLm.tree_soma_eq, ht, Py.finish]

/-- **`NodeFeatures.get_count` as translated**: the one-element array holding the number of rows -/
theorem node_count_refines (F : Py.Fld K) (ids : List Int) : nf_node_count F ids = some [F.ofInt (ids.length : Int)] := by
  simp [nf_node_count, nf_node_count.body, Py.finish, Py.len]

end RefineNf
