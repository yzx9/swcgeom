import SwcVerif.Gen.AlgoAsc
import SwcVerif.Refine.PyRun
import SwcVerif.Model.Asc
/-! Refinement for C15: the token protocol of the parser AS TRANSLATED (`_read_token`, `_consume`, `_assert`,
`_assert_and_cunsume`, `_parse_node`) against the hand-written model `Model/Asc.lean` (`adv`, `expectRp` / `expectLp`, `parseNode`).

Token lists of the model are encoded as the generated parser's state: `next_token` = the head, `lexer` = the tail.  Floats are an
opaque payload (`encF` is arbitrary).  The model's `.bad` token (the lexer raising inside `float()`) has no encoding as a token
of the source, so the statements here are about `.bad`-free token lists; token streams that end in `.bad` are in `AscBad`.

A translated body is turned by `simp only` (`Refine/PyRun.lean`) into the chain of its calls; `float_step`, `literal_step`, `rp_step`,
`lp_step` then run it against the model one token at a time, whatever follows in either (`_parse_node` here, `_parse_color`,
`_parse_tree`, `_parse` in `AscLoop`, `AscTop`). -/
namespace RefineAscParse
open Gen.Algo Py Asc

variable (encF : SwcText.Sci → Int)

/-- a model token as a `Token` of the source: `TokenType` members are `auto()` = 1 … 6 -/
def enc : Tok → Token
  | .lp => ⟨1, .str "("⟩
  | .rp => ⟨2, .str ")"⟩
  | .comment t => ⟨3, .str (String.ofList t)⟩
  | .bar => ⟨4, .str "|"⟩
  | .float v => ⟨5, .flt (encF v)⟩
  | .literal w => ⟨6, .str (String.ofList w)⟩
  | .bad => ⟨0, .none⟩

/-- the parser object that has `toks` still to read (`next_token` = the head) and the AST heap `nodes` -/
def st (toks : List Tok) (nodes : List ASTNode) : Parser :=
  { next_token := toks.head?.map (enc encF), lexer := toks.tail.map (enc encF), nodes := nodes }

def NoBad (toks : List Tok) : Prop := ∀ t ∈ toks, t ≠ Tok.bad

theorem NoBad.tail {t : Tok} {toks : List Tok} (h : NoBad (t :: toks)) : NoBad toks :=
  fun x hx => h x (List.mem_cons_of_mem _ hx)

theorem read_token_eq (p : Parser) :
    parser_read_token p = some ({ p with next_token := p.lexer.head?, lexer := p.lexer.tail }, ()) := by
  obtain ⟨lexer, nt, nodes⟩ := p
  cases lexer with
  | nil => simp [parser_read_token, parser_read_token.body, Py.seq, Py.bind, Py.finish]
  | cons u rest =>
    have h0 : ¬ ((rest.length : Int) + 1 = 0) := by omega
    simp [parser_read_token, parser_read_token.body, Py.seq, Py.bind, Py.finish, Py.idx, Py.normIdx, h0]

theorem read_token_st (toks : List Tok) (nodes : List ASTNode) :
    parser_read_token (st encF toks nodes) = some (st encF toks.tail nodes, ()) := by
  rw [read_token_eq]
  rcases toks with _ | ⟨t, _ | ⟨u, r⟩⟩ <;> rfl

/-- the model's `adv` on a `.bad`-free stream drops the current token too -/
theorem adv_noBad (t : Tok) (toks : List Tok) (h : NoBad (t :: toks)) : adv (t :: toks) = .ok toks := by
  cases toks with
  | nil => rfl
  | cons u rest =>
    have : u ≠ Tok.bad := h u (by simp)
    cases u <;> simp_all [adv]

/-- `_consume` as translated -/
theorem consume_st (toks : List Tok) (nodes : List ASTNode) :
    parser_consume (st encF toks nodes) = some (st encF toks.tail nodes, toks.head?.map (enc encF)) := by
  simp [parser_consume, parser_consume.body, Py.seq, Py.bind, Py.finish, read_token_st]
  simp [st]

/-- `_assert` as translated -/
theorem assert_eq (p : Parser) (tok : Option Token) (ty : Int) :
    parser_assert p tok ty = match tok with | none => none | some t => if t.type = ty then some t else none := by
  cases tok with
  | none => simp [parser_assert, parser_assert.body, Py.seq, Py.finish]
  | some t =>
    by_cases h : t.type = ty <;> simp [parser_assert, parser_assert.body, Py.seq, Py.bind, Py.finish, Py.skip, h]

/-- `_assert_and_cunsume` as translated: EOF and a token of another type are errors, else the token is consumed -/
theorem assert_and_cunsume_st (toks : List Tok) (nodes : List ASTNode) (ty : Int) :
    parser_assert_and_cunsume (st encF toks nodes) ty =
      match toks with
      | [] => none
      | t :: rest => if (enc encF t).type = ty then some (st encF rest nodes, enc encF t) else none := by
  cases toks with
  | nil => simp [parser_assert_and_cunsume, parser_assert_and_cunsume.body, Py.seq, Py.bind, Py.finish, consume_st, assert_eq]
  | cons t rest =>
    by_cases h : (enc encF t).type = ty <;>
      simp [parser_assert_and_cunsume, parser_assert_and_cunsume.body, Py.seq, Py.bind, Py.finish, consume_st, assert_eq, h]

/-- `_assert_and_cunsume(BRACKET_RIGHT)` as translated = the model's `expectRp` (success and failure alike) -/
theorem expectRp_refines (toks : List Tok) (nodes : List ASTNode) (h : NoBad toks) :
    parser_assert_and_cunsume (st encF toks nodes) 2 =
      match expectRp toks with | .ok rest => some (st encF rest nodes, enc encF .rp) | .error _ => none := by
  rw [assert_and_cunsume_st]
  cases toks with
  | nil => simp [expectRp]
  | cons t rest => cases t <;> simp [expectRp, enc, adv_noBad _ _ h]

/-- `_assert_and_cunsume(BRACKET_LEFT)` as translated = the model's `expectLp` -/
theorem expectLp_refines (toks : List Tok) (nodes : List ASTNode) (h : NoBad toks) :
    parser_assert_and_cunsume (st encF toks nodes) 1 =
      match expectLp toks with | .ok rest => some (st encF rest nodes, enc encF .lp) | .error _ => none := by
  rw [assert_and_cunsume_st]
  cases toks with
  | nil => simp [expectLp]
  | cons t rest => cases t <;> simp [expectLp, enc, adv_noBad _ _ h]

@[simp] theorem st_next_token (toks : List Tok) (nodes : List ASTNode) : (st encF toks nodes).next_token = toks.head?.map (enc encF) := rfl
@[simp] theorem st_nodes (toks : List Tok) (nodes : List ASTNode) : (st encF toks nodes).nodes = nodes := rfl
@[simp] theorem st_set_nodes (toks : List Tok) (nodes n' : List ASTNode) :
    ({ lexer := (st encF toks nodes).lexer, next_token := (st encF toks nodes).next_token, nodes := n' } : Parser) = st encF toks n' := rfl

/-- the NODE record `_parse_node` allocates -/
def nodeRec (a b c d : SwcText.Sci) : ASTNode :=
  { type := 3, value := .tup [.flt (encF a), .flt (encF b), .flt (encF c), .flt (encF d)], children := [], parent := none }

def Sim {β γ : Type} (F : β → Option γ) (g : Option γ) : Except Err β → Prop
  | .error _ => g = none
  | .ok b => g = F b

theorem assert_read_st {γ : Type} (toks : List Tok) (nodes : List ASTNode) (ty : Int) (K : Token → Parser × Unit → Option γ) :
    ((parser_assert (st encF toks nodes) (st encF toks nodes).next_token ty).bind fun t =>
      (parser_read_token (st encF toks nodes)).bind (K t)) =
    (parser_assert_and_cunsume (st encF toks nodes) ty).bind fun a => K a.2 (a.1, ()) := by
  rw [assert_eq, read_token_st, assert_and_cunsume_st]
  rcases toks with _ | ⟨t, r⟩
  · rfl
  · simp only [st_next_token, List.head?_cons, Option.map_some, List.tail_cons]
    split <;> rfl

theorem assert_then_st {γ : Type} (toks : List Tok) (nodes : List ASTNode) (ty : Int) (K : Parser × Token → Option γ) :
    ((parser_assert (st encF toks nodes) (st encF toks nodes).next_token ty).bind fun _ =>
      (parser_assert_and_cunsume (st encF toks nodes) ty).bind K) = (parser_assert_and_cunsume (st encF toks nodes) ty).bind K := by
  rw [assert_eq, assert_and_cunsume_st]
  rcases toks with _ | ⟨t, r⟩
  · rfl
  · simp only [st_next_token, List.head?_cons, Option.map_some]
    split <;> rfl

/-! `P`: any relation between what the generated code and the model return that holds of an exception and an error; `K`, `k`: what follows in each. -/
section step
variable {β γ : Type} {P : Option γ → Except Err β → Prop} (hE : ∀ e, P none (.error e))
  (toks : List Tok) (nodes : List ASTNode) (hnb : NoBad toks) (K : Parser × Token → Option γ)
include hE hnb

theorem float_step (k : SwcText.Sci → List Tok → Except Err β)
    (hk : ∀ a rest, NoBad rest → P (K (st encF rest nodes, enc encF (.float a))) (k a rest)) :
    P ((parser_assert_and_cunsume (st encF toks nodes) 5).bind K)
      (match (generalizing := false) toks with
        | .float a :: _ => adv toks >>= k a
        | [] => .error .eof
        | _ => .error .tokenType) := by
  rw [assert_and_cunsume_st]
  rcases toks with _ | ⟨t, r⟩
  · exact hE _
  cases t <;> try exact hE _
  rw [adv_noBad _ _ hnb]
  exact hk _ _ hnb.tail

theorem literal_step (k : List Tok → Except Err β)
    (hk : ∀ w rest, toks = .literal w :: rest → NoBad rest → P (K (st encF rest nodes, enc encF (.literal w))) (k rest)) :
    P ((parser_assert_and_cunsume (st encF toks nodes) 6).bind K)
      (match (generalizing := false) toks with
        | .literal _ :: _ => adv toks >>= k
        | [] => .error .eof
        | _ => .error .tokenType) := by
  rw [assert_and_cunsume_st]
  rcases toks with _ | ⟨t, r⟩
  · exact hE _
  cases t <;> try exact hE _
  rw [adv_noBad _ _ hnb]
  exact hk _ _ rfl hnb.tail

theorem rp_step (k : List Tok → Except Err β) (hk : ∀ rest, NoBad rest → P (K (st encF rest nodes, enc encF .rp)) (k rest)) :
    P ((parser_assert_and_cunsume (st encF toks nodes) 2).bind K) (expectRp toks >>= k) := by
  rw [assert_and_cunsume_st]
  rcases toks with _ | ⟨t, r⟩
  · exact hE _
  cases t <;> try exact hE _
  rw [expectRp, adv_noBad _ _ hnb]
  exact hk _ hnb.tail

theorem lp_step (k : List Tok → Except Err β) (hk : ∀ rest, NoBad rest → P (K (st encF rest nodes, enc encF .lp)) (k rest)) :
    P ((parser_assert_and_cunsume (st encF toks nodes) 1).bind K) (expectLp toks >>= k) := by
  rw [assert_and_cunsume_st]
  rcases toks with _ | ⟨t, r⟩
  · exact hE _
  cases t <;> try exact hE _
  rw [expectLp, adv_noBad _ _ hnb]
  exact hk _ hnb.tail

end step

/-- **`_parse_node` as translated = the model's `parseNode`**, success and every failure alike (a premature end, a word or a bracket
among the four numbers, a missing closing bracket): on success the remaining tokens are the model's, and the heap has gained one NODE
record carrying the four numbers, attached (by the translated `add_child`) to `root`. -/
theorem parse_node_refines (toks : List Tok) (nodes : List ASTNode) (root : Int) (h : NoBad toks) :
    parser_parse_node (st encF toks nodes) root =
      match parseNode toks with
      | .error _ => none
      | .ok ((a, b, c, d), rest) =>
        (ast_add_child (nodes ++ [nodeRec encF a b c d]) root (nodes.length : Int)).map fun r => (st encF rest r.1, (nodes.length : Int)) := by
  have core : Sim (fun r : (SwcText.Sci × SwcText.Sci × SwcText.Sci × SwcText.Sci) × List Tok =>
      (ast_add_child (nodes ++ [nodeRec encF r.1.1 r.1.2.1 r.1.2.2.1 r.1.2.2.2]) root (nodes.length : Int)).map
        fun q => (st encF r.2 q.1, (nodes.length : Int))) (parser_parse_node (st encF toks nodes) root) (parseNode toks) := by
    simp -implicitDefEqProofs only [parser_parse_node, parser_parse_node.body, seq_eq_bindS, bindS_bind, bindS_next, finish_bind, map_bind]
    unfold parseNode
    refine float_step encF (fun _ => rfl) toks nodes h _ _ fun a t1 h1 => ?_
    rw [assert_read_st]
    refine float_step encF (fun _ => rfl) t1 nodes h1 _ _ fun b t2 h2 => ?_
    rw [assert_read_st]
    refine float_step encF (fun _ => rfl) t2 nodes h2 _ _ fun c t3 h3 => ?_
    rw [assert_read_st]
    refine float_step encF (fun _ => rfl) t3 nodes h3 _ _ fun d t4 h4 => ?_
    refine rp_step encF (fun _ => rfl) t4 nodes h4 _ _ fun rest _ => ?_
    show Option.bind (ast_add_child (nodes ++ [nodeRec encF a b c d]) root (nodes.length : Int)) _ = Option.map _ _
    cases ast_add_child (nodes ++ [nodeRec encF a b c d]) root (nodes.length : Int) <;> rfl
  revert core
  rcases parseNode toks with _ | ⟨⟨_, _, _, _⟩, _⟩ <;> exact id

end RefineAscParse
