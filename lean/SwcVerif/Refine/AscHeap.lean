import SwcVerif.Refine.Asc
import SwcVerif.Refine.AscParse
/-! Refinement for C15: the HEAP INVARIANT that relates the AST heap the translated parser builds to the rows the hand-written
model (`Model/Asc.lean`) emits.  Pure heap / tree reasoning, no translated code here.

The model does not materialise the AST.  The relation is stated in CONTINUATION style (it follows the recursion of `Asc.parseSubtree`,
whose recursive call is "the rest of the loop"): running the rest of a `_parse_subtree` loop from the heap `nodes` with `current = γ`,
`root = ρ` ends in a heap `nodes'` in which

* every old record keeps its type and value, γ has gained the children `js`, ρ the children `ks` (complete subtrees whose records are all
  NEW, i.e. at indices ≥ `nodes.length`), nothing else changed (`Step`),
* `js`, `ks` unfold in `nodes'` (`RefineAsc.AgreesL`), and their pre-order tables (`RefineAsc.rowsL`, ids from `next`) are exactly the rows
  the model has emitted meanwhile, in the model's order (`Built`).  -/
namespace RefineAscHeap
open Gen.Algo Py RefineAsc

def refsL (ts : List AT) : List Int := ts.map (fun k => (k.ref : Int))

@[simp] theorem refsL_nil : refsL [] = [] := rfl
@[simp] theorem refsL_cons (t : AT) (ts : List AT) : refsL (t :: ts) = (t.ref : Int) :: refsL ts := rfl
@[simp] theorem refsL_append (a b : List AT) : refsL (a ++ b) = refsL a ++ refsL b := by simp [refsL]

/-- `nodes'` extends `nodes`: every old record keeps its type and value, its children grow by `δ` (the `parent` field is not looked at
by the walk) -/
def Step (nodes nodes' : List ASTNode) (δ : Nat → List Int) : Prop :=
  nodes.length ≤ nodes'.length ∧
  ∀ i o, nodes[i]? = some o → ∃ o', nodes'[i]? = some o' ∧ o'.type = o.type ∧ o'.value = o.value ∧ o'.children = o.children ++ δ i

theorem Step.refl (nodes : List ASTNode) : Step nodes nodes (fun _ => []) :=
  ⟨Nat.le_refl _, fun i o h => ⟨o, h, rfl, rfl, by simp⟩⟩

theorem Step.trans {a b c : List ASTNode} {δ1 δ2 : Nat → List Int} (h1 : Step a b δ1) (h2 : Step b c δ2) :
    Step a c (fun i => δ1 i ++ δ2 i) := by
  refine ⟨Nat.le_trans h1.1 h2.1, fun i o h => ?_⟩
  obtain ⟨o1, g1, t1, v1, c1⟩ := h1.2 i o h
  obtain ⟨o2, g2, t2, v2, c2⟩ := h2.2 i o1 g1
  exact ⟨o2, g2, by rw [t2, t1], by rw [v2, v1], by rw [c2, c1, List.append_assoc]⟩

theorem Step.congr {a b : List ASTNode} {δ δ' : Nat → List Int} (h : Step a b δ) (hd : ∀ i, i < a.length → δ i = δ' i) : Step a b δ' := by
  refine ⟨h.1, fun i o hi => ?_⟩
  obtain ⟨hlt, _⟩ := List.getElem?_eq_some_iff.1 hi
  obtain ⟨o', g, t, v, c⟩ := h.2 i o hi
  exact ⟨o', g, t, v, by rw [c, hd i hlt]⟩

theorem Step.append (nodes tail : List ASTNode) : Step nodes (nodes ++ tail) (fun _ => []) := by
  refine ⟨by simp, fun i o h => ⟨o, ?_, rfl, rfl, by simp⟩⟩
  obtain ⟨hlt, _⟩ := List.getElem?_eq_some_iff.1 h
  rw [List.getElem?_append_left hlt]; exact h

theorem Step.set (n : List ASTNode) (k : Nat) (hk : k < n.length) (o' : ASTNode) (δk : List Int)
    (ht : o'.type = n[k].type) (hv : o'.value = n[k].value) (hc : o'.children = n[k].children ++ δk) :
    Step n (n.set k o') (fun i => if i = k then δk else []) := by
  refine ⟨by simp, fun i o hi => ?_⟩
  by_cases h : i = k
  · subst h
    rw [List.getElem?_eq_getElem hk] at hi
    cases hi
    exact ⟨o', by simp [hk], ht, hv, by simpa using hc⟩
  · exact ⟨o, by rw [List.getElem?_set_ne (Ne.symm h)]; exact hi, rfl, rfl, by simp [h]⟩

mutual
/-- every reference of the unfolding is at least `n` (the records are new w.r.t. a heap of length `n`) -/
def Above (n : Nat) : AT → Prop
  | .mk r kids => n ≤ r ∧ AboveL n kids
def AboveL (n : Nat) : List AT → Prop
  | [] => True
  | t :: ts => Above n t ∧ AboveL n ts
end

mutual
theorem Above.mono {m n : Nat} (h : m ≤ n) : ∀ t : AT, Above n t → Above m t
  | .mk r kids, ha => by
    unfold Above at ha ⊢
    exact ⟨Nat.le_trans h ha.1, AboveL.mono h kids ha.2⟩
theorem AboveL.mono {m n : Nat} (h : m ≤ n) : ∀ ts : List AT, AboveL n ts → AboveL m ts
  | [], _ => by unfold AboveL; trivial
  | t :: ts, ha => by
    unfold AboveL at ha ⊢
    exact ⟨Above.mono h t ha.1, AboveL.mono h ts ha.2⟩
end

theorem AboveL_append (n : Nat) : ∀ a b : List AT, AboveL n (a ++ b) ↔ AboveL n a ∧ AboveL n b
  | [], b => by simp [AboveL]
  | t :: a, b => by simp [AboveL, AboveL_append n a b, and_assoc]

theorem AgreesL_append (nodes : List ASTNode) : ∀ a b : List AT, RefineAsc.AgreesL nodes (a ++ b) ↔ RefineAsc.AgreesL nodes a ∧ RefineAsc.AgreesL nodes b
  | [], b => by simp [RefineAsc.AgreesL]
  | t :: a, b => by simp [RefineAsc.AgreesL, AgreesL_append nodes a b, and_assoc]

theorem rowsL_append (nodes : List ASTNode) : ∀ (a b : List AT) (pid ty : Int) (next : Nat),
    rowsL nodes (a ++ b) pid ty next = rowsL nodes a pid ty next ++ rowsL nodes b pid ty (next + (rowsL nodes a pid ty next).length)
  | [], b, pid, ty, next => by simp [rowsL]
  | t :: a, b, pid, ty, next => by
    simp [rowsL, rowsL_append nodes a b, Nat.add_assoc]

theorem costL_append (nodes : List ASTNode) : ∀ a b : List AT, costL nodes (a ++ b) = costL nodes a + costL nodes b
  | [], b => by simp [costL]
  | t :: a, b => by simp [costL, costL_append nodes a b, Nat.add_assoc]

-- FRAME: subtrees made of records at indices ≥ `m` are not affected by a step that only touches children below `m`
mutual
theorem frame {n1 n2 : List ASTNode} {δ : Nat → List Int} {m : Nat} (hS : Step n1 n2 δ) (hδ : ∀ i, m ≤ i → δ i = []) :
    ∀ t : AT, Above m t → RefineAsc.Agrees n1 t →
      RefineAsc.Agrees n2 t ∧ (∀ (pid ty : Int) (next : Nat), rows n2 t pid ty next = rows n1 t pid ty next) ∧ cost n2 t = cost n1 t
  | .mk r kids, ha, hA => by
    unfold Above at ha
    unfold RefineAsc.Agrees at hA
    obtain ⟨o, ho, hch, hlab, hval, hK⟩ := hA
    obtain ⟨o', ho', ht, hv, hc⟩ := hS.2 r o ho
    rw [hδ r ha.1, List.append_nil] at hc
    obtain ⟨k1, k2, k3⟩ := frameL hS hδ kids ha.2 hK
    refine ⟨?_, ?_, ?_⟩
    · unfold RefineAsc.Agrees
      exact ⟨o', ho', by rw [hc, hch], by rw [ht, hv]; exact hlab, by rw [ht, hv]; exact hval, k1⟩
    · intro pid ty next
      simp only [rows, ho, ho', ht, hv, k2]
    · simp only [cost, ho, ho', ht, k3]
theorem frameL {n1 n2 : List ASTNode} {δ : Nat → List Int} {m : Nat} (hS : Step n1 n2 δ) (hδ : ∀ i, m ≤ i → δ i = []) :
    ∀ ts : List AT, AboveL m ts → RefineAsc.AgreesL n1 ts →
      RefineAsc.AgreesL n2 ts ∧ (∀ (pid ty : Int) (next : Nat), rowsL n2 ts pid ty next = rowsL n1 ts pid ty next) ∧ costL n2 ts = costL n1 ts
  | [], _, _ => by simp [RefineAsc.AgreesL, rowsL, costL]
  | t :: ts, ha, hA => by
    unfold AboveL at ha
    unfold RefineAsc.AgreesL at hA
    obtain ⟨a1, a2, a3⟩ := frame hS hδ t ha.1 hA.1
    obtain ⟨b1, b2, b3⟩ := frameL hS hδ ts ha.2 hA.2
    refine ⟨?_, ?_, ?_⟩
    · unfold RefineAsc.AgreesL; exact ⟨a1, b1⟩
    · intro pid ty next; simp only [rowsL, a2, b2]
    · simp only [costL, a3, b3]
end

/-! ### the model's rows as rows of the walk -/
section
variable (encF : SwcText.Sci → Int)

def encRow (k : Nat) (r : Asc.Row) : RefineAsc.Row :=
  ⟨(k : Int), r.type, .flt (encF r.x), .flt (encF r.y), .flt (encF r.z), .flt (encF r.r), r.pid⟩

/-- the model's rows with their ids (positions, counted from `k`) and the numbers encoded as the generated code carries them -/
def encRows : Nat → List Asc.Row → List RefineAsc.Row
  | _, [] => []
  | k, r :: rs => encRow encF k r :: encRows (k + 1) rs

@[simp] theorem encRows_length : ∀ (k : Nat) (rs : List Asc.Row), (encRows encF k rs).length = rs.length
  | _, [] => rfl
  | k, r :: rs => by simp [encRows, encRows_length (k + 1) rs]

theorem encRows_append : ∀ (k : Nat) (a b : List Asc.Row), encRows encF k (a ++ b) = encRows encF k a ++ encRows encF (k + a.length) b
  | _, [], b => by simp [encRows]
  | k, r :: a, b => by
    simp [encRows, encRows_append (k + 1) a b]
    congr 1; omega

/-- **the heap invariant** (continuation style, see the header): from `nodes` to `nodes'`, γ gained the complete new subtrees `js`, ρ
gained `ks`; their tables are the model's new rows `new` (ids from `next`); the walk's cost of the new subtrees is at most twice the
number of new records. -/
def Built (ty : Int) (nodes nodes' : List ASTNode) (γ ρ : Nat) (γid ρid : Int) (next : Nat) (new : List Asc.Row) : Prop :=
  ∃ js ks, Step nodes nodes' (fun i => (if i = γ then refsL js else []) ++ (if i = ρ then refsL ks else [])) ∧
    RefineAsc.AgreesL nodes' js ∧ RefineAsc.AgreesL nodes' ks ∧ AboveL nodes.length js ∧ AboveL nodes.length ks ∧
    rowsL nodes' js γid ty next ++ rowsL nodes' ks ρid ty (next + (rowsL nodes' js γid ty next).length) = encRows encF next new ∧
    costL nodes' js + costL nodes' ks + 2 * nodes.length ≤ 2 * nodes'.length

theorem Built.nil (ty : Int) (nodes : List ASTNode) (γ ρ : Nat) (γid ρid : Int) (next : Nat) :
    Built encF ty nodes nodes γ ρ γid ρid next [] := by
  refine ⟨[], [], (Step.refl nodes).congr (by intro i _; simp), ?_, ?_, ?_, ?_, ?_, ?_⟩ <;> simp [RefineAsc.AgreesL, AboveL, rowsL, costL, encRows]

theorem Built.len {ty : Int} {nodes nodes' : List ASTNode} {γ ρ : Nat} {γid ρid : Int} {next : Nat} {new : List Asc.Row}
    (h : Built encF ty nodes nodes' γ ρ γid ρid next new) : nodes.length ≤ nodes'.length := by
  obtain ⟨js, ks, hS, _⟩ := h
  exact hS.1

/-- the record at the new index after an allocation followed by steps -/
theorem new_record {nodes n1 : List ASTNode} {rec : ASTNode} {δ : Nat → List Int}
    (h1 : Step (nodes ++ [rec]) n1 δ) : ∃ o, n1[nodes.length]? = some o ∧ o.type = rec.type ∧ o.value = rec.value ∧
      o.children = rec.children ++ δ nodes.length :=
  h1.2 nodes.length rec (by simp)

/-- with `current = root` the two lists of new subtrees are one -/
theorem Built.flat {ty : Int} {nodes n1 : List ASTNode} {γ : Nat} {γid : Int} {next : Nat} {new : List Asc.Row}
    (h : Built encF ty nodes n1 γ γ γid γid next new) :
    ∃ ls, Step nodes n1 (fun i => if i = γ then refsL ls else []) ∧ RefineAsc.AgreesL n1 ls ∧ AboveL nodes.length ls ∧
      rowsL n1 ls γid ty next = encRows encF next new ∧ costL n1 ls + 2 * nodes.length ≤ 2 * n1.length := by
  obtain ⟨js, ks, hS, aj, ak, bj, bk, hr, hc⟩ := h
  refine ⟨js ++ ks, hS.congr fun i _ => ?_, (AgreesL_append _ _ _).2 ⟨aj, ak⟩, (AboveL_append _ _ _).2 ⟨bj, bk⟩, ?_, ?_⟩
  · by_cases hg : i = γ <;> simp [hg]
  · rw [rowsL_append]; exact hr
  · rw [costL_append]; exact hc

/-- `|` at the top of a branch: `current = root` -/
theorem Built.bar {ty : Int} {nodes n2 : List ASTNode} {γ ρ : Nat} {γid ρid : Int} {next : Nat} {new : List Asc.Row}
    (h : Built encF ty nodes n2 ρ ρ ρid ρid next new) : Built encF ty nodes n2 γ ρ γid ρid next new := by
  obtain ⟨ls, hS, al, bl, hr, hc⟩ := h.flat
  refine ⟨[], ls, hS.congr fun i _ => ?_, trivial, al, trivial, bl, ?_, ?_⟩
  · simp
  · simpa [rowsL] using hr
  · simpa [costL] using hc

/-- a split: a complete nested `_parse_subtree` under `current`, then the rest of the loop -/
theorem Built.split {ty : Int} {nodes n1 n2 : List ASTNode} {γ ρ : Nat} {γid ρid : Int} {next : Nat} {new1 new2 : List Asc.Row}
    (hγ : γ < nodes.length) (hρ : ρ < nodes.length)
    (h1 : Built encF ty nodes n1 γ γ γid γid next new1)
    (h2 : Built encF ty n1 n2 γ ρ γid ρid (next + new1.length) new2) :
    Built encF ty nodes n2 γ ρ γid ρid next (new1 ++ new2) := by
  obtain ⟨ls, hS1, al, bl, hr1, hc1⟩ := h1.flat
  obtain ⟨js2, ks2, hS2, aj2, ak2, bj2, bk2, hr2, hc2⟩ := h2
  have hδ : ∀ i, nodes.length ≤ i → (fun i => (if i = γ then refsL js2 else []) ++ (if i = ρ then refsL ks2 else [])) i = [] := by
    intro i hi
    simp [Nat.ne_of_gt (Nat.lt_of_lt_of_le hγ hi), Nat.ne_of_gt (Nat.lt_of_lt_of_le hρ hi)]
  obtain ⟨fa, fr, fc⟩ := frameL hS2 hδ ls bl al
  refine ⟨ls ++ js2, ks2, (hS1.trans hS2).congr fun i _ => ?_, (AgreesL_append _ _ _).2 ⟨fa, aj2⟩, ak2,
    (AboveL_append _ _ _).2 ⟨bl, AboveL.mono hS1.1 _ bj2⟩, AboveL.mono hS1.1 _ bk2, ?_, ?_⟩
  · by_cases hg : i = γ <;> simp [hg]
  · rw [rowsL_append, fr, hr1, encRows_length, encRows_append, List.append_assoc, ← hr2, List.length_append, encRows_length,
      Nat.add_assoc]
  · rw [costL_append, fc]
    have := hS1.1
    omega

theorem Built.one {ty : Int} {nodes n1 : List ASTNode} {γ : Nat} {γid : Int} {next : Nat} {new : List Asc.Row} {t : AT}
    (hS : Step nodes n1 (fun i => if i = γ then [(t.ref : Int)] else [])) (hA : RefineAsc.Agrees n1 t) (ha : Above nodes.length t)
    (hr : rows n1 t γid ty next = encRows encF next new) (hc : cost n1 t + 2 * nodes.length ≤ 2 * n1.length) :
    Built encF ty nodes n1 γ γ γid γid next new :=
  ⟨[t], [], hS.congr fun i _ => by simp, ⟨hA, trivial⟩, trivial, ⟨ha, trivial⟩, trivial, by simpa [rowsL] using hr,
    by simpa [costL] using hc⟩

/-- a COLOR / COMMENT leaf attached to `current`: a subtree of its own, then the rest of the loop -/
theorem Built.leaf {ty : Int} {nodes n1 n2 : List ASTNode} {γ ρ : Nat} {γid ρid : Int} {next : Nat} {new : List Asc.Row} (rec : ASTNode)
    (hγ : γ < nodes.length) (hρ : ρ < nodes.length) (hty : 3 < rec.type) (hch : rec.children = [])
    (h1 : Step (nodes ++ [rec]) n1 (fun i => if i = γ then [(nodes.length : Int)] else [])) (hl : n1.length = nodes.length + 1)
    (h : Built encF ty n1 n2 γ ρ γid ρid next new) : Built encF ty nodes n2 γ ρ γid ρid next new := by
  obtain ⟨o, g, t, v, c⟩ := new_record h1
  simp only [Nat.ne_of_gt hγ, if_false, List.append_nil, hch] at c
  obtain ⟨t1, t2, t3⟩ : rec.type ≠ 1 ∧ rec.type ≠ 2 ∧ rec.type ≠ 3 := by omega
  refine Built.split encF (new1 := []) hγ hρ (Built.one encF (t := .mk nodes.length [])
    (((Step.append nodes [rec]).trans h1).congr fun i _ => by simp [AT.ref]) ?_ ⟨Nat.le_refl _, trivial⟩ ?_ ?_) h
  · unfold RefineAsc.Agrees
    exact ⟨o, g, c, fun h => absurd (t ▸ h) t2, fun h => absurd (t ▸ h) t3, trivial⟩
  · simp only [rows, g, t, if_neg t1, if_neg t2, if_neg t3]
    rfl
  · simp only [cost, g, t, if_neg t1, if_neg t2, if_neg t3]
    omega

/-- a point: the NODE record attached to `current`, which becomes the new `current` -/
theorem Built.node {ty : Int} {nodes n1 n2 : List ASTNode} {γ ρ : Nat} {γid ρid : Int} {next : Nat} {new : List Asc.Row}
    (a b c d : SwcText.Sci)
    (hγ : γ < nodes.length) (hρ : ρ < nodes.length)
    (h1 : Step (nodes ++ [RefineAscParse.nodeRec encF a b c d]) n1 (fun i => if i = γ then [(nodes.length : Int)] else []))
    (hl : n1.length = nodes.length + 1)
    (h : Built encF ty n1 n2 nodes.length ρ (next : Int) ρid (next + 1) new) :
    Built encF ty nodes n2 γ ρ γid ρid next (⟨ty, a, b, c, d, γid⟩ :: new) := by
  obtain ⟨js, ks, hS, aj, ak, bj, bk, hr, hc⟩ := h
  obtain ⟨o, g, t, v, ch⟩ := new_record (h1.trans hS)
  simp only [Nat.ne_of_gt hγ, Nat.ne_of_gt hρ, if_false, if_true, List.append_nil, RefineAscParse.nodeRec, List.nil_append] at ch t v
  have hA : RefineAsc.Agrees n2 (.mk nodes.length js) := by
    unfold RefineAsc.Agrees
    exact ⟨o, g, ch, fun h => absurd (t ▸ h) (by decide), fun _ => by rw [v]; rfl, aj⟩
  have hR : rows n2 (.mk nodes.length js) γid ty next =
      encRow encF next ⟨ty, a, b, c, d, γid⟩ :: rowsL n2 js (next : Int) ty (next + 1) := by
    simp only [rows, g, t, v]
    rfl
  have hC : cost n2 (.mk nodes.length js) = 1 + costL n2 js := by
    simp only [cost, g, t]; rfl
  have hle : nodes.length ≤ n1.length := hl ▸ Nat.le_succ _
  refine ⟨[.mk nodes.length js], ks, ?_, ⟨hA, trivial⟩, ak, ⟨⟨Nat.le_refl _, AboveL.mono hle _ bj⟩, trivial⟩, AboveL.mono hle _ bk, ?_, ?_⟩
  · refine (((Step.append nodes [_]).trans h1).trans hS).congr fun i hi => ?_
    have : i ≠ nodes.length := Nat.ne_of_lt hi
    have : γ ≠ nodes.length := Nat.ne_of_lt hγ
    by_cases hg : i = γ <;> simp [AT.ref, *]
  · simp only [rowsL, hR, List.append_nil, encRows, List.cons_append, List.length_cons]
    rw [← hr]
    congr 2
    congr 1
    omega
  · simp only [costL, hC]; omega

/-- a tree `( label … )` under the ROOT: the TREE record is allocated, its subtree built below it, and only then attached; then the
rest of the loop -/
theorem Built.tree {U ty : Int} {nodes n2 n3 n4 : List ASTNode} {ρ : Nat} {next : Nat} {new1 new2 : List Asc.Row} (rec : ASTNode)
    (hρ : ρ < nodes.length) (hty : rec.type = 2) (hlab : labelCode rec.value = some ty) (hch : rec.children = [])
    (h1 : Built encF ty (nodes ++ [rec]) n2 nodes.length nodes.length (-1) (-1) next new1)
    (h2 : Step n2 n3 (fun i => if i = ρ then [(nodes.length : Int)] else [])) (hl : n3.length = n2.length)
    (h3 : Built encF U n3 n4 ρ ρ (-1) (-1) (next + new1.length) new2) :
    Built encF U nodes n4 ρ ρ (-1) (-1) next (new1 ++ new2) := by
  obtain ⟨ls, hS1, al, bl, hr1, hc1⟩ := h1.flat
  have hne : nodes.length ≠ ρ := Nat.ne_of_gt hρ
  obtain ⟨fa, fr, fc⟩ := frameL h2 (m := (nodes ++ [rec]).length)
    (fun i hi => if_neg (Nat.ne_of_gt (Nat.lt_of_lt_of_le hρ (Nat.le_trans (by simp) hi)))) ls bl al
  obtain ⟨o, g, t, v, c⟩ := new_record (hS1.trans h2)
  simp only [hne, if_false, if_true, List.append_nil, hch, List.nil_append] at c
  refine Built.split encF hρ hρ (Built.one encF (t := .mk nodes.length ls)
    ((((Step.append nodes [rec]).trans hS1).trans h2).congr fun i hi => by simp [AT.ref, Nat.ne_of_lt hi]) ?_
    ⟨Nat.le_refl _, AboveL.mono (by simp) _ bl⟩ ?_ ?_) h3
  · unfold RefineAsc.Agrees
    exact ⟨o, g, c, fun _ => by rw [v, hlab]; rfl, fun h => absurd ((t.trans hty).symm.trans h) (by decide), fa⟩
  · simp only [rows, g, t, v, hty, hlab, fr]
    exact hr1
  · have hC : cost n3 (.mk nodes.length ls) = 2 + costL n2 ls := by
      simp only [cost, g, t, hty, fc]; rfl
    have := h2.1
    simp at hc1
    omega
end

end RefineAscHeap
