import SwcVerif.Gen.AlgoLmGeo
import SwcVerif.Model.LmGeo
import SwcVerif.Refine.LMeasure
import SwcVerif.Refine.NodeBranch
/-! Refinement for C10: the definitions GENERATED from the geometric L-Measure functions of `swcgeom/analysis/lmeasure.py`
(`Gen/AlgoLmGeo.lean`) compute the quantities of `Model/LmGeo.lean`, over ANY numeric type `K` and ANY `norm`, on every well-formed tree object
(ids = positions, `C07.WF pids`, geometry columns as long as `pids`), at every node in the domain of the function; outside the domain (root,
non-bifurcation, no soma, zero path length) they are `none` (the source raises). -/
namespace RefineLmGeo
open Gen.Algo Py LmGeo
variable {K : Type} [Inhabited K] [Add K] [Sub K] [Mul K] [OfNat K 0] [OfNat K 1] [LT K] [DecidableLT K] [LE K] [DecidableLE K]

/-- geometry columns of a tree with `n` nodes -/
structure Cols (n : Nat) (xs ys zs : List K) : Prop where
  hx : xs.length = n
  hy : ys.length = n
  hz : zs.length = n

/-- `Node.xyz()` = the point of the node -/
theorem node_xyz_eq {n : Nat} {xs ys zs : List K} (hc : Cols n xs ys zs) (k : Nat) (hk : k < n) :
    node_xyz xs ys zs (k : Int) = some (pos xs ys zs (k : Int)) := by
  simp only [node_xyz, node_xyz.body, Py.bind, Py.idx_nat_getD xs k default (by rw [hc.hx]; exact hk), Py.idx_nat_getD ys k default (by rw [hc.hy]; exact hk),
    Py.idx_nat_getD zs k default (by rw [hc.hz]; exact hk), Py.finish, Option.map, pos, Int.toNat_natCast]

/-- outside the table `Node.xyz()` raises (IndexError) -/
theorem node_xyz_none {n : Nat} {xs ys zs : List K} (hc : Cols n xs ys zs) (k : Nat) (hk : ¬ k < n) :
    node_xyz xs ys zs (k : Int) = none := by
  simp [node_xyz, node_xyz.body, Py.bind, Py.idx_nat_none xs k (by rw [hc.hx]; exact hk), Py.finish]

theorem subArr_pos (xs ys zs : List K) (a b : Int) :
    Py.LG.subArr (pos xs ys zs a) (pos xs ys zs b) = some (vsub (pos xs ys zs a) (pos xs ys zs b)) := by
  rfl

/-- **`Node.distance`** = norm of (own point − other point) -/
theorem node_distance_eq (norm : List K → K) {n : Nat} {xs ys zs : List K} (hc : Cols n xs ys zs) (a b : Nat) (ha : a < n) (hb : b < n) :
    node_distance norm xs ys zs (a : Int) (b : Int) = some (dist norm xs ys zs (a : Int) (b : Int)) := by
  simp only [node_distance, node_distance.body, Py.bind, node_xyz_eq hc a ha, node_xyz_eq hc b hb, subArr_pos, Py.finish, Option.map, dist]

/-! ## `LMeasure.path_distance` -/

/-- one iteration of the loop at a non-root node `k` with parent `p` -/
theorem pd_body (norm : List K → K) {n : Nat} {xs ys zs : List K} (hc : Cols n xs ys zs) (pids : List Int) (hn : pids.length = n)
    (nd : Int) (k : Nat) (hk : k < n) (par0 : Option Int) (acc : K) :
    lm_path_distance.while1_body norm { xs := xs, ys := ys, zs := zs, pids := pids, node := nd, n := (k : Int), parent := par0, length := acc } =
      if pids.getD k (-1) = -1 then
        .brk { xs := xs, ys := ys, zs := zs, pids := pids, node := nd, n := (k : Int), parent := none, length := acc }
      else if 0 ≤ pids.getD k (-1) ∧ pids.getD k (-1) < n then
        .next { xs := xs, ys := ys, zs := zs, pids := pids, node := nd, n := pids.getD k (-1), parent := some (pids.getD k (-1)),
                length := acc + dist norm xs ys zs (k : Int) (pids.getD k (-1)) }
      else lm_path_distance.while1_body norm { xs := xs, ys := ys, zs := zs, pids := pids, node := nd, n := (k : Int), parent := par0, length := acc } := by
  have hpe := RefineLm.node_parent_eq pids k (by omega)
  generalize pids.getD k (-1) = p at hpe ⊢
  by_cases hp : p = -1
  · subst hp
    simp [lm_path_distance.while1_body, Py.seq, Py.bind, hpe]
  · rw [if_neg hp]
    by_cases hv : 0 ≤ p ∧ p < n
    · rw [if_pos hv]
      obtain ⟨q, rfl⟩ : ∃ q : Nat, p = (q : Int) := ⟨p.toNat, by omega⟩
      simp [lm_path_distance.while1_body, Py.seq, Py.bind, hpe, hp, Py.skip, node_distance_eq norm hc k q hk (by omega)]
    · rw [if_neg hv]

/-- **`LMeasure.path_distance` as translated = PathDistance**: on every well-formed tree object, at every node, for every fuel
`≥ pids.length + 2`, the result is the sum of the lengths `norm (pos child − pos parent)` of the compartments on the node's root path, added
in order from the node upwards (the loop terminates; nothing raises) -/
theorem pathDistance_refines (norm : List K → K) {xs ys zs : List K} (pids : List Int) (hw : C07.WF pids) (hc : Cols pids.length xs ys zs)
    (k : Nat) (hk : k < pids.length) (F : Nat) :
    lm_path_distance norm (pids.length + 2 + F) pids xs ys zs (k : Int) = some (pathDistance norm pids xs ys zs (k : Int)) := by
  -- the loop, along the root path: from node `v` with `length = acc` it stops at the root (`break`) having added the lengths of the
  -- compartments of the path, in order; one pass per node of the path
  have loop := FeatP.rootPath_induction hw (P := fun v path => ∀ (par0 : Option Int) (acc : K) (F : Nat),
    Py.whileF (lm_path_distance.while1_cond norm) (lm_path_distance.while1_body norm) (F + path.length)
        { xs := xs, ys := ys, zs := zs, pids := pids, node := (k : Int), n := v, parent := par0, length := acc } =
      .next { xs := xs, ys := ys, zs := zs, pids := pids, node := (k : Int), n := 0, parent := none,
              length := sumFrom acc ((steps path).map fun e => dist norm xs ys zs e.1 e.2) })
    (by
      intro par0 acc F
      have hb := pd_body norm hc pids rfl k 0 hw.pos par0 acc
      rw [if_pos (show pids.getD 0 (-1) = -1 from hw.par_root)] at hb
      exact Py.whileF_brk (lm_path_distance.while1_cond norm) _ _ _ _ rfl hb)
    (by
      intro v hpos hv p hp hp0 hpv ih par0 acc F
      obtain ⟨j, rfl⟩ := Int.eq_ofNat_of_zero_le (Int.le_of_lt hpos)
      rw [Int.toNat_natCast] at hp
      have hb := pd_body norm hc pids rfl k j (Int.ofNat_lt.1 hv) par0 acc
      rw [hp, if_neg (by omega), if_pos ⟨hp0, hpv⟩] at hb
      obtain ⟨t, ht⟩ := List.head?_eq_some_iff.1 (Redir.rp_head pids pids.length p)
      rw [List.length_cons, ← Nat.add_assoc, Py.whileF_next (lm_path_distance.while1_cond norm) _ _ _ _ rfl hb, ih, ht]
      rfl)
    (k : Int) (Int.natCast_nonneg k) (Int.ofNat_lt.2 hk)
  obtain ⟨G, hG⟩ := Nat.exists_eq_add_of_le' (FeatP.rootPath_len hw (k : Int) (Int.natCast_nonneg k) (Int.ofNat_lt.2 hk))
  simp only [lm_path_distance, lm_path_distance.body, Py.seq]
  rw [show pids.length + 2 + F = (G + 2 + F) + (Redir.rootPath pids pids.length (k : Int)).length by omega, loop]
  rfl

/-! ## `LMeasure.euc_distance`, `diameter` -/

/-- **`LMeasure.euc_distance` as translated = EucDistance**: the norm of (point of the node − point of node 0) when the first row is typed as
soma; otherwise it raises (the `ValueError` of `Tree.soma`), at every node -/
theorem eucDistance_refines (norm : List K → K) {xs ys zs : List K} (ids pids types : List Int) (hc : Cols pids.length xs ys zs)
    (k : Nat) (hk : k < pids.length) :
    lm_euc_distance norm ids pids types xs ys zs (k : Int) =
      if types.head? = some Gen.Consts.type_soma then some (eucDistance norm xs ys zs (k : Int)) else none := by
  simp only [lm_euc_distance, lm_euc_distance.body, Py.seq, Py.bind, RefineLm.tree_soma_eq]
  by_cases h : types.head? = some Gen.Consts.type_soma
  · have := node_distance_eq norm hc k 0 hk (by omega)
    simp only [Int.natCast_zero] at this
    simp [h, this, Py.finish, eucDistance]
  · simp [h, Py.finish]

/-- **`LMeasure.diameter` as translated** = 2 · radius of the node (reads the radius column at the node's row) -/
theorem diameter_refines (F : Py.Fld K) (rs : List K) (k : Nat) (hk : k < rs.length) :
    lm_diameter F rs (k : Int) = some (diameter F rs (k : Int)) := by
  simp [lm_diameter, lm_diameter.body, Py.bind, Py.idx_nat_getD rs k default hk, Py.finish, diameter]

/-! ## bifurcation level: `_rall_power_d`, `pk_2`, `_bif_vector_local`, `bif_ampl_local` -/

/-- the children of a node of a tree object, in table order -/
abbrev kids (pids : List Int) (k : Int) : List Int := tableKids (Sub.rangeI pids.length) pids k

theorem kids_valid (pids : List Int) (k c : Int) (h : c ∈ kids pids k) : ∃ j : Nat, c = (j : Int) ∧ j < pids.length := by
  obtain ⟨h0, hlt, _⟩ := (C06.mem_tableKids pids k c).1 h
  exact ⟨c.toNat, by omega, hlt⟩

theorem kids_pair_valid {pids : List Int} {k a b : Int} (h : kids pids k = [a, b]) :
    ∃ ja jb : Nat, a = (ja : Int) ∧ b = (jb : Int) ∧ ja < pids.length ∧ jb < pids.length := by
  obtain ⟨ja, ha, hja⟩ := kids_valid pids k a (h ▸ List.mem_cons_self)
  obtain ⟨jb, hb, hjb⟩ := kids_valid pids k b (h ▸ List.mem_cons_of_mem _ List.mem_cons_self)
  exact ⟨ja, jb, ha, hb, hja, hjb⟩

theorem dec_len_pair (a b : Int) : decide (Py.len [a, b] = (2 : Int)) = true := by simp [Py.len]
theorem idx_pair0 (a b : Int) : Py.idx [a, b] (0 : Int) = some a := Py.idx_head _
theorem idx_pair1 (a b : Int) : Py.idx [a, b] (1 : Int) = some b := by simp [Py.idx, Py.normIdx]

/-- **`LMeasure._rall_power_d` as translated**: at a node with exactly two children `a`, `b` (table order) that has a parent `p`, the diameters
`(2·r[p], 2·r[a], 2·r[b])` -/
theorem rallPowerD_refines (F : Py.Fld K) (pids : List Int) (rs : List K) (hr : rs.length = pids.length) (k : Nat) (hk : k < pids.length)
    (a b : Int) (hkids : kids pids (k : Int) = [a, b]) (p : Nat) (hp : pids.getD k (-1) = (p : Int)) (hpv : p < pids.length) :
    lm_rall_power_d F (Sub.rangeI pids.length) pids rs (k : Int) = some (rallDiameters F rs (p : Int) a b) := by
  obtain ⟨ja, jb, rfl, rfl, hja, hjb⟩ := kids_pair_valid hkids
  have hne : ((p : Int) ≠ -1) := by omega
  simp -implicitDefEqProofs only [lm_rall_power_d, lm_rall_power_d.body, Py.seq_eq_bindS, Py.bindS_next, Py.bind_some,
    RefineLm.node_children_eq pids k hk, hkids, dec_len_pair, if_true, Option.isSome_some, RefineLm.node_parent_eq pids k hk, hp, if_neg hne,
    Py.idx_nat_getD rs p default (hr ▸ hpv), Py.idx_nat_getD rs ja default (hr ▸ hja), Py.idx_nat_getD rs jb default (hr ▸ hjb), Py.finish_ret, idx_pair0, idx_pair1, Option.map_some]
  rfl

/-- not a bifurcation (the number of children is not 2): the `assert` fails -/
theorem rallPowerD_not_bif (F : Py.Fld K) (pids : List Int) (rs : List K) (k : Nat) (hk : k < pids.length)
    (hkids : (kids pids (k : Int)).length ≠ 2) :
    lm_rall_power_d F (Sub.rangeI pids.length) pids rs (k : Int) = none := by
  have : ¬ (((kids pids (k : Int)).length : Int) = 2) := by omega
  simp [lm_rall_power_d, lm_rall_power_d.body, Py.seq, Py.bind, RefineLm.node_children_eq pids k hk, Py.len, this, Py.finish]

/-- at the root (no parent): the second `assert` fails -/
theorem rallPowerD_root (F : Py.Fld K) (pids : List Int) (rs : List K) (k : Nat) (hk : k < pids.length) (hp : pids.getD k (-1) = -1) :
    lm_rall_power_d F (Sub.rangeI pids.length) pids rs (k : Int) = none := by
  have hpar : node_parent pids (k : Int) = some none := by rw [RefineLm.node_parent_eq pids k hk, hp, if_pos rfl]
  by_cases h2 : (((kids pids (k : Int)).length : Int) = 2) <;>
    simp [lm_rall_power_d, lm_rall_power_d.body, Py.seq, Py.bind, RefineLm.node_children_eq pids k hk, Py.len, h2, hpar, Py.finish]

theorem powInt_two (x : K) : Py.LG.powInt x 2 = some ((1 : K) * x * x) := by
  simp [Py.LG.powInt, List.replicate]

/-- **`LMeasure.pk_2` as translated** = (d_a² + d_b²) / d_p² on the diameters of `_rall_power_d` (`none` when that is undefined or d_p² = 0) -/
theorem pk2_refines (F : Py.Fld K) (pids : List Int) (rs : List K) (hr : rs.length = pids.length) (k : Nat) (hk : k < pids.length)
    (a b : Int) (hkids : kids pids (k : Int) = [a, b]) (p : Nat) (hp : pids.getD k (-1) = (p : Int)) (hpv : p < pids.length) :
    lm_pk_2 F (Sub.rangeI pids.length) pids rs (k : Int) = pk2 F rs (p : Int) a b := by
  simp only [lm_pk_2, lm_pk_2.body, Py.seq_eq_bindS, Py.bindS_next, Py.bind_some, rallPowerD_refines F pids rs hr k hk a b hkids p hp hpv,
    rallDiameters, powInt_two, pk2, Py.finish_return]

/-- **`LMeasure._bif_vector_local` as translated**: at a node with exactly two children `a`, `b` the vectors (point a − point of the node,
point b − point of the node) -/
theorem bifVectorLocal_refines {xs ys zs : List K} (pids : List Int) (hc : Cols pids.length xs ys zs) (k : Nat) (hk : k < pids.length)
    (a b : Int) (hkids : kids pids (k : Int) = [a, b]) :
    lm_bif_vector_local (Sub.rangeI pids.length) pids xs ys zs (k : Int) = some (bifVectorsLocal xs ys zs (k : Int) a b) := by
  obtain ⟨ja, jb, rfl, rfl, hja, hjb⟩ := kids_pair_valid hkids
  simp -implicitDefEqProofs only [lm_bif_vector_local, lm_bif_vector_local.body, Py.seq_eq_bindS, Py.bindS_next, Py.bind_some,
    RefineLm.node_children_eq pids k hk, hkids, dec_len_pair, if_true, node_xyz_eq hc k hk, node_xyz_eq hc ja hja, node_xyz_eq hc jb hjb,
    subArr_pos, Py.finish_ret, idx_pair0, idx_pair1, Option.map_some]
  rfl

/-- not a bifurcation: the `assert` fails -/
theorem bifVectorLocal_not_bif {xs ys zs : List K} (pids : List Int) (k : Nat) (hk : k < pids.length)
    (hkids : (kids pids (k : Int)).length ≠ 2) :
    lm_bif_vector_local (Sub.rangeI pids.length) pids xs ys zs (k : Int) = none := by
  have : ¬ (((kids pids (k : Int)).length : Int) = 2) := by omega
  simp [lm_bif_vector_local, lm_bif_vector_local.body, Py.seq, Py.bind, RefineLm.node_children_eq pids k hk, Py.len, this, Py.finish]

/-- `bif_ampl_local` is `degrees (angle …)` of the two vectors `_bif_vector_local` returns, on any table at any node; it raises where
`_bif_vector_local` or `angle` does -/
theorem bifAmplLocal_eq (angle : List K → List K → Option K) (degrees : K → K) (ids pids : List Int) (xs ys zs : List K) (k : Int) :
    lm_bif_ampl_local angle degrees ids pids xs ys zs k =
      (lm_bif_vector_local ids pids xs ys zs k).bind fun p => (angle p.1 p.2).map degrees := by
  simp only [lm_bif_ampl_local, lm_bif_ampl_local.body, Py.seq_eq_bindS]
  cases lm_bif_vector_local ids pids xs ys zs k with
  | none => rfl
  | some p => exact Py.finish_bind_ret _ _ _ degrees

/-- **`LMeasure.bif_ampl_local` as translated** = `degrees (angle (a − v) (b − v))` for the two children `a`, `b` of the bifurcation `v`
(`angle` raises on a zero vector: `none`) -/
theorem bifAmplLocal_refines (angle : List K → List K → Option K) (degrees : K → K) {xs ys zs : List K} (pids : List Int)
    (hc : Cols pids.length xs ys zs) (k : Nat) (hk : k < pids.length) (a b : Int) (hkids : kids pids (k : Int) = [a, b]) :
    lm_bif_ampl_local angle degrees (Sub.rangeI pids.length) pids xs ys zs (k : Int) =
      (angle (bifVectorsLocal xs ys zs (k : Int) a b).1 (bifVectorsLocal xs ys zs (k : Int) a b).2).map degrees := by
  rw [bifAmplLocal_eq, bifVectorLocal_refines pids hc k hk a b hkids]; rfl

/-! ## branch level: `Path.length`, `branch_pathlength`, `contraction`, `taper_1`, `taper_2` -/

/-- a branch (list of node indices) of a tree with `n` nodes -/
def ValidBranch (n : Nat) (br : List Int) : Prop := ∀ i ∈ br, 0 ≤ i ∧ i < (n : Int)

theorem ValidBranch.nat {n : Nat} {br : List Int} (hb : ValidBranch n br) {i : Int} (hi : i ∈ br) : ∃ j : Nat, i = (j : Int) ∧ j < n := by
  have := hb i hi
  exact ⟨i.toNat, by omega, by omega⟩

theorem gatherRows_eq {n : Nat} {xs ys zs : List K} (hc : Cols n xs ys zs) (br : List Int) (hb : ValidBranch n br) :
    Py.LG.gatherRows [xs, ys, zs] br = some (br.map (pos xs ys zs)) :=
  Py.mapM_eq_some_map _ _ br fun i hi => by
    obtain ⟨j, rfl, hj⟩ := hb.nat hi
    simp [List.mapM_cons, Py.idx_nat_getD xs j default (hc.hx ▸ hj), Py.idx_nat_getD ys j default (hc.hy ▸ hj), Py.idx_nat_getD zs j default (hc.hz ▸ hj), pos]

theorem subRows_steps (P : Int → List K) (hP : ∀ a b, Py.LG.subArr (P a) (P b) = some (vsub (P a) (P b))) :
    ∀ l : List Int, Py.LG.subRows ((l.map P).drop 1) ((l.map P).dropLast) = some ((l.tail.zip l).map fun e => vsub (P e.1) (P e.2))
  | [] => by simp [Py.LG.subRows]
  | [a] => by simp [Py.LG.subRows]
  | a :: b :: t => by
    have ih := subRows_steps P hP (b :: t)
    simp only [List.map_cons, List.drop_one, List.tail_cons, List.dropLast_cons_cons] at ih ⊢
    simp [Py.LG.subRows, hP, ih]

/-- **`Path.length` as translated** = the sum, in order, of `norm (pos later − pos earlier)` over the consecutive nodes of the path -/
theorem pathLength_refines (norm : List K → K) {n : Nat} {xs ys zs : List K} (hc : Cols n xs ys zs) (br : List Int) (hb : ValidBranch n br) :
    path_length norm xs ys zs br = some (branchLength norm xs ys zs br) := by
  simp only [path_length, path_length.body, Py.seq, Py.bind, gatherRows_eq hc br hb,
    subRows_steps (pos xs ys zs) (fun a b => subArr_pos xs ys zs a b) br, Py.finish, Option.map, branchLength, Py.LG.sumK, sumFrom,
    List.map_map]
  rfl

/-- **`LMeasure.branch_pathlength` as translated = Branch_pathlength** -/
theorem branchPathlength_refines (norm : List K → K) {n : Nat} {xs ys zs : List K} (hc : Cols n xs ys zs) (br : List Int)
    (hb : ValidBranch n br) :
    lm_branch_pathlength norm xs ys zs br = some (branchLength norm xs ys zs br) := by
  simp only [lm_branch_pathlength, lm_branch_pathlength.body, Py.bind, pathLength_refines norm hc br hb, Py.finish, Option.map]

theorem branch_ends {n : Nat} (a : Int) (t : List Int) (hb : ValidBranch n (a :: t)) :
    ∃ ja jb : Nat, a = (ja : Int) ∧ (a :: t).getLast? = some (jb : Int) ∧ ja < n ∧ jb < n := by
  have hl := List.getLast?_eq_some_getLast (List.cons_ne_nil a t)
  obtain ⟨ja, ha, hja⟩ := hb.nat List.mem_cons_self
  obtain ⟨jb, hjb, hjbn⟩ := hb.nat (List.mem_of_getLast? hl)
  exact ⟨ja, jb, ha, hjb ▸ hl, hja, hjbn⟩

/-- **`LMeasure.contraction` as translated = Contraction**: distance(first node, last node) / path length of the branch; `none` (the source
raises) for an empty branch and when the path length is 0 -/
theorem contraction_refines (F : Py.Fld K) (norm : List K → K) {n : Nat} {xs ys zs : List K} (hc : Cols n xs ys zs) (br : List Int)
    (hb : ValidBranch n br) :
    lm_contraction F norm xs ys zs br = contraction F norm xs ys zs br := by
  cases br with
  | nil => simp [lm_contraction, lm_contraction.body, Py.seq, Py.bind, Py.idx_head, Py.finish, contraction]
  | cons a t =>
    obtain ⟨ja, jb, rfl, hbl, hja, hjb⟩ := branch_ends a t hb
    simp only [lm_contraction, lm_contraction.body, Py.seq_eq_bindS, Py.bindS_next, Py.bind_some, Py.idx_head, Py.idx_last, hbl,
      List.head?_cons, node_distance_eq norm hc ja jb hja hjb, pathLength_refines norm hc _ hb, contraction, Py.finish_return]

/-- **`LMeasure.taper_1` as translated**: (2·r[first] − 2·r[last]) / path length of the branch -/
theorem taper1_refines (F : Py.Fld K) (norm : List K → K) {n : Nat} {xs ys zs rs : List K} (hc : Cols n xs ys zs) (hr : rs.length = n)
    (br : List Int) (hb : ValidBranch n br) :
    lm_taper_1 F norm xs ys zs rs br = taper1 F norm xs ys zs rs br := by
  cases br with
  | nil => simp [lm_taper_1, lm_taper_1.body, Py.seq, Py.bind, Py.idx_head, Py.finish, taper1]
  | cons a t =>
    obtain ⟨ja, jb, rfl, hbl, hja, hjb⟩ := branch_ends a t hb
    simp only [lm_taper_1, lm_taper_1.body, Py.seq_eq_bindS, Py.bindS_next, Py.bind_some, Py.idx_head, Py.idx_last, hbl, List.head?_cons,
      Py.idx_nat_getD rs ja default (hr ▸ hja), Py.idx_nat_getD rs jb default (hr ▸ hjb), pathLength_refines norm hc _ hb, taper1, diameter, Int.toNat_natCast,
      Py.finish_return]

/-- **`LMeasure.taper_2` as translated**: (2·r[first] − 2·r[last]) / (2·r[first]) -/
theorem taper2_refines (F : Py.Fld K) {n : Nat} {rs : List K} (hr : rs.length = n) (br : List Int) (hb : ValidBranch n br) :
    lm_taper_2 F rs br = taper2 F rs br := by
  cases br with
  | nil => simp [lm_taper_2, lm_taper_2.body, Py.seq, Py.bind, Py.idx_head, Py.finish, taper2]
  | cons a t =>
    obtain ⟨ja, jb, rfl, hbl, hja, hjb⟩ := branch_ends a t hb
    simp only [lm_taper_2, lm_taper_2.body, Py.seq_eq_bindS, Py.bindS_next, Py.bind_some, Py.idx_head, Py.idx_last, hbl, List.head?_cons,
      Py.idx_nat_getD rs ja default (hr ▸ hja), Py.idx_nat_getD rs jb default (hr ▸ hjb), taper2, diameter, Int.toNat_natCast, Py.finish_return]

/-! ## `_bif_vector_remote`, `bif_ampl_remote` -/

theorem branch_last {pids : List Int} (hw : C07.WF pids) (c : Int) (h0 : 0 ≤ c) (hc : c < pids.length) (Fu : Nat) :
    ∃ l : Nat, (RefineNodeBranch.nodeBranch pids Fu c).getLast? = some (l : Int) ∧ l < pids.length := by
  have hv : ValidBranch pids.length _ := RefineNodeBranch.nodeBranch_valid hw Fu c h0 hc
  obtain ⟨u, hu⟩ := RefineNodeBranch.upC_cons hw Fu c h0 hc
  obtain ⟨a, t, e⟩ := List.exists_cons_of_ne_nil (show RefineNodeBranch.nodeBranch pids Fu c ≠ [] by simp [RefineNodeBranch.nodeBranch, hu])
  rw [e] at hv ⊢
  obtain ⟨_, l, -, hl, -, hlt⟩ := branch_ends a t hv
  exact ⟨l, hl, hlt⟩

/-- **`LMeasure._bif_vector_remote` as translated**: at a node `v` with exactly two children `a`, `b` of a well-formed tree the vectors are
(point of the LAST node of the branch through `a` − point of `v`, the same for `b`), the branch being what `Tree.Node.branch` returns
(`nodeBranch`: from the child down through only-children to the next furcation or tip), for every fuel `≥ n + 1` -/
theorem bifVectorRemote_refines {xs ys zs : List K} (pids : List Int) (hw : C07.WF pids) (hc : Cols pids.length xs ys zs) (k : Nat)
    (hk : k < pids.length) (a b : Int) (hkids : kids pids (k : Int) = [a, b]) (Fu : Nat) (hF : pids.length + 1 ≤ Fu) :
    ∃ la lb : Nat, (RefineNodeBranch.nodeBranch pids Fu a).getLast? = some (la : Int) ∧ (RefineNodeBranch.nodeBranch pids Fu b).getLast? = some (lb : Int) ∧
      lm_bif_vector_remote Fu (Sub.rangeI pids.length) pids xs ys zs (k : Int) =
        some (vsub (pos xs ys zs (la : Int)) (pos xs ys zs (k : Int)), vsub (pos xs ys zs (lb : Int)) (pos xs ys zs (k : Int))) := by
  obtain ⟨ja, jb, rfl, rfl, hja, hjb⟩ := kids_pair_valid hkids
  obtain ⟨la, hla, hlav⟩ := branch_last hw (ja : Int) (Int.natCast_nonneg ja) (Int.ofNat_lt.2 hja) Fu
  obtain ⟨lb, hlb, hlbv⟩ := branch_last hw (jb : Int) (Int.natCast_nonneg jb) (Int.ofNat_lt.2 hjb) Fu
  refine ⟨la, lb, hla, hlb, ?_⟩
  simp -implicitDefEqProofs only [lm_bif_vector_remote, lm_bif_vector_remote.body, Py.seq_eq_bindS, Py.bindS_next, Py.bind_some,
    RefineLm.node_children_eq pids k hk, hkids, dec_len_pair, if_true, idx_pair0, idx_pair1,
    RefineNodeBranch.nodeBranch_refines hw (ja : Int) (Int.natCast_nonneg ja) (Int.ofNat_lt.2 hja) Fu hF,
    RefineNodeBranch.nodeBranch_refines hw (jb : Int) (Int.natCast_nonneg jb) (Int.ofNat_lt.2 hjb) Fu hF, Py.idx_last, hla, hlb,
    node_xyz_eq hc k hk, node_xyz_eq hc la hlav, node_xyz_eq hc lb hlbv, subArr_pos, Py.finish_ret, Option.map_some]

/-- `bif_ampl_remote` is `degrees (angle …)` of the two vectors `_bif_vector_remote` returns, on any table at any node -/
theorem bifAmplRemote_eq (angle : List K → List K → Option K) (degrees : K → K) (Fu : Nat) (ids pids : List Int) (xs ys zs : List K)
    (k : Int) :
    lm_bif_ampl_remote angle degrees Fu ids pids xs ys zs k =
      (lm_bif_vector_remote Fu ids pids xs ys zs k).bind fun p => (angle p.1 p.2).map degrees := by
  simp only [lm_bif_ampl_remote, lm_bif_ampl_remote.body, Py.seq_eq_bindS]
  cases lm_bif_vector_remote Fu ids pids xs ys zs k with
  | none => rfl
  | some p => exact Py.finish_bind_ret _ _ _ degrees

/-- **`LMeasure.bif_ampl_remote` as translated** = `degrees (angle …)` of exactly these two vectors -/
theorem bifAmplRemote_refines (angle : List K → List K → Option K) (degrees : K → K) {xs ys zs : List K} (pids : List Int) (hw : C07.WF pids)
    (hc : Cols pids.length xs ys zs) (k : Nat) (hk : k < pids.length) (a b : Int) (hkids : kids pids (k : Int) = [a, b]) (Fu : Nat)
    (hF : pids.length + 1 ≤ Fu) :
    ∃ la lb : Nat, (RefineNodeBranch.nodeBranch pids Fu a).getLast? = some (la : Int) ∧ (RefineNodeBranch.nodeBranch pids Fu b).getLast? = some (lb : Int) ∧
      lm_bif_ampl_remote angle degrees Fu (Sub.rangeI pids.length) pids xs ys zs (k : Int) =
        (angle (vsub (pos xs ys zs (la : Int)) (pos xs ys zs (k : Int))) (vsub (pos xs ys zs (lb : Int)) (pos xs ys zs (k : Int)))).map degrees := by
  obtain ⟨la, lb, hla, hlb, e⟩ := bifVectorRemote_refines pids hw hc k hk a b hkids Fu hF
  exact ⟨la, lb, hla, hlb, by rw [bifAmplRemote_eq, e]; rfl⟩

/-- not a bifurcation: the `assert` fails -/
theorem bifVectorRemote_not_bif {xs ys zs : List K} (pids : List Int) (k : Nat) (hk : k < pids.length)
    (hkids : (kids pids (k : Int)).length ≠ 2) (Fu : Nat) :
    lm_bif_vector_remote Fu (Sub.rangeI pids.length) pids xs ys zs (k : Int) = none := by
  have : ¬ (((kids pids (k : Int)).length : Int) = 2) := by omega
  simp [lm_bif_vector_remote, lm_bif_vector_remote.body, Py.seq, Py.bind, RefineLm.node_children_eq pids k hk, Py.len, this, Py.finish]

/-! ## compartment level: `length`, `section_area`, `volume`, `surface` -/

/-- **`LMeasure.length` as translated** = the length of the compartment (`Path.length` of its index list; for `[a, b]` it is `0 + norm (pos b − pos a)`) -/
theorem length_refines (norm : List K → K) {n : Nat} {xs ys zs : List K} (hc : Cols n xs ys zs) (c : List Int) (hb : ValidBranch n c) :
    lm_length norm xs ys zs c = some (branchLength norm xs ys zs c) := by
  simp only [lm_length, lm_length.body, Py.bind, pathLength_refines norm hc c hb, Py.finish, Option.map]

theorem circle_area_eq (pi r : K) : circle_area pi r = some (pi * ((1 : K) * r * r)) := by
  simp [circle_area, circle_area.body, Py.bind, powInt_two, Py.finish]

theorem cylinder_volume_eq (pi r h : K) : cylinder_volume pi r h = some (pi * ((1 : K) * r * r) * h) := by
  simp [cylinder_volume, cylinder_volume.body, Py.bind, powInt_two, Py.finish]

theorem cylinder_side_eq (F : Py.Fld K) (pi r h : K) : cylinder_side_surface_area F pi r h = some ((Py.Fld.ofInt 2 : K) * pi * r * h) := by
  simp [cylinder_side_surface_area, cylinder_side_surface_area.body, Py.finish]

/-- **`LMeasure.section_area` as translated** = π · r[k]² -/
theorem sectionArea_refines (pi : K) (rs : List K) (k : Nat) (hk : k < rs.length) :
    lm_section_area pi rs (k : Int) = some (sectionArea pi rs (k : Int)) := by
  simp [lm_section_area, lm_section_area.body, Py.bind, Py.idx_nat_getD rs k default hk, circle_area_eq, Py.finish, sectionArea]

theorem idx_valid {n : Nat} {c : List Int} (hb : ValidBranch n c) {cp p : Int} (hp : Py.idx c cp = some p) :
    ∃ j : Nat, p = (j : Int) ∧ j < n := by
  refine hb.nat ?_
  rw [Py.idx] at hp
  split at hp
  · cases hp
  · exact List.mem_of_getElem? hp

/-- **`LMeasure.volume` as translated** = π · r[p]² · length, where `p = compartment[compartment_point]` is the node the option selects -/
theorem volume_refines (norm : List K → K) (pi : K) (cp : Int) {n : Nat} {xs ys zs rs : List K} (hc : Cols n xs ys zs) (hr : rs.length = n)
    (c : List Int) (hb : ValidBranch n c) (p : Int) (hp : Py.idx c cp = some p) :
    lm_volume norm pi cp xs ys zs rs c = some (volume norm pi xs ys zs rs c p) := by
  obtain ⟨j, rfl, hj⟩ := idx_valid hb hp
  simp only [lm_volume, lm_volume.body, Py.seq, Py.bind, hp, Py.idx_nat_getD rs j default (hr ▸ hj), pathLength_refines norm hc c hb, cylinder_volume_eq,
    Py.finish, Option.map, volume, Int.toNat_natCast]

/-- **`LMeasure.surface` as translated** = 2 · π · r[p] · length, `p = compartment[compartment_point]` -/
theorem surface_refines (F : Py.Fld K) (norm : List K → K) (pi : K) (cp : Int) {n : Nat} {xs ys zs rs : List K} (hc : Cols n xs ys zs)
    (hr : rs.length = n) (c : List Int) (hb : ValidBranch n c) (p : Int) (hp : Py.idx c cp = some p) :
    lm_surface F norm pi cp xs ys zs rs c = some (surface F norm pi xs ys zs rs c p) := by
  obtain ⟨j, rfl, hj⟩ := idx_valid hb hp
  simp only [lm_surface, lm_surface.body, Py.seq, Py.bind, hp, Py.idx_nat_getD rs j default (hr ▸ hj), pathLength_refines norm hc c hb, cylinder_side_eq,
    Py.finish, Option.map, surface, Int.toNat_natCast]

/-- which node the option selects on a compartment `[a, b]`: `0` the first (parent) node, `-1` the last (the node itself) -/
theorem comp_point (a b : Int) : Py.idx [a, b] (0 : Int) = some a ∧ Py.idx [a, b] (-1 : Int) = some b :=
  ⟨Py.idx_head _, Py.idx_last _⟩

end RefineLmGeo
