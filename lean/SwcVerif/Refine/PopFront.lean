import SwcVerif.Gen.AlgoPopFront
import SwcVerif.Refine.Population
/-! Refinement for the FRONT END of C19: the definitions GENERATED from `swcgeom/core/population.py` for `Population.__init__ /
__getitem__ / __len__` (over a `LazyLoadingTrees`), `NestTrees.__init__ / __getitem__ / __len__` over a lazy container (what a slice
of a population is) compute what the state machine `Pop.Lazy` of `Model/Population.lean` computes; file reads are the state-passing
callback `Pop.readLog`, the generated object represents a model state through `RefinePop.LRep`. -/
namespace RefinePopFront
open Gen.Algo Pop Py RefinePop

theorem pop_len_eq (p : Population) : pop_len p = some (p.trees.swcs.length : Int) := rfl

/-- `len(population)` -/
theorem pop_len_refines {g : LazyLoadingTrees} {l : Lazy} (h : LRep g l) (root : String) :
    pop_len ⟨g, root⟩ = some ((l.len : Nat) : Int) := by
  rw [pop_len_eq, h.swcs_len]

theorem pop_getitem_int_rep (l : Lazy) (root : String) (key : Int) :
    pop_getitem_int readLog ⟨rep l, root⟩ key (castL l.log) =
      (l.get key).map fun r => (⟨rep r.1, root⟩, castL r.1.log, some (r.2 : Int)) := by
  simp only [pop_getitem_int, pop_getitem_int.body, seq, skip, Py.bind, getitem_rep]
  cases l.get key <;> rfl

/-- **`Population.__getitem__(int)` as translated** is the container's `__getitem__`: exactly `Lazy.get` -/
theorem pop_getitem_int_refines {g : LazyLoadingTrees} {l : Lazy} (h : LRep g l) (root : String) (key : Int) :
    (match l.get key with
     | none => pop_getitem_int readLog ⟨g, root⟩ key (castL l.log) = none
     | some (l', k) => ∃ g', pop_getitem_int readLog ⟨g, root⟩ key (castL l.log) = some (⟨g', root⟩, castL l'.log, some (k : Int)) ∧ LRep g' l') :=
  h.of_rep key (fun g => pop_getitem_int readLog ⟨g, root⟩ key (castL l.log)) (⟨·, root⟩) (pop_getitem_int_rep l root key)

/-- `Population(trees, root=…)` on any lazy container: the test `isinstance(swcs[0], str)` indexes the container when there is a file -/
theorem pop_init_eq (p0 : Population) (g : LazyLoadingTrees) (root : String) (log : List Int) :
    pop_init readLog p0 g root log =
      if 0 < g.swcs.length then (lazy_getitem readLog g 0 log).map fun r => (⟨r.1, root⟩, r.2.1, ()) else some (⟨g, root⟩, log, ()) := by
  simp only [pop_init, pop_init.body, seq, skip, Py.bind, lazy_len_eq, gt_iff_lt, Int.natCast_pos]
  -- the closing warning about an empty population changes no variable that is returned
  by_cases hn : 0 < g.swcs.length
  · simp only [hn, decide_true, if_true]
    cases lazy_getitem readLog g 0 log with
    | none => rfl
    | some r => simp only [Option.map_some]; split <;> rfl
  · simp only [hn, decide_false, Bool.false_eq_true, if_false]; split <;> rfl

/-- **`Population(trees, root=…)` as translated**, for a lazy container: the only read is the probe of file 0 (the test
`isinstance(swcs[0], str)`), and only when there is a file; the population then holds the (probed) container -/
theorem pop_init_refines {g : LazyLoadingTrees} {l : Lazy} (h : LRep g l) (p0 : Population) (root : String) :
    ∃ g', pop_init readLog p0 g root (castL l.log) =
        some (⟨g', root⟩, castL (if l.len > 0 then l.load 0 else l).log, ()) ∧
      LRep g' (if l.len > 0 then l.load 0 else l) := by
  rw [pop_init_eq, h.swcs_len, h.eq_rep]
  by_cases hn : 0 < l.len
  · have hg : l.get 0 = some (l.load 0, 0) := C19.get_nat l 0 hn
    rw [if_pos hn, if_pos hn, getitem_rep, hg]
    exact ⟨_, rfl, rep_spec _⟩
  · rw [if_neg hn, if_neg hn]
    exact ⟨_, rfl, rep_spec l⟩

/-- `NestTrees(trees, idx)` as translated -/
theorem nestl_init_eq (n0 : NestLazy) (g : LazyLoadingTrees) (idx : List Int) : nestl_init n0 g idx = some (⟨g, idx⟩, ()) := rfl

theorem nestl_len_eq (g : LazyLoadingTrees) (idx : List Int) : nestl_len ⟨g, idx⟩ = some (idx.length : Int) := by
  simp [nestl_len, nestl_len.body, finish]

/-- `NestTrees.__getitem__` over the container that represents `l` -/
theorem nestl_getitem_rep (l : Lazy) (idx : List Int) (key : Int) :
    nestl_getitem readLog ⟨rep l, idx⟩ key (castL l.log) =
      (Py.idx idx key).bind fun j => (l.get j).map fun r => (⟨rep r.1, idx⟩, castL r.1.log, some (r.2 : Int)) := by
  simp only [nestl_getitem, nestl_getitem.body, Py.bind]
  cases Py.idx idx key with
  | none => rfl
  | some j => simp only [Option.bind_some, getitem_rep]; cases l.get j <;> rfl

/-- **`NestTrees.__getitem__` over a lazy container as translated**: `idx[key]` by Python list indexing (IndexError outside
`-len(idx) ≤ key < len(idx)`), then the CONTAINER's `__getitem__` on that entry — exactly `Lazy.get` of the entry -/
theorem nestl_getitem_refines {g : LazyLoadingTrees} {l : Lazy} (h : LRep g l) (idx : List Int) (key : Int) :
    (match Py.idx idx key with
     | none => nestl_getitem readLog ⟨g, idx⟩ key (castL l.log) = none
     | some j => match l.get j with
       | none => nestl_getitem readLog ⟨g, idx⟩ key (castL l.log) = none
       | some (l', k) => ∃ g', nestl_getitem readLog ⟨g, idx⟩ key (castL l.log) = some (⟨g', idx⟩, castL l'.log, some (k : Int)) ∧ LRep g' l') := by
  cases hj : Py.idx idx key with
  | none => rw [h.eq_rep, nestl_getitem_rep, hj]; rfl
  | some j =>
    refine h.of_rep j (fun g => nestl_getitem readLog ⟨g, idx⟩ key (castL l.log)) (⟨·, idx⟩) ?_
    rw [nestl_getitem_rep, hj]; rfl

/-- **`Population.__getitem__(slice)` as translated**: the `NestTrees` over THE container of the population and the index list
`range(*key.indices(len(self)))`; ValueError (step 0) is the only failure -/
theorem pop_getitem_slice_refines {g : LazyLoadingTrees} {l : Lazy} (h : LRep g l) (root : String) (s : Py.PF.Slice) :
    pop_getitem_slice ⟨g, root⟩ s = ((Py.PF.sliceIndices s (l.len : Int)).bind Py.PF.range3).map (fun idx => ⟨g, idx⟩) := by
  simp only [pop_getitem_slice, pop_getitem_slice.body, seq, skip, Py.bind, pop_len_eq, h.swcs_len]
  cases Py.PF.sliceIndices s (l.len : Int) with
  | none => rfl
  | some t => simp only [Option.bind_some]; cases Py.PF.range3 t <;> rfl

end RefinePopFront
