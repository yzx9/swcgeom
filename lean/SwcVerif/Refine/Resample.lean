import SwcVerif.Gen.AlgoResample
import SwcVerif.Model.Resample
import SwcVerif.Refine.PyArrays
import SwcVerif.Refine.PyRun
import SwcVerif.Props.C16
import Mathlib.Algebra.Order.Field.Rat
import Mathlib.Algebra.Order.Floor.Ring
import Mathlib.Tactic.Linarith
import Mathlib.Tactic.Ring
/-! # C16: the GENERATED resamplers and smoother (`Gen/AlgoResample.lean`, translated from `swcgeom/transforms/branch.py` on every run)
equal the hand-written models of `Model/Resample.lean`

First the numpy semantics of `Model/PyResample.lean` at `K = Rat`: each library function is the model function it stands for
(`cumsumK`/`cumdist`, `linspace0`/`linspace`, `arange0`/`arange`, `interp`/`interp`) and the `(N, 4)` arrays by rows and by columns; then,
for each of the three generated functions, what it needs besides (the column stores of the isometric resampler; `convolveSame`/`convSame`
and the slice assignment of the smoother) and its refinement theorem: `linResample_refines`, `isoResample_refines`, `convSmooth_refines`. -/
namespace RefineResample
open Py Resample


theorem cumsumFrom_cumdist : ∀ (l : List Rat) (acc : Rat), acc :: cumsumFrom acc l = (cumdist l).map (acc + ·)
  | [], acc => by rw [cumdist, List.map_singleton, add_zero]; rfl
  | x :: xs, acc => by
    rw [cumsumFrom, cumsumFrom_cumdist xs (acc + x), cumdist, List.map_cons, add_zero, List.map_map]
    exact congrArg _ (List.map_congr_left fun y _ => by rw [Function.comp_apply, add_assoc, add_comm x])

/-- `np.concatenate([[0], np.cumsum(lens)])` / `np.insert(np.cumsum(lens), 0, 0)` are the model's arc-length positions -/
theorem cumsumK_cumdist (l : List Rat) : (0 : Rat) :: cumsumK l = cumdist l := by
  rw [cumsumK, cumsumFrom_cumdist]
  simp

theorem npInsert_zero {α : Type} (a : List α) (x : α) : npInsert a (0 : Int) x = some (x :: a) := by
  simp [npInsert]

/-- numpy's precondition on `xp`, as the predicate of `Props/C16.lean` -/
theorem nondecr_of_mono : ∀ l : List Rat, C16.Mono l → nondecr l = true
  | [], _ => rfl
  | [_], _ => rfl
  | a :: b :: t, h => by rw [nondecr, decide_eq_true h.1, nondecr_of_mono (b :: t) h.2]; rfl

theorem nondecr_cumdist (l : List Rat) (h : ∀ x ∈ l, 0 ≤ x) : nondecr (cumdist l) = true :=
  nondecr_of_mono _ (C16.cumdist_spec l h).2.2.2

theorem idx_last {α : Type} (l : List α) (d : α) (h : l ≠ []) : idx l (-(1 : Int)) = some (l.getLastD d) := by
  rw [Py.idx_last, List.getLastD_eq_getLast?, List.getLast?_eq_some_getLast h]
  rfl

/-- the scan of `np.interp` is the model's scan (`xa ≤ x`) -/
theorem interpGo_eq (x : Rat) : ∀ (xr fr : List Rat) (xa fa : Rat), xa ≤ x →
    interpGo x xa fa xr fr = Resample.interp1.go x xa fa xr fr
  | [], _, _, _, _ | _ :: _, [], _, _, _ => rfl
  | xb :: xr, fb :: fr, xa, fa, h => by
    refine ite_congr rfl (fun _ => ?_) fun hx => interpGo_eq x xr fr xb fb (not_lt.mp hx)
    split
    · rw [add_comm, mul_comm]; rfl
    · next hxa =>
      -- numpy returns `fa` at a sample point; there `x = xa`, and the model's formula gives `fa` too
      rw [le_antisymm (not_lt.mp hxa) h, sub_self, zero_mul, add_zero]

theorem interp1_eq (xp fp : List Rat) (x : Rat) : Py.interp1 xp fp x = Resample.interp1 xp fp x :=
  match xp, fp with
  | [], _ | _ :: _, [] => rfl
  | x0 :: xr, f0 :: fr => ite_congr rfl (fun _ => rfl) fun h => interpGo_eq x xr fr x0 f0 (not_lt.mp h)

/-- `np.interp` on sample points of equal number, non-empty and non-decreasing, is the model's `interp` -/
theorem interp_eq (xs xp fp : List Rat) (hl : xp.length = fp.length) (hne : xp ≠ []) (hm : nondecr xp = true) :
    Py.interp xs xp fp = some (Resample.interp xs xp fp) := by
  rw [Py.interp, if_pos ⟨hl, hne, hm⟩, funext (interp1_eq xp fp)]
  rfl

/-- `np.linspace(0, L, n)` is the model's `linspace` -/
theorem linspace0_eq (L : Rat) (n : Nat) : Py.linspace0 L (n : Int) = some (Resample.linspace L n) := by
  rw [Py.linspace0, if_neg (Int.natCast_nonneg n).not_gt, Int.toNat_natCast, Resample.linspace, apply_ite some]
  refine ite_congr (propext Nat.cast_le_one) (fun _ => rfl) fun h1 => ?_
  have hc : Fld.ofInt ((n : Int) - 1) = ((n - 1 : Nat) : Rat) := by
    rw [Nat.cast_pred (Nat.lt_of_not_le h1).le]
    exact Int.cast_sub ..
  rw [hc]
  rfl

/-- `np.arange(0, L, d)` for `d > 0` is the model's `arange` -/
theorem arange0_eq (L d : Rat) (hd : 0 < d) : Py.arange0 L d = some (Resample.arange L d) := by
  simp [Py.arange0, hd, Resample.arange, Fld.ceil, Fld.div, Fld.ofInt]

theorem fdiv_eq (a b : Rat) (hb : 0 < b) : Py.fdiv a b = some (a / b) := by
  simp [Py.fdiv, hb, Fld.div]

/-! ### 2-d arrays -/

/-- the four columns of an `(N, 4)` array given by its rows -/
def colsOf (rows : List (List Rat)) : List (List Rat) :=
  [rows.map (·.getD 0 0), rows.map (·.getD 1 0), rows.map (·.getD 2 0), rows.map (·.getD 3 0)]
/-- the `(n, k)` array with the given `k` columns (each of length `n`), by rows -/
def rowsOf (cols : List (List Rat)) (n : Nat) : List (List Rat) := (List.range n).map fun i => cols.map (·.getD i 0)

theorem col_nat (rows : List (List Rat)) (j : Nat) (h : ∀ r ∈ rows, j < r.length) :
    Py.col rows (j : Int) = some (rows.map (·.getD j 0)) :=
  mapOpt_total _ _ rows (fun r hr => idx_nat_getD r j 0 (h r hr))

theorem transpose2_cols (cols : List (List Rat)) (n : Nat) (h : ∀ c ∈ cols, c.length = n) (hne : cols ≠ []) :
    Py.transpose2 cols = some (rowsOf cols n) := by
  cases cols with
  | nil => exact absurd rfl hne
  | cons c cs =>
    have hc : c.length = n := h c List.mem_cons_self
    have hall : (cs.all fun r' => decide (r'.length = c.length)) = true := by
      simp only [List.all_eq_true, decide_eq_true_eq]
      intro r hr; rw [hc]; exact h r (List.mem_cons_of_mem _ hr)
    simp only [Py.transpose2, hall, if_true, rowsOf]
    rw [hc]
    congr 1
    apply List.map_congr_left
    intro i hi
    have hi' : i < n := List.mem_range.mp hi
    rw [← List.filterMap_eq_map]
    refine List.filterMap_congr fun a ha => ?_
    have hia : i < a.length := h a ha ▸ hi'
    exact (List.getElem?_eq_getElem hia).trans (congrArg some (getD_eq_getElem a 0 hia).symm)

theorem stack1_cols (cols : List (List Rat)) (n : Nat) (h : ∀ c ∈ cols, c.length = n) (hne : cols ≠ []) :
    Py.stack1 cols = some (rowsOf cols n) := by
  cases cols with
  | nil => exact absurd rfl hne
  | cons c cs => simp only [Py.stack1, List.isEmpty_cons, Bool.false_eq_true, if_false]; exact transpose2_cols _ n h hne

theorem interp_length (xs xp fp : List Rat) : (Resample.interp xs xp fp).length = xs.length := by
  simp [Resample.interp]

open Gen.Algo

theorem cols_four (rows : List (List Rat)) (hrow : ∀ r ∈ rows, r.length = 4) :
    Py.col rows (0 : Int) = some (rows.map (·.getD 0 0)) ∧ Py.col rows (1 : Int) = some (rows.map (·.getD 1 0)) ∧
    Py.col rows (2 : Int) = some (rows.map (·.getD 2 0)) ∧ Py.col rows (3 : Int) = some (rows.map (·.getD 3 0)) :=
  have hc := fun (j : Nat) (hj : j < 4) => col_nat rows j fun r hr => (hrow r hr).symm ▸ hj
  ⟨hc 0 (by decide), hc 1 (by decide), hc 2 (by decide), hc 3 (by decide)⟩

theorem interp_cumdist (lens : List Rat) (hpos : ∀ l ∈ lens, 0 ≤ l) (rows : List (List Rat)) (hl : lens.length + 1 = rows.length)
    (xs : List Rat) (j : Nat) : Py.interp xs (cumdist lens) (rows.map (·.getD j 0)) =
      some (Resample.interp xs (cumdist lens) (rows.map (·.getD j 0))) :=
  interp_eq xs _ _ ((C16.cumdist_length lens).trans (hl.trans (List.length_map _).symm)) (C16.cumdist_ne_nil lens)
    (nondecr_cumdist lens hpos)

/-- **`BranchLinearResampler.resample` as translated from the source equals the model `Resample.linearResample`**: for every `(N, 4)` array
(by rows), segment lengths `lens` (one per consecutive pair of rows, `≥ 0`) and every point count `n ≥ 0`, the generated function returns —
without raising — the `(n, 4)` array whose columns are the model's resampled columns. -/
theorem linResample_refines (rows : List (List Rat)) (lens : List Rat) (n : Nat)
    (hrow : ∀ r ∈ rows, r.length = 4) (hlen : lens.length + 1 = rows.length) (hpos : ∀ l ∈ lens, 0 ≤ l) :
    lin_resample ratFld rows lens (n : Int) = some (rowsOf (linearResample lens (colsOf rows) n) n) := by
  have hne := C16.cumdist_ne_nil lens
  obtain ⟨hc0, hc1, hc2, hc3⟩ := cols_four rows hrow
  have hi := interp_cumdist lens hpos rows hlen
  have hst := stack1_cols _ n (C16.linearResample_columns lens (colsOf rows) n).2 (List.cons_ne_nil _ _)
  simp only [linearResample, colsOf, List.map_cons, List.map_nil] at hst ⊢
  simp only [lin_resample, lin_resample.body, seq, Py.bind, npInsert_zero, cumsumK_cumdist, idx_last _ (0 : Rat) hne, linspace0_eq,
    hc0, hc1, hc2, hc3, hi, hst, finish, Option.map]


theorem zipWithOpt_map {ι α β γ : Type} (f : α → β → Option γ) (a : ι → α) (b : ι → β) (c : ι → γ) :
    ∀ l : List ι, (∀ x ∈ l, f (a x) (b x) = some (c x)) → zipWithOpt f (l.map a) (l.map b) = some (l.map c)
  | [], _ => rfl
  | x :: xs, h => by
    simp only [List.map_cons, zipWithOpt, h x List.mem_cons_self,
      zipWithOpt_map f a b c xs (fun y hy => h y (List.mem_cons_of_mem _ hy))]

theorem eq_range_map (l : List Rat) (n : Nat) (h : l.length = n) : l = (List.range n).map (l.getD · 0) :=
  h ▸ Py.eq_range_map l 0

theorem range3 : Py.range (3 : Int) = [0, 1, 2] := by decide

theorem ceil_count (L d : Rat) (hL : 0 ≤ L) (hd : 0 < d) : (L / d).ceil + 1 = ((isoCount L d : Nat) : Int) := by
  have : 0 ≤ (L / d).ceil := Int.cast_nonneg_iff.mp ((div_nonneg hL hd.le).trans Rat.le_ceil)
  rw [isoCount, Nat.cast_succ, Int.toNat_of_nonneg this]

theorem setColBlock_xyz (N : Nat) (X Y Z : List Rat) :
    setColBlock (List.replicate N (List.replicate 4 (0 : Rat))) 3 (rowsOf [X, Y, Z] N) =
      some ((List.range N).map fun i => [X.getD i 0, Y.getD i 0, Z.getD i 0, 0]) := by
  have hb : broadcastRows (rowsOf [X, Y, Z] N) (List.replicate N (List.replicate 4 (0 : Rat))).length = some (rowsOf [X, Y, Z] N) :=
    if_pos (by rw [rowsOf, List.length_map, List.length_range, List.length_replicate])
  have hr : List.replicate N (List.replicate 4 (0 : Rat)) = (List.range N).map fun _ => List.replicate 4 (0 : Rat) := by
    rw [List.map_const', List.length_range]
  rw [setColBlock, hb, Option.bind_some, hr, rowsOf]
  exact zipWithOpt_map _ _ _ _ _ fun i _ => rfl

theorem setCol_r (N : Nat) (X Y Z R : List Rat) (hR : R.length = N) :
    setCol ((List.range N).map fun i => [X.getD i 0, Y.getD i 0, Z.getD i 0, 0]) (3 : Int) R = some (rowsOf [X, Y, Z, R] N) := by
  have hb : broadcastRows R ((List.range N).map fun i => [X.getD i 0, Y.getD i 0, Z.getD i 0, (0 : Rat)]).length = some R :=
    if_pos (by rw [hR, List.length_map, List.length_range])
  rw [setCol, hb, Option.bind_some]
  conv => lhs; rw [eq_range_map R N hR]
  exact zipWithOpt_map _ _ _ _ _ fun i _ => rfl

/-- **`BranchIsometricResampler.resample` as translated from the source equals the model `Resample.isoResample`**: for every `(N, 4)` array
(by rows), segment lengths `lens` (one per consecutive pair of rows, `≥ 0`), every spacing `d > 0` and both values of `adjust_last_gap`, the
generated function returns — without raising — the `(⌈L/d⌉ + 1, 4)` array whose columns are the model's resampled columns. -/
theorem isoResample_refines (rows : List (List Rat)) (lens : List Rat) (d : Rat) (adj : Bool)
    (hrow : ∀ r ∈ rows, r.length = 4) (hlen : lens.length + 1 = rows.length) (hpos : ∀ l ∈ lens, 0 ≤ l) (hd : 0 < d) :
    iso_resample ratFld rows lens d adj =
      some (rowsOf (isoResample lens (colsOf rows) d adj) (isoCount ((cumdist lens).getLastD 0) d)) := by
  have hne := C16.cumdist_ne_nil lens
  obtain ⟨hc0, hc1, hc2, hc3⟩ := cols_four rows hrow
  have hi := interp_cumdist lens hpos rows hlen
  rw [C16.isoResample_columns]
  generalize hL : (cumdist lens).getLastD 0 = L
  have hL0 : 0 ≤ L := hL ▸ C16.cumdist_last_nonneg lens hpos
  have hcnt : Fld.ceil (L / d) + 1 = ((isoCount L d : Nat) : Int) := ceil_count L d hL0 hd
  have hfull : full2 ((isoCount L d : Nat) : Int) (4 : Int) (0 : Rat) = some (List.replicate (isoCount L d) (List.replicate 4 0)) :=
    full2_nat (isoCount L d) 4 0
  have hil : ∀ fp, (Resample.interp (isoPositions L d adj) (cumdist lens) fp).length = isoCount L d :=
    fun fp => by rw [interp_length, C16.isoPositions_length]
  have htr := fun (X Y Z : List Rat) => transpose2_cols
    [Resample.interp (isoPositions L d adj) (cumdist lens) X, Resample.interp (isoPositions L d adj) (cumdist lens) Y,
      Resample.interp (isoPositions L d adj) (cumdist lens) Z] (isoCount L d) (by simp [hil]) (by simp)
  have hp : (if (adj && decide (isoCount L d > 1)) = true then Resample.linspace L (isoCount L d) else Resample.arange L d ++ [L]) =
      isoPositions L d adj := rfl
  -- the two gap modes differ in how the positions are computed only
  cases hb : (adj && decide (isoCount L d > 1)) <;> simp only [hb, Bool.false_eq_true, if_true, if_false] at hp <;>
    simp only [iso_resample, iso_resample.body, iso_resample.for1, seq, Py.bind, Py.bindS, List.cons_append, List.nil_append, cumsumK_cumdist,
      idx_last _ (0 : Rat) hne, hL, fdiv_eq _ _ hd, hcnt, Nat.one_lt_cast, hb, Bool.false_eq_true, if_true, if_false, linspace0_eq, arange0_eq L d hd, hp,
      hfull, range3, forEach, hc0, hc1, hc2, hi, htr, setColBlock_xyz, hc3, setCol_r _ _ _ _ _ (hil _), finish, Option.map, colsOf,
      List.map_cons, List.map_nil]


theorem getD_ones (n a : Nat) (d : Rat) : (List.replicate n (1 : Rat)).getD a d = if a < n then 1 else d := by
  rw [List.getD_eq_getElem?_getD, List.getElem?_replicate]
  split <;> rfl

/-- an entry of the full convolution with the kernel `np.ones(k)` is the model's window sum -/
theorem convFull_ones (v : List Rat) (k i : Nat) :
    convFull v (List.replicate k (1 : Rat)) (i + (k - 1) / 2) = convSame v k i := by
  unfold convFull convSame
  rw [List.length_replicate]
  generalize (k - 1) / 2 = w
  refine List.foldl_ext _ _ _ fun acc j _ => ?_
  have hc : (j ≤ i + w ∧ i + w - j < k) ↔ ((i : Int) + w - k + 1 ≤ j ∧ (j : Int) ≤ i + w) := by omega
  refine ite_congr (propext hc) (fun h => ?_) fun _ => rfl
  rw [getD_ones, if_pos (hc.2 h).2, mul_one]
  rfl

theorem convolveSame_ones (v : List Rat) (k : Nat) (hk : 1 ≤ k) :
    convolveSame v (List.replicate k (1 : Rat)) = (List.range v.length).map fun i => convSame v k i := by
  unfold convolveSame
  cases v with
  | nil => simp
  | cons a t =>
    have : (List.replicate k (1 : Rat)).isEmpty = false := by cases k with | zero => omega | succ m => rfl
    simp only [List.isEmpty_cons, this, Bool.or_self, Bool.false_eq_true, if_false, List.length_replicate]
    apply List.map_congr_left
    intro i _
    exact convFull_ones _ k i

theorem foldl_cond_pos (p : Nat → Prop) [DecidablePred p] (f : Nat → Rat) (hf : ∀ a, 0 ≤ f a) (a0 : Nat) (hp : p a0) (h0 : 0 < f a0) :
    ∀ (l : List Nat) (b : Rat), b ≤ l.foldl (fun acc a => if p a then acc + f a else acc) b ∧
      (a0 ∈ l → b < l.foldl (fun acc a => if p a then acc + f a else acc) b)
  | [], b => ⟨le_rfl, nofun⟩
  | a :: t, b => by
    obtain ⟨ih1, ih2⟩ := foldl_cond_pos p f hf a0 hp h0 t (if p a then b + f a else b)
    have hb : b ≤ if p a then b + f a else b := by
      split
      · exact le_add_of_nonneg_right (hf a)
      · exact le_rfl
    refine ⟨hb.trans ih1, fun h => ?_⟩
    rcases List.mem_cons.mp h with rfl | h'
    · exact lt_of_lt_of_le (by rw [if_pos hp]; exact lt_add_of_pos_right b h0) ih1
    · exact hb.trans_lt (ih2 h')

/-- the window of every node contains the node itself: the divisor `c` of the smoother is positive -/
theorem convSame_ones_pos (n k i : Nat) (hk : 1 ≤ k) (hi : i < n) : 0 < convSame (List.replicate n (1 : Rat)) k i := by
  unfold convSame
  rw [List.length_replicate]
  refine (foldl_cond_pos _ _ (fun a => ?_) i ?_ ?_ _ 0).2 (List.mem_range.mpr hi)
  · rw [getD_ones]
    split
    · exact zero_le_one
    · exact le_rfl
  · have hw : (k - 1) / 2 ≤ k - 1 := Nat.div_le_self _ _
    generalize (k - 1) / 2 = w at hw
    show (i : Int) + w - k + 1 ≤ i ∧ (i : Int) ≤ i + w
    omega
  · rw [getD_ones, if_pos hi]
    exact zero_lt_one

theorem divArr_pos (n : Nat) (A B : Nat → Rat) (hB : ∀ i < n, 0 < B i) :
    divArr ((List.range n).map A) ((List.range n).map B) = some ((List.range n).map fun i => A i / B i) := by
  simp only [divArr, List.length_map, if_true, List.zip_map']
  rw [mapOpt_total _ (fun p => p.1 / p.2)]
  · simp
  · intro p hp
    obtain ⟨i, hi, rfl⟩ := List.mem_map.mp hp
    exact fdiv_eq _ _ (hB i (List.mem_range.mp hi))

/-- `a[s:e] = q[s:e]` for arrays of equal length, entry by entry -/
theorem copySlice (a q : List Rat) (s e : Nat) (hse : s ≤ e) (hea : e ≤ a.length) (hq : q.length = a.length) :
    a.take s ++ (q.take e).drop s ++ a.drop e =
      (List.range a.length).map fun i => if s ≤ i ∧ i < e then q.getD i 0 else a.getD i 0 := by
  have hs : (a.take s).length = s := by rw [List.length_take]; exact Nat.min_eq_left (hse.trans hea)
  have hm : ((q.take e).drop s).length = e - s := by rw [List.length_drop, List.length_take, Nat.min_eq_left (hq ▸ hea)]
  rw [eq_range_map (_ ++ _ ++ _) a.length (by
    rw [List.length_append, List.length_append, hs, hm, List.length_drop, Nat.add_sub_cancel' hse, Nat.add_sub_cancel' hea])]
  apply List.map_congr_left
  intro i _
  simp only [List.getD_eq_getElem?_getD]
  rw [List.append_assoc, List.getElem?_append, hs, List.getElem?_append, hm, List.getElem?_take, List.getElem?_drop, List.getElem?_drop,
    List.getElem?_take]
  rcases Nat.lt_or_ge i s with h1 | h1
  · rw [if_pos h1, if_pos h1, if_neg fun h => absurd h1 (Nat.not_lt.mpr h.1)]
  · rw [if_neg (Nat.not_lt.mpr h1), Nat.add_sub_cancel' h1]
    rcases Nat.lt_or_ge i e with h2 | h2
    · rw [if_pos (Nat.sub_lt_sub_right h1 h2), if_pos h2, if_pos ⟨h1, h2⟩]
    · rw [if_neg (Nat.not_lt.mpr (Nat.sub_le_sub_right h2 s)), if_neg fun h => absurd h.2 (Nat.not_lt.mpr h2),
        Nat.sub_sub_sub_cancel_right hse, Nat.add_sub_cancel' h2]

/-- `a[1:-1] = q[1:-1]` on arrays of equal length `n ≥ 2` -/
theorem setSlice_inner (col : List Rat) (g : Nat → Rat) (n : Nat) (hn : 2 ≤ n) (hc : col.length = n) :
    setSlice col (some (1 : Int)) (some (-1 : Int)) (slice ((List.range n).map g) (some (1 : Int)) (some (-(1 : Int)))) =
      some ((List.range n).map fun i => if i = 0 ∨ i + 1 = n then col.getD i 0 else g i) := by
  have hq : ((List.range n).map g).length = n := by rw [List.length_map, List.length_range]
  have hs : sliceBound n (1 : Int) = 1 := Nat.min_eq_left (Nat.le_of_succ_le hn)
  have he : sliceBound n (-1 : Int) = n - 1 := Int.toNat_sub n 1
  have hlen : ((((List.range n).map g).take (n - 1)).drop 1).length = n - 1 - 1 := by
    rw [List.length_drop, List.length_take, hq, Nat.min_eq_left (Nat.sub_le n 1)]
  have h1 : 1 ≤ n - 1 := Nat.le_sub_one_of_lt hn
  simp only [setSlice, slice, hc, hq, hs, he, broadcastTo, hlen, if_true, Option.map_some, h1]
  rw [copySlice col _ 1 (n - 1) h1 (hc ▸ Nat.sub_le n 1) (hq.trans hc.symm), hc]
  refine congrArg some (List.map_congr_left fun i hi => ?_)
  have hi := List.mem_range.mp hi
  have hcond : (1 ≤ i ∧ i < n - 1) ↔ ¬(i = 0 ∨ i + 1 = n) := by
    rw [Nat.one_le_iff_ne_zero, Nat.lt_sub_iff_add_lt, not_or, Nat.lt_iff_le_and_ne, and_iff_right (Nat.succ_le_of_lt hi)]
  rw [if_congr hcond rfl rfl, ite_not, getD_range_map g 0 hi]

/-- the divisor array `c` of the smoother -/
def cvec (n k : Nat) : List Rat := convolveSame (List.replicate n (1 : Rat)) (List.replicate k (1 : Rat))

theorem convSmooth_eq (col : List Rat) (n k : Nat) (hc : col.length = n) :
    convSmooth col k = (List.range n).map fun i => if i = 0 ∨ i + 1 = n then col.getD i 0
      else convSame col k i / convSame (List.replicate n (1 : Rat)) k i := by
  subst hc
  simp only [convSmooth, List.map_const']

/-- one iteration of `for k in ["x", "y", "z"]` -/
theorem smooth_step (nd : Dict String (List Rat)) (key : String) (col : List Rat) (n k : Nat) (hk : 1 ≤ k) (hn : 2 ≤ n)
    (hcol : col.length = n) (hget : Dict.get? nd key = some col) (nI : Int) (k0 : String) (vv ss : List Rat) :
    conv_smooth.for1 ratFld key ⟨nd, nI, List.replicate k 1, cvec n k, k0, vv, ss⟩ =
      .next ⟨Dict.set nd key (convSmooth col k), nI, List.replicate k 1, cvec n k, key, col, convolveSame col (List.replicate k 1)⟩ := by
  have hdiv : divArr (convolveSame col (List.replicate k 1)) (cvec n k) =
      some ((List.range n).map fun i => convSame col k i / convSame (List.replicate n (1 : Rat)) k i) := by
    rw [cvec, convolveSame_ones _ k hk, convolveSame_ones _ k hk, hcol, List.length_replicate]
    exact divArr_pos n _ _ (fun i hi => convSame_ones_pos n k i hk hi)
  simp only [conv_smooth.for1, seq, Py.bind, hget, hdiv, setSlice_inner col _ n hn hcol, convSmooth_eq col n k hcol]

theorem get?_set_xyz (nd : Dict String (List Rat)) (a b c : List Rat) :
    Dict.get? (Dict.set (Dict.set (Dict.set nd "x" a) "y" b) "z" c) "x" = some a ∧
    Dict.get? (Dict.set (Dict.set (Dict.set nd "x" a) "y" b) "z" c) "y" = some b ∧
    Dict.get? (Dict.set (Dict.set (Dict.set nd "x" a) "y" b) "z" c) "z" = some c :=
  ⟨by rw [Dict.get?_set, if_neg (by decide), Dict.get?_set, if_neg (by decide), Dict.get?_set, if_pos rfl],
    by rw [Dict.get?_set, if_neg (by decide), Dict.get?_set, if_pos rfl], by rw [Dict.get?_set, if_pos rfl]⟩

/-- **`BranchConvSmoother.__call__` as translated from the source equals the model `Resample.convSmooth` on the three coordinate columns**:
for every branch of `n ≥ 2` nodes given by the dictionary of its columns (`x`, `y`, `z` of length `n`; any further columns) and every window
`np.ones(k)`, `k ≥ 1`, the generated function returns — without raising — the dictionary in which `x`, `y`, `z` are replaced by the model's
smoothed columns and nothing else is changed. -/
theorem convSmooth_refines (nd : Dict String (List Rat)) (xs ys zs : List Rat) (n k : Nat) (hk : 1 ≤ k) (hn : 2 ≤ n)
    (hx : Dict.get? nd "x" = some xs) (hy : Dict.get? nd "y" = some ys) (hz : Dict.get? nd "z" = some zs)
    (hxl : xs.length = n) (hyl : ys.length = n) (hzl : zs.length = n) :
    conv_smooth ratFld nd (n : Int) (List.replicate k 1) =
      some (Dict.set (Dict.set (Dict.set nd "x" (convSmooth xs k)) "y" (convSmooth ys k)) "z" (convSmooth zs k), ()) := by
  have hy' : Dict.get? (Dict.set nd "x" (convSmooth xs k)) "y" = some ys := by rw [Dict.get?_set, if_neg (by decide), hy]
  have hz' : Dict.get? (Dict.set (Dict.set nd "x" (convSmooth xs k)) "y" (convSmooth ys k)) "z" = some zs := by
    rw [Dict.get?_set, if_neg (by decide), Dict.get?_set, if_neg (by decide), hz]
  simp only [conv_smooth, conv_smooth.body, seq, Py.bind, full_nat, forEach]
  rw [show convolveSame (List.replicate n (1 : Rat)) (List.replicate k 1) = cvec n k from rfl]
  rw [smooth_step nd "x" xs n k hk hn hxl hx]
  simp only []
  rw [smooth_step _ "y" ys n k hk hn hyl hy']
  simp only []
  rw [smooth_step _ "z" zs n k hk hn hzl hz']
  simp [finish]

end RefineResample
