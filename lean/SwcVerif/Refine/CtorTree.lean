import SwcVerif.Gen.AlgoCtorTree
/-! Refinement for `Gen/AlgoCtorTree.lean`: the deprecated spellings `Tree.get_bifurcations`, `Node.is_bifurcation` are their
targets (namespace `RefineCtor`, as in `Refine/Ctor.lean`). -/
namespace RefineCtor
open Gen.Algo Py

/-- `Tree.get_bifurcations()` is `Tree.get_furcations()` -/
theorem get_bifurcations_eq (fuel : Nat) (ids pids : List Int) :
    get_bifurcations fuel ids pids = get_furcations fuel ids pids := by
  simp only [get_bifurcations, get_bifurcations.body, Py.bind]
  cases get_furcations fuel ids pids <;> rfl

/-- `Node.is_bifurcation()` is `Node.is_furcation()` -/
theorem node_is_bifurcation_eq (ids pids : List Int) (k : Int) :
    node_is_bifurcation ids pids k = node_is_furcation ids pids k := by
  simp only [node_is_bifurcation, node_is_bifurcation.body, Py.bind]
  cases node_is_furcation ids pids k <;> rfl

end RefineCtor
