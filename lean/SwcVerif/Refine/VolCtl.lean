import SwcVerif.Gen.AlgoVolCtl
import SwcVerif.Props.C13
/-! # Refinement for C13: the GENERATED control flow of the closed-form volumes (`Gen/AlgoVolCtl.lean`) selects the cases of C13's model

`Gen.Algo.vc_sphere2` is `VolSphere2Intersection.calc_intersect_volume` translated statement by statement (imperative translator); here it is run at
`ℝ` (`Py.Fld ℝ` = real division) with ANY `norm` and proved equal to the arithmetic translator's `Gen.Vol.lensVolume` at `d = norm (ca - cb)`, case by
case; composing with `C13.lens_volume` the true volume of the lens is what the generated control flow returns. -/
namespace RefineVolCtl
open Gen.Algo

noncomputable instance realFld : Py.Fld ℝ := ⟨fun a b => a / b, fun i => (i : ℝ), fun x => ⌈x⌉⟩

/-- `a - b` on coordinate vectors -/
def vsub (a b : List ℝ) : List ℝ := List.zipWith (fun x y => x - y) a b

theorem pyAbs_eq (x : ℝ) : Py.VC.absK x = |x| := by
  unfold Py.VC.absK
  split_ifs with h
  · rw [abs_of_neg h, zero_sub]
  · exact (abs_of_nonneg (not_lt.mp h)).symm

theorem pyMin_eq (a b : ℝ) : Py.VC.minK a b = min a b := minK_eq a b

theorem sphere_volume_gen (pi r : ℝ) : vc_sphere_volume realFld pi r = some (Gen.Vol.sphereVolume pi r) := by
  simp [vc_sphere_volume, vc_sphere_volume.body, Py.bind, Py.finish, Py.fdiv, Py.LG.powInt, Gen.Vol.sphereVolume, Py.Fld.div, Py.Fld.ofInt,
    List.replicate]

/-- **the generated two-sphere control flow selects the cases of the model**: for centres of equal dimension the translated
`calc_intersect_volume` returns (never raises) the arithmetic translator's `lensVolume` at `d = norm (ca - cb)`: `0` when `d > r1 + r2`, the smaller
ball when `d ≤ |r1 - r2|`, else the lens polynomial.  Hypothesis: `0 ≤ norm _` (any norm). -/
theorem generated_sphere2_cases (norm : List ℝ → ℝ) (hn : ∀ v, 0 ≤ norm v) (pi ra rb : ℝ) (ca cb : List ℝ) (hl : ca.length = cb.length) :
    vc_sphere2 realFld norm pi ca ra cb rb = some (Gen.Vol.lensVolume pi ra rb (norm (vsub ca cb))) := by
  have hsub : Py.LG.subArr ca cb = some (vsub ca cb) := by simp [Py.LG.subArr, hl, vsub]
  simp only [Gen.Vol.lensVolume, absK_eq, minK_eq]
  by_cases h1 : ra + rb < norm (vsub ca cb)
  · simp [vc_sphere2, vc_sphere2.body, Py.seq, Py.bind, Py.finish, hsub, h1]
  · by_cases h2 : norm (vsub ca cb) ≤ |ra - rb|
    · simp [vc_sphere2, vc_sphere2.body, Py.seq, Py.bind, Py.finish, Py.skip, hsub, h1, h2, pyAbs_eq, pyMin_eq, sphere_volume_gen]
    · have hpos : 0 < norm (vsub ca cb) := (abs_nonneg _).trans_lt (not_le.mp h2)
      simp [vc_sphere2, vc_sphere2.body, Py.seq, Py.bind, Py.finish, Py.skip, Py.fdiv, Py.LG.powInt, Py.Fld.div, Py.Fld.ofInt,
        List.replicate, hsub, h1, h2, pyAbs_eq, hpos]

/-- **C13 about the generated control flow**: what the translated `calc_intersect_volume` returns is the true volume of the lens (`π∫ρ²`), for every
pair of radii and every distance (apart, tangent, nested, proper). -/
theorem generated_sphere2_true_volume (norm : List ℝ → ℝ) (hn : ∀ v, 0 ≤ norm v) (ra rb : ℝ) (ca cb : List ℝ) (hl : ca.length = cb.length)
    (h1 : 0 ≤ ra) (h2 : 0 ≤ rb) :
    vc_sphere2 realFld norm Real.pi ca ra cb rb
      = some (Real.pi * ∫ z in (-ra)..ra, C13.lensProfile ra rb (norm (vsub ca cb)) z) := by
  rw [generated_sphere2_cases norm hn _ _ _ _ _ hl, C13.lens_volume ra rb _ h1 h2 (hn _)]

/-- non-vacuity: the hypotheses are satisfiable (two unit balls, distance 3) -/
example : vc_sphere2 realFld (fun _ => 3) Real.pi [0] 1 [3] 1 = some (Gen.Vol.lensVolume Real.pi 1 1 3) :=
  generated_sphere2_cases (fun _ => 3) (fun _ => by norm_num) Real.pi 1 1 [0] [3] rfl

end RefineVolCtl
