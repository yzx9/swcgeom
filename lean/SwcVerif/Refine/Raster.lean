import SwcVerif.Gen.AlgoRaster
import SwcVerif.Refine.TravFront
import SwcVerif.Refine.PyRun
import SwcVerif.Props.C20
/-! # C20: the definitions GENERATED (on this run) from `swcgeom/transforms/image_stack.py` (`Gen/AlgoRaster.lean`) refine the hand-written
raster model of `Model/Images.lean`, at `K = Rat`:

* `samplers_refines` — `ToImageStack._get_samplers`: the `while z < zmax` loop with `z += stride[2]` yields exactly one sampler per element of
  `Img.axisCentres zmin zmax sz` (count and positions), each with the box `(xmin + sx/2, ymin + sy/2, z) … (xmax, ymax, z + sz - 10⁻⁶)`; fuel
  `count + 1` suffices;
* `bbox_refines` — the bounding box of `ToImageStack.transform` is `Img.bbox` of every coordinate column;
* `leave_refines`, `getScene_refines` — `_get_scene`: through the generated `Tree.traverse`, the scene is the list of `edgeSolid`s of all edges
  (post-order of the traversal), `edgeSolid` = the model's `Img.edgeIsBall` / `Img.edgeBall` rule when `dist` is the Euclidean distance;
* `transform_refines` — `transform` as a whole: one frame per model sampler, every sampler handed the scene of `_get_scene`. -/
namespace RefineRaster
open Gen.Algo Trav Py Img RefineTravFront

/-! ## `_tp3f` -/

theorem tp3f_eq (a b c : Rat) : tp3f [a, b, c] = some (a, b, c) := rfl

/-- anything but three entries fails the `assert` -/
theorem tp3f_none (l : List Rat) (h : l.length ≠ 3) : tp3f l = none := by
  have : ¬ ((l.length : Int) = 3) := by omega
  simp [tp3f, tp3f.body, Py.seq, Py.finish, this]

/-! ## `_get_samplers` -/

/-- the sampler of the slice at `z` -/
def slice (lo hi st : Rat × Rat × Rat) (z : Rat) : Py.RangeSampler Rat :=
  ⟨(lo.1, lo.2.1, z), (hi.1, hi.2.1, z + st.2.2 - 1 / 1000000), st⟩

/-- **the model of `_get_samplers`**: one sampler per voxel centre along z (`Img.axisCentres`), over the x/y box shifted by half a voxel -/
def modelSamplers (lo hi st : Rat × Rat × Rat) : List (Py.RangeSampler Rat) :=
  (axisCentres lo.2.2 hi.2.2 st.2.2).map (slice (lo.1 + st.1 / 2, lo.2.1 + st.2.1 / 2, 0) hi st)

/-- the `k`-th slice position -/
def centre (z0 sz : Rat) (k : Nat) : Rat := z0 + sz / 2 + (k : Rat) * sz

theorem axisCentres_eq (z0 z1 sz : Rat) :
    axisCentres z0 z1 sz = (List.range (axisCentres z0 z1 sz).length).map (centre z0 sz) := by
  simp [axisCentres, centre]

theorem centre_lt (z0 z1 sz : Rat) (hsz : 0 < sz) (k : Nat) (h : k < (axisCentres z0 z1 sz).length) : centre z0 sz k < z1 := by
  have g := (C20.grid_covers z0 z1 sz hsz).1 k h
  have e : (axisCentres z0 z1 sz)[k] = centre z0 sz k := by simp [axisCentres, centre]
  rw [e] at g
  exact g.2.2

theorem centre_ge (z0 z1 sz : Rat) (hsz : 0 < sz) : z1 ≤ centre z0 sz (axisCentres z0 z1 sz).length := by
  have g := (C20.grid_covers z0 z1 sz hsz).2
  simp only [centre]
  linarith

/-- **the `while z < zmax` loop**: started at the first centre it appends one slice per centre, in order, and stops (fuel: their number + 1);
after `i` passes `z` is the `i`-th centre -/
theorem while_loop (z0 z1 sx sy sz : Rat) (hsz : 0 < sz) (F : Nat) (v : raster_get_samplers.V Rat) (hz : v.z = centre z0 sz 0)
    (hzm : v.zmax = z1) (hst : v.stride = [sx, sy, sz]) (he : v.eps = 1 / 1000000) :
    Py.whileF (raster_get_samplers.while1_cond Py.ratFld) (raster_get_samplers.while1_body Py.ratFld) ((axisCentres z0 z1 sz).length + 1 + F) v
      = .next { v with z := centre z0 sz (axisCentres z0 z1 sz).length,
                       yielded_ := v.yielded_ ++ (axisCentres z0 z1 sz).map (slice (v.xmin, v.ymin, 0) (v.xmax, v.ymax, 0) (sx, sy, sz)) } := by
  let st (i : Nat) : raster_get_samplers.V Rat := { v with
    z := centre z0 sz i,
    yielded_ := v.yielded_ ++ ((List.range i).map (centre z0 sz)).map (slice (v.xmin, v.ymin, 0) (v.xmax, v.ymax, 0) (sx, sy, sz)) }
  have h0 : v = st 0 := by
    cases v
    simpa [st] using hz
  rw [axisCentres_eq z0 z1 sz, List.length_map, List.length_range]
  refine (congrArg _ h0).trans (Py.whileF_count _ _ st _ F (fun i hi => ⟨?_, ?_⟩) ?_)
  · simp only [st, raster_get_samplers.while1_cond, hzm, centre_lt z0 z1 sz hsz i hi, decide_true]
  · simp [st, raster_get_samplers.while1_body, Py.seq, Py.bind, hst, Py.idx, Py.normIdx, tp3f_eq, slice, he, List.range_succ, centre]
    ring
  · simp only [st, raster_get_samplers.while1_cond, hzm, not_lt.mpr (centre_ge z0 z1 sz hsz), decide_false]

theorem default_yielded : (default : raster_get_samplers.V Rat).yielded_ = [] := rfl

/-- **`ToImageStack._get_samplers` as translated on this run** equals the model for every box, every resolution with a positive z component
and every fuel ≥ number of slices + 1 (the loop never runs out of fuel) -/
theorem samplers_refines (x0 y0 z0 x1 y1 z1 sx sy sz : Rat) (hsz : 0 < sz) (F : Nat) :
    raster_get_samplers Py.ratFld ((axisCentres z0 z1 sz).length + 1 + F) [x0, y0, z0] [x1, y1, z1] [sx, sy, sz]
      = some (modelSamplers (x0, y0, z0) (x1, y1, z1) (sx, sy, sz), ()) := by
  have hd : Py.divScalar [sx, sy, sz] (Py.Fld.ofInt (2 : Int) : Rat) = some [sx / 2, sy / 2, sz / 2] := by
    simp [Py.divScalar, Py.mapOpt, Py.fdiv, Py.Fld.ofInt, Py.Fld.div]
  have ha : Py.addArr [x0, y0, z0] [sx / 2, sy / 2, sz / 2] = some [x0 + sx / 2, y0 + sy / 2, z0 + sz / 2] := by
    simp [Py.addArr]
  simp only [raster_get_samplers, raster_get_samplers.body, Py.seq, Py.bind, hd, ha, tp3f_eq]
  rw [while_loop z0 z1 sx sy sz hsz F _ (by simp [centre]) rfl rfl (by simp [Py.Fld.div, Py.Fld.ofInt])]
  simp [Py.finish, modelSamplers, default_yielded, slice]

/-- non-vacuity: the box `[-1, 2] × [-1, 2] × [-1, 4]` at resolution `(1, 1/2, 2)` has the two slices `z = 0, 2` -/
example : (raster_get_samplers Py.ratFld 10 [-1, -1, -1] [2, 2, 4] [1, 1/2, 2]).map (fun r => r.1.map (·.lo.2.2)) = some [0, 2] := by
  decide +kernel

/-! ## the bounding box of `transform` -/

/-- a node: its centre and its radius -/
abbrev Pt := (Rat × Rat × Rat) × Rat

/-- the `(n, 3)` coordinate array `x.xyz()` and the radius column `x.r()` of the nodes -/
def rowsOf (pts : List Pt) : List (List Rat) := pts.map fun p => [p.1.1, p.1.2.1, p.1.2.2]
def radii (pts : List Pt) : List Rat := pts.map (·.2)

/-- the model's bounding box along one coordinate (`Img.bbox` of that coordinate column and the radii) -/
def bboxAx (cx : Pt → Rat) (pts : List Pt) : Rat × Rat := Img.bbox (pts.map cx) (radii pts)

theorem zipWith_map_map {α β γ δ : Type} (g : β → γ → δ) (a : α → β) (b : α → γ) :
    ∀ ps : List α, List.zipWith g (ps.map a) (ps.map b) = ps.map fun p => g (a p) (b p) :=
  fun _ => by rw [List.zipWith_map, List.zipWith_self]

theorem bcast_rows (f : Rat → Rat → Rat) (pts : List Pt) :
    Py.bcastCol f (rowsOf pts) (radii pts) = some (pts.map fun p => [f p.1.1 p.2, f p.1.2.1 p.2, f p.1.2.2 p.2]) := by
  simp [Py.bcastCol, rowsOf, radii]

theorem foldl_zipWith3 (f : Rat → Rat → Rat) (gx gy gz : Pt → Rat) : ∀ (ps : List Pt) (a b c : Rat),
    (ps.map fun p => [gx p, gy p, gz p]).foldl (fun acc row => List.zipWith f acc row) [a, b, c]
      = [(ps.map gx).foldl f a, (ps.map gy).foldl f b, (ps.map gz).foldl f c]
  | [], _, _, _ => rfl
  | p :: ps, a, b, c => by simp [foldl_zipWith3 f gx gy gz ps]

theorem reduce_rows (f : Rat → Rat → Rat) (gx gy gz : Pt → Rat) (p : Pt) (ps : List Pt) :
    Py.reduceAxis0 f ((p :: ps).map fun p => [gx p, gy p, gz p])
      = some [(ps.map gx).foldl f (gx p), (ps.map gy).foldl f (gy p), (ps.map gz).foldl f (gz p)] := by
  simp [Py.reduceAxis0, foldl_zipWith3]

theorem bbox_cons (cx : Pt → Rat) (p : Pt) (ps : List Pt) :
    bboxAx cx (p :: ps) = ((((ps.map fun q => cx q - q.2).foldl Py.minK (cx p - p.2)).floor : Rat),
                           (((ps.map fun q => cx q + q.2).foldl Py.maxK (cx p + p.2)).ceil : Rat)) := by
  -- the model starts both running extrema at the first entry and passes over it once more
  simp only [bboxAx, Img.bbox, radii, List.map_cons, List.zip_cons_cons, List.headD_cons, List.foldl_cons, lt_self_iff_false, if_false,
    gt_iff_lt, List.zip_map', List.map_map, Function.comp_def]
  rfl

/-- **the bounding box of `transform` as translated**: `np.floor(np.min(xyz - r, axis=0))` / `np.ceil(np.max(xyz + r, axis=0))` are the model's
`Img.bbox` of every coordinate column — for every non-empty list of nodes -/
theorem bbox_refines (pts : List Pt) (hne : pts ≠ []) :
    ((Py.bcastCol (fun x y => x - y) (rowsOf pts) (radii pts)).bind Py.minAxis0).map Py.floorArr
      = some [(bboxAx (·.1.1) pts).1, (bboxAx (·.1.2.1) pts).1, (bboxAx (·.1.2.2) pts).1] ∧
    ((Py.bcastCol (fun x y => x + y) (rowsOf pts) (radii pts)).bind Py.maxAxis0).map Py.ceilArr
      = some [(bboxAx (·.1.1) pts).2, (bboxAx (·.1.2.1) pts).2, (bboxAx (·.1.2.2) pts).2] := by
  obtain ⟨p, ps, rfl⟩ := List.exists_cons_of_ne_nil hne
  rw [bcast_rows, bcast_rows, bbox_cons, bbox_cons, bbox_cons, Option.bind_some, Option.bind_some, Py.minAxis0, Py.maxAxis0,
    reduce_rows, reduce_rows]
  exact ⟨rfl, rfl⟩

/-! ## `_get_scene`: the per-edge case analysis of `leave` -/

/-- row `i` of the table (a default node outside it) -/
def P (pts : List Pt) (i : Int) : Pt := pts.getD i.toNat default

/-- `i` is a row index of the table -/
def ok (pts : List Pt) (i : Int) : Prop := 0 ≤ i ∧ i < pts.length

/-- **the solid `leave` adds for the edge parent `n` → child `c`**: when the distance handed to the comparison is at most `|r_n - r_c|` the
ball of the larger radius (the parent's on a tie), else the round cone -/
def edgeSolid (dist : Int → Int → Rat) (pts : List Pt) (n c : Int) : Py.Sdf Rat :=
  if dist c n ≤ |(P pts n).2 - (P pts c).2| then
    (if (P pts n).2 ≥ (P pts c).2 then .sphere (P pts n).1 (P pts n).2 else .sphere (P pts c).1 (P pts c).2)
  else .cone (P pts n).1 (P pts c).1 (P pts n).2 (P pts c).2

theorem absK_eq (x : Rat) : Py.absK x = |x| := by
  unfold Py.absK
  by_cases h : x < 0
  · rw [if_pos h, abs_of_neg h, zero_sub]
  · rw [if_neg h, abs_of_nonneg (not_lt.mp h)]

theorem idx_map {β : Type} (f : Pt → β) (pts : List Pt) (i : Int) (h : ok pts i) : Py.idx (pts.map f) i = some (f (P pts i)) := by
  rw [Py.idx_inrange _ i (f default) ⟨h.1, by rw [List.length_map]; exact (Int.toNat_lt h.1).mpr h.2⟩, P, List.getD_eq_getElem?_getD,
    List.getD_eq_getElem?_getD, List.getElem?_map, Option.getD_map]

/-- one iteration of `for c in children` -/
theorem for1_step (dist : Int → Int → Rat) (pts : List Pt) (n c : Int) (hn : ok pts n) (hc : ok pts c) (v : raster_leave.V Rat)
    (hv : v.xyz = rowsOf pts ∧ v.rs = radii pts ∧ v.n = n) :
    ∃ v', raster_leave.for1 dist c v = .next v' ∧ (v'.xyz = rowsOf pts ∧ v'.rs = radii pts ∧ v'.n = n) ∧
      v'.scene = v.scene ++ [edgeSolid dist pts n c] := by
  obtain ⟨hx, hr, rfl⟩ := hv
  by_cases h1 : dist c v.n ≤ |(P pts v.n).2 - (P pts c).2|
  · by_cases h2 : (P pts c).2 ≤ (P pts v.n).2 <;>
      simp [raster_leave.for1, Py.seq, Py.bind, hx, hr, rowsOf, radii, idx_map, hn, hc, absK_eq, h1, h2, tp3f_eq, edgeSolid]
  · simp [raster_leave.for1, Py.seq, Py.bind, hx, hr, rowsOf, radii, idx_map, hn, hc, absK_eq, h1, tp3f_eq, edgeSolid]

/-- **the `leave` closure as translated on this run**: on rows of the table it never raises, leaves the coordinate / radius columns alone,
appends the solid of every edge to a child (in the order of the children) and returns the node -/
theorem leave_refines (dist : Int → Int → Rat) (pts : List Pt) (sc : List (Py.Sdf Rat)) (n : Int) (ks : List Int)
    (hn : ok pts n) (hks : ∀ c ∈ ks, ok pts c) :
    raster_leave dist (sc, rowsOf pts, radii pts) n ks
      = some ((sc ++ ks.map (edgeSolid dist pts n), rowsOf pts, radii pts), n) := by
  obtain ⟨v', e, ⟨hx, hr, hn'⟩, a⟩ := forEach_collect (raster_leave.for1 dist) (·.scene) (edgeSolid dist pts n)
    (fun v => v.xyz = rowsOf pts ∧ v.rs = radii pts ∧ v.n = n) ks (fun c hc => for1_step dist pts n c hn (hks c hc))
    { (default : raster_leave.V Rat) with n := n, children := ks, scene := sc, xyz := rowsOf pts, rs := radii pts } ⟨rfl, rfl, rfl⟩
  simp only [raster_leave, raster_leave.body, Py.seq, e, Py.finish, Option.map_some, hx, hr, hn', a]

/-! ### the whole scene, through the generated `Tree.traverse` -/

mutual
/-- **the model scene of a tree**: the solids in the order `_get_scene` adds them — the subtrees of the children from the last to the first,
then the edges from the node to its children in table order -/
def sceneRose (E : Int → Int → Py.Sdf Rat) : Rose → List (Py.Sdf Rat)
  | .node i ks => sceneRoseL E ks ++ (ks.map Rose.id).map (E i)
def sceneRoseL (E : Int → Int → Py.Sdf Rat) : List Rose → List (Py.Sdf Rat)
  | [] => []
  | r :: rs => sceneRoseL E rs ++ sceneRose E r
end

mutual
theorem spec_scene (dist : Int → Int → Rat) (pts : List Pt) :
    ∀ (r : Rose) (pv : Option Unit) (sc : List (Py.Sdf Rat)), (∀ j ∈ r.ids, ok pts j) →
      spec Py.absent2 (Py.wrap2 (raster_leave dist)) r pv (some (sc, rowsOf pts, radii pts))
        = (some (sc ++ sceneRose (edgeSolid dist pts) r, rowsOf pts, radii pts), r.id)
  | .node i ks, pv, sc, hok => by
    have hi : ok pts i := hok i (by simp [Rose.ids])
    have hks : ∀ c ∈ ks.map Rose.id, ok pts c :=
      List.forall_mem_map.mpr fun k hk => hok _ (by simp [Rose.ids, mem_idsL_of_mem hk])
    simp only [spec, Py.absent2]
    rw [specRev_scene dist pts ks () sc (fun j hj => hok j (by simp [Rose.ids, hj]))]
    simp only [Py.wrap2, leave_refines dist pts _ i _ hi hks, sceneRose, Rose.id, List.append_assoc]
theorem specRev_scene (dist : Int → Int → Rat) (pts : List Pt) :
    ∀ (ks : List Rose) (cur : Unit) (sc : List (Py.Sdf Rat)), (∀ j ∈ idsL ks, ok pts j) →
      specRev Py.absent2 (Py.wrap2 (raster_leave dist)) ks cur (some (sc, rowsOf pts, radii pts))
        = (some (sc ++ sceneRoseL (edgeSolid dist pts) ks, rowsOf pts, radii pts), ks.map Rose.id)
  | [], _, sc, _ => by simp [specRev, sceneRoseL]
  | r :: rs, cur, sc, hok => by
    simp only [specRev]
    rw [specRev_scene dist pts rs cur sc (fun j hj => hok j (by simp [idsL, hj]))]
    simp only
    rw [spec_scene dist pts r (some cur) _ (fun j hj => hok j (by simp [idsL, hj]))]
    simp [sceneRoseL, List.append_assoc]
end

/-- **`ToImageStack._get_scene` as translated on this run**: on every tree (a table whose subtree at node 0 is `r`, every node a row of the
coordinate table) the call — through the generated `Tree.traverse` and `_traverse_dfs` — never raises, never runs out of fuel
(`2·size + 1` suffices) and returns the model scene: one solid per edge, chosen by `edgeSolid` -/
theorem getScene_refines (dist : Int → Int → Rat) (pts : List Pt) (ids pids : List Int) (r : Rose) (hR : Represents r ids pids) (h0 : r.id = 0)
    (hrows : Rows r ids) (hok : ∀ j ∈ r.ids, ok pts j) (F : Nat) :
    raster_get_scene dist (2 * r.size + F + 1) ids pids (rowsOf pts) (radii pts) = some (sceneRose (edgeSolid dist pts) r) := by
  simp [raster_get_scene, raster_get_scene.body, Py.seq, Py.bind, tree_traverse_l_refines _ ids pids r hR h0 hrows _ F,
    spec_scene dist pts r none [] hok, Py.unwrapCb, Py.finish]

/-! ### the case analysis is the model's `edgeIsBall` / `edgeBall` rule -/

/-- the solid of the model for an edge between the balls `(a, ra)` and `(b, rb)` (`Model/Images.lean`): the larger ball when one end ball
contains the other (`Img.edgeIsBall`, `Img.edgeBall`), else the round cone -/
def modelSolid (a b : Rat × Rat × Rat) (ra rb : Rat) : Py.Sdf Rat :=
  if Img.edgeIsBall a b ra rb then .sphere (Img.edgeBall a b ra rb).1 (Img.edgeBall a b ra rb).2 else .cone a b ra rb

/-- **the generated edge case analysis is the model's rule** whenever the distance handed to the comparison is the Euclidean distance of the two
centres (non-negative, its square the squared distance) -/
theorem edgeSolid_model (dist : Int → Int → Rat) (pts : List Pt) (n c : Int) (hd0 : 0 ≤ dist c n)
    (hd : dist c n * dist c n = Img.sqd (P pts n).1 (P pts c).1) :
    edgeSolid dist pts n c = modelSolid (P pts n).1 (P pts c).1 (P pts n).2 (P pts c).2 := by
  -- both sides of the generated test are non-negative: compare the squares
  have key : dist c n ≤ |(P pts n).2 - (P pts c).2|
      ↔ Img.sqd (P pts n).1 (P pts c).1 ≤ ((P pts n).2 - (P pts c).2) * ((P pts n).2 - (P pts c).2) := by
    rw [← hd, ← abs_mul_abs_self ((P pts n).2 - (P pts c).2)]
    exact mul_self_le_mul_self_iff hd0 (abs_nonneg _)
  simp only [edgeSolid, modelSolid, Img.edgeIsBall, Img.edgeBall, key, decide_eq_true_eq]
  by_cases h2 : (P pts n).2 ≥ (P pts c).2 <;> simp only [h2, if_true, if_false]

/-! ## `transform` as a whole -/

section transform
variable {σ ψ φ : Type} [Inhabited σ] [Inhabited ψ] [Inhabited φ]
variable (sample : σ → Py.RangeSampler Rat → List (Py.Sdf Rat) → σ × ψ) (toFrame : ψ → φ)

/-- the model of the frame loop: every sampler is handed to the (stateful) `sample` callback together with the scene, in order; one frame each -/
def runFrames (scene : List (Py.Sdf Rat)) : List (Py.RangeSampler Rat) → σ × List φ → σ × List φ
  | [], acc => acc
  | s :: ss, acc => runFrames scene ss ((sample acc.1 s scene).1, acc.2 ++ [toFrame (sample acc.1 s scene).2])

def frameStep (scene : List (Py.Sdf Rat)) (acc : σ × List φ) (s : Py.RangeSampler Rat) : σ × List φ :=
  ((sample acc.1 s scene).1, acc.2 ++ [toFrame (sample acc.1 s scene).2])

omit [Inhabited σ] [Inhabited ψ] [Inhabited φ] in
theorem runFrames_eq_foldl (scene : List (Py.Sdf Rat)) : ∀ (ss : List (Py.RangeSampler Rat)) (acc : σ × List φ),
    runFrames sample toFrame scene ss acc = ss.foldl (frameStep sample toFrame scene) acc
  | [], _ => rfl
  | _ :: ss, _ => runFrames_eq_foldl scene ss _

theorem frames_finish (dist : Int → Int → Rat) (ss : List (Py.RangeSampler Rat)) (v : raster_transform.V σ ψ φ Rat) :
    (Py.finish (default : Unit) (Py.forEach (raster_transform.for1 sample Py.ratFld Py.ratFlr dist toFrame) ss v)).map
        (fun r => (r.1.yielded_, r.1.cbs, r.2))
      = some ((runFrames sample toFrame v.scene ss (v.cbs, v.yielded_)).2, (runFrames sample toFrame v.scene ss (v.cbs, v.yielded_)).1, ()) := by
  obtain ⟨v', e, -, a⟩ := forEach_fold (raster_transform.for1 sample Py.ratFld Py.ratFlr dist toFrame) (fun w => (w.cbs, w.yielded_))
    (frameStep sample toFrame v.scene) (fun w => w.scene = v.scene) ss (fun s _ w hw => ⟨_, by simp only [raster_transform.for1, Py.seq]; rfl, by exact hw, by rw [← hw]; rfl⟩) v rfl
  rw [e, runFrames_eq_foldl, ← a]
  rfl

/-- the corners of the model's bounding box -/
def boxLo (pts : List Pt) : Rat × Rat × Rat := ((bboxAx (·.1.1) pts).1, (bboxAx (·.1.2.1) pts).1, (bboxAx (·.1.2.2) pts).1)
def boxHi (pts : List Pt) : Rat × Rat × Rat := ((bboxAx (·.1.1) pts).2, (bboxAx (·.1.2.1) pts).2, (bboxAx (·.1.2.2) pts).2)

/-- number of z slices of the raster -/
def nSlices (pts : List Pt) (sz : Rat) : Nat := (axisCentres (boxLo pts).2.2 (boxHi pts).2.2 sz).length

/-- what `transform` computes before its frame loop -/
theorem box_samplers (pts : List Pt) (hne : pts ≠ []) (sx sy sz : Rat) (hsz : 0 < sz) (F : Nat) :
    ∃ m lo M hi, Py.bcastCol (fun x y => x - y) (rowsOf pts) (radii pts) = some m ∧ Py.minAxis0 m = some lo ∧
      Py.bcastCol (fun x y => x + y) (rowsOf pts) (radii pts) = some M ∧ Py.maxAxis0 M = some hi ∧
      raster_get_samplers Py.ratFld (nSlices pts sz + 1 + F) (Py.floorArr lo) (Py.ceilArr hi) [sx, sy, sz]
        = some (modelSamplers (boxLo pts) (boxHi pts) (sx, sy, sz), ()) := by
  obtain ⟨hmin, hmax⟩ := bbox_refines pts hne
  rw [bcast_rows] at hmin hmax
  obtain ⟨lo, h2, h2'⟩ := Option.map_eq_some_iff.mp hmin
  obtain ⟨hi, h4, h4'⟩ := Option.map_eq_some_iff.mp hmax
  exact ⟨_, lo, _, hi, bcast_rows _ pts, h2, bcast_rows _ pts, h4, by rw [h2', h4']; exact samplers_refines _ _ _ _ _ _ sx sy sz hsz F⟩

/-- **`ToImageStack.transform` as translated on this run** (`verbose` falsy, no `ranges`): for every non-empty table of nodes, every resolution
with a positive z component, every stateful sampler callback and whatever scene the generated `_get_scene` returns, the generator yields exactly
one frame per model sampler — the slices `Img.axisCentres` of the model's bounding box `Img.bbox`, in order of increasing z —, every sampler
being handed that scene; fuel = number of slices + 1 suffices for the slice loop -/
theorem transform_refines (dist : Int → Int → Rat) (pts : List Pt) (hne : pts ≠ []) (sx sy sz : Rat) (hsz : 0 < sz) (ids pids : List Int)
    (scene : List (Py.Sdf Rat)) (F : Nat) (s0 : σ)
    (hsc : raster_get_scene dist (nSlices pts sz + 1 + F) ids pids (rowsOf pts) (radii pts) = some scene) :
    raster_transform sample Py.ratFld Py.ratFlr dist toFrame (nSlices pts sz + 1 + F) ids pids (rowsOf pts) (radii pts) [sx, sy, sz] s0
      = some ((runFrames sample toFrame scene (modelSamplers (boxLo pts) (boxHi pts) (sx, sy, sz)) (s0, [])).2,
              (runFrames sample toFrame scene (modelSamplers (boxLo pts) (boxHi pts) (sx, sy, sz)) (s0, [])).1, ()) := by
  obtain ⟨m, lo, M, hi, h1, h2, h3, h4, h5⟩ := box_samplers pts hne sx sy sz hsz F
  simp only [raster_transform, raster_transform.body, Py.seq, Py.bind, hsc, h1, h2, h3, h4, h5]
  exact frames_finish sample toFrame dist _ _

end transform

end RefineRaster
