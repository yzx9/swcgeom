import SwcVerif.Gen.AlgoRepair
import SwcVerif.Refine.Checkers
import SwcVerif.Refine.Normalizer
import SwcVerif.Proofs.DsuLink
/-! Refinement for C18 (root repair): the definitions GENERATED from `checker.py::is_single_root` and
`normalizer.py::link_roots_to_nearest_` (DataFrame columns as variables, `df[mask].iterrows()` / `next`, float arrays with `inf`,
`argmin`, the distances as a callback) compute what the models `Dsu.isSingleRoot`, `Dsu.linkRootsToNearest` compute; the definition
generated from the tail of `io.py::read_swc` (the `match` on `fix_roots`, the call of `sort_nodes_` or `reset_index_`, the three warnings)
is the composition of the translated callees (`readFix_stages`).  What the callee `sort_nodes_` computes is not treated here but in
`Props/C05Wrap.lean`. -/
namespace RefineRepair
open Gen.Algo Dsu Py RefineCheckers

/-! ### `is_single_root` -/

theorem eraseDups_map {α β : Type} [BEq α] [LawfulBEq α] [BEq β] [LawfulBEq β] (f : α → β) (hf : ∀ a b, f a = f b → a = b)
    (l : List α) : (l.map f).eraseDups = l.eraseDups.map f := by
  -- induction on a bound of the length: `eraseDups` recurses on a filtered tail
  suffices ∀ n (l : List α), l.length ≤ n → (l.map f).eraseDups = l.eraseDups.map f from this _ l (Nat.le_refl _)
  intro n
  induction n with
  | zero => intro l h; rw [List.eq_nil_of_length_eq_zero (Nat.le_zero.1 h)]; rfl
  | succ n ih =>
    intro l h
    cases l with
    | nil => rfl
    | cons a t =>
      have hfil : (t.map f).filter (fun b => !b == f a) = (t.filter fun b => !b == a).map f := by
        rw [List.filter_map]; congr 2; funext b
        have : (f b == f a) = (b == a) := Bool.eq_iff_iff.2 (by rw [beq_iff_eq, beq_iff_eq]; exact ⟨hf _ _, congrArg f⟩)
        simp only [Function.comp_def, this]
      rw [List.map_cons, List.eraseDups_cons, hfil,
        ih _ (Nat.le_trans (List.length_filter_le _ t) (Nat.le_of_succ_le_succ h)), List.eraseDups_cons, List.map_cons]

/-- **`is_single_root` as translated equals the model** (any fuel, failures included), on every table with distinct ids -/
theorem isSingleRoot_refines (ids pids : List Int) (hnd : ids.Nodup) (hl : ids.length = pids.length) (fuel : Nat) :
    is_single_root fuel ids pids = ((dsuInit ids pids).bind (jumpLoop fuel)).map (fun l => l.eraseDups.length == 1) := by
  simp only [is_single_root, is_single_root.body, getDsu_refines ids pids hnd hl fuel]
  cases (dsuInit ids pids).bind (jumpLoop fuel) with
  | none => rfl
  | some l =>
    simp only [Option.map_some, Py.bind, finish, uniqueCount, castL, eraseDups_map _ (fun _ _ => Int.ofNat_inj.1) l, List.length_map]
    rw [← Int.natCast_one]
    simp only [Int.natCast_inj, Bool.beq_eq_decide_eq]

/-! ### `link_roots_to_nearest_` -/

/-- the callback standing for `np.linalg.norm(df[[x, y, z]] - row[[x, y, z]], axis=1)`: the distances of all `n` rows to row `i`, given by an
arbitrary function `dist2` (it does not touch the callback state) -/
def normOf {σ : Type} (n : Nat) (dist2 : Nat → Nat → Int) : σ → Int → σ × List Int :=
  fun s i => (s, (List.range n).map (fun j => dist2 i.toNat j))

theorem whereA_map3 {α β : Type} (l : List α) (c : α → Bool) (f g : α → β) :
    whereA (l.map c) (l.map f) (l.map g) = l.map (fun x => if c x then f x else g x) := by
  simp [whereA, List.zip_eq_zipWith, List.zipWith_map_left, List.zipWith_map_right, List.zipWith_self]

theorem minInf_eq (l : List (Option Int)) : minInf l = l.foldl amStep none := rfl

theorem argminInf_eq (l : List (Option Int)) (h : l ≠ []) : argminInf l = some ((argminOpt l : Nat) : Int) := by
  have : l.isEmpty = false := by cases l <;> simp_all
  rw [argminOpt_eq]
  unfold argminInf
  simp only [this, Bool.false_eq_true, if_false, minInf_eq]
  cases l.foldl amStep none <;> rfl

/-- `dis = np.where(subtree, inf, dis)`: the rows labelled `lab` are masked out -/
theorem whereA_dis (dsu : List Nat) (n lab : Nat) (hd : dsu.length = n) (f : Nat → Int) :
    whereA (eqMask (castL dsu) (lab : Int)) ((eqMask (castL dsu) (lab : Int)).map fun _ => (none : Option Int)) (((List.range n).map f).map some)
      = (List.range n).map fun j => if dsu.getD j 0 = lab then none else some (f j) := by
  subst hd
  conv => lhs; rw [eq_range_map dsu 0]
  simp only [eqMask, castL, List.map_map, Function.comp_def, whereA_map3, Int.natCast_inj, decide_eq_true_eq, List.length_map,
    List.length_range]

/-- `dsu = np.where(subtree, new, dsu)`: the label `lab` is renamed to `new` -/
theorem where_relabel (dsu : List Nat) (lab new : Nat) :
    where_ (eqMask (castL dsu) (lab : Int)) ((eqMask (castL dsu) (lab : Int)).map fun _ => (new : Int)) (castL dsu)
      = castL (dsu.map fun l => if l = lab then new else l) := by
  simp only [eqMask, castL, List.map_map, Function.comp_def, RefineNorm.where_map3, Int.natCast_inj, decide_eq_true_eq,
    apply_ite Nat.cast]

theorem for1_step {σ : Type} [Inhabited σ] (dist2 : Nat → Nat → Int) (k : Nat) (dsu : List Nat) (v : link_roots_to_nearest_.V σ)
    (hk : k < v.ids.length) (hp : v.pids.length = v.ids.length) (hd : dsu.length = v.ids.length) (h3 : v.dsu = castL dsu) :
    ∃ v', link_roots_to_nearest_.for1 (normOf v.ids.length dist2) ((k : Int), (k : Int)) v = .next v' ∧ v'.ids = v.ids ∧ v'.cbs = v.cbs ∧
      v'.pids = v.pids.set k (v.ids.getD (nearestOf v.ids dist2 k dsu) 0) ∧
      v'.dsu = castL (dsu.map fun l => if l = dsu.getD k 0 then dsu.getD (nearestOf v.ids dist2 k dsu) 0 else l) := by
  unfold nearestOf
  generalize hdis : ((List.range v.ids.length).map fun j => if dsu.getD j 0 = dsu.getD k 0 then none else some (dist2 k j) : List (Option Int)) = dis
  have hdl : dis.length = v.ids.length := by rw [← hdis]; simp
  have hpos : 0 < dis.length := hdl ▸ Nat.zero_lt_of_lt hk
  have hkk : argminOpt dis < v.ids.length := hdl ▸ argminOpt_lt dis hpos
  have hw : whereA (eqMask (castL dsu) (dsu.getD k 0 : Nat)) ((eqMask (castL dsu) (dsu.getD k 0 : Nat)).map fun _ => (none : Option Int))
      (((List.range v.ids.length).map fun j => dist2 k j).map some) = dis := by
    rw [← hdis]; exact whereA_dis dsu _ _ hd _
  simp only [link_roots_to_nearest_.for1, seq, Py.bind, normOf, h3, Int.toNat_natCast, idx_castL dsu k (hd ▸ hk), hw,
    argminInf_eq dis (List.ne_nil_of_length_pos hpos), idx_castL dsu (argminOpt dis) (hd ▸ hkk),
    where_relabel dsu (dsu.getD k 0) (dsu.getD (argminOpt dis) 0), idx_nat_getD v.ids _ 0 hkk, setIdx_nat v.pids k _ (hp ▸ hk)]
  exact ⟨_, rfl, rfl, rfl, rfl, rfl⟩

/-- the loop of `link_roots_to_nearest_`, as translated, is the model's `linkLoop` -/
theorem for1_loop {σ : Type} [Inhabited σ] (dist2 : Nat → Nat → Int) :
    ∀ (is : List Nat) (dsu : List Nat) (v : link_roots_to_nearest_.V σ),
      (∀ i ∈ is, i < v.ids.length) → v.pids.length = v.ids.length → dsu.length = v.ids.length → v.dsu = castL dsu →
      ∃ v', forEach (link_roots_to_nearest_.for1 (normOf v.ids.length dist2)) (is.map (fun (k : Nat) => ((k : Int), (k : Int)))) v = .next v' ∧
        v'.pids = linkLoop v.ids dist2 is v.pids dsu ∧ v'.cbs = v.cbs := by
  intro is
  induction is with
  | nil => intro _ v _ _ _ _; exact ⟨v, rfl, rfl, rfl⟩
  | cons k rest ih =>
    intro dsu v his hp hd h3
    obtain ⟨v1, e1, i1, c1, p1, d1⟩ := for1_step dist2 k dsu v (his k List.mem_cons_self) hp hd h3
    obtain ⟨v', e, p, c⟩ := ih _ v1 (fun i hi => i1 ▸ his i (List.mem_cons_of_mem _ hi))
      (by rw [p1, i1, List.length_set, hp]) (by rw [i1, List.length_map, hd]) d1
    rw [i1] at e p
    exact ⟨v', by simp only [List.map_cons, forEach, e1, e], by rw [p, p1]; rfl, c.trans c1⟩

theorem iterrows_roots (pids : List Int) :
    iterrows (eqMask pids (-1)) =
      ((List.range pids.length).filter (fun k => pids.getD k 0 = -1)).map (fun (k : Nat) => ((k : Int), (k : Int))) := by
  unfold iterrows
  congr 1
  have hl : (eqMask pids (-1)).length = pids.length := by simp [eqMask]
  rw [hl]
  apply List.filter_congr
  intro k hk
  simp [eqMask, List.getD_eq_getElem?_getD, List.mem_range.1 hk]

theorem getDsu_length (ids pids : List Int) (hl : ids.length = pids.length) (l : List Nat) (h : getDsu ids pids = some l) :
    l.length = ids.length := by
  unfold getDsu at h
  cases hi : dsuInit ids pids with
  | none => simp [hi] at h
  | some l0 =>
    simp only [hi, Option.bind_some] at h
    have := (jumpLoop_spec _ _ _ h).1
    rw [this, dsuInit_length ids pids l0 hi, ← hl, Nat.min_self]

/-- **`link_roots_to_nearest_` as translated equals the model `Dsu.linkRootsToNearest`** — for every table with distinct ids that has a
root, and every distance function (the callback state is returned untouched); `none` on both sides when `get_dsu` raises (KeyError) or
does not stop within the pass budget -/
theorem linkRoots_refines {σ : Type} [Inhabited σ] (ids pids : List Int) (hnd : ids.Nodup) (hl : ids.length = pids.length)
    (hr : (-1 : Int) ∈ pids) (dist2 : Nat → Nat → Int) (cbs : σ) :
    link_roots_to_nearest_ (normOf ids.length dist2) (ids.length * ids.length + 2) ids pids cbs =
      (linkRootsToNearest ids pids dist2).map (fun p => (p, cbs, ())) := by
  have hg : get_dsu (ids.length * ids.length + 2) ids pids = (getDsu ids pids).map castL := getDsu_refines ids pids hnd hl _
  unfold linkRootsToNearest
  simp only [link_roots_to_nearest_, link_roots_to_nearest_.body, seq, hg]
  cases hd : getDsu ids pids with
  | none => rfl
  | some dsu =>
    obtain ⟨_, hloc⟩ := RefineNorm.argmax_firstRoot pids hr
    cases hroots : (List.range pids.length).filter (fun k => pids.getD k 0 = -1) with
    | nil =>
      have := firstRootLoc_spec pids hloc
      have hmem : firstRootLoc pids ∈ (List.range pids.length).filter (fun k => pids.getD k 0 = -1) := by
        simp [List.getD_eq_getElem?_getD, hloc, this]
      rw [hroots] at hmem; simp at hmem
    | cons r0 rest =>
      obtain ⟨v', e, p, c⟩ := for1_loop dist2 rest dsu
        { (default : link_roots_to_nearest_.V σ) with ids := ids, pids := pids, cbs := cbs, dsu := castL dsu, roots := [] }
        (fun i hi => hl ▸ List.mem_range.1 (List.mem_filter.1 (hroots ▸ List.mem_cons_of_mem _ hi)).1)
        hl.symm (getDsu_length ids pids hl dsu hd) rfl
      simp only [Option.map_some, Py.bind, iterrows_roots, hroots, List.map_cons, Py.next, List.drop_succ_cons, List.drop_zero]
      rw [e]
      simp [finish, p, c]

/-! ### the tail of `read_swc` (from `# fix swc`): a composition of the translated callees -/

section stages
variable {σ : Type} [Inhabited σ]

/-- a state of the translated tail of `read_swc` (no warning issued yet) -/
@[simp] def mkV (ids pids types rs : List Int) (mode : Option String) (srt rst : Bool) (cbs : σ) : read_swc_fix.V σ :=
  { ids := ids, pids := pids, types := types, rs := rs, fix_roots := mode, sort_nodes := srt, reset_index := rst, warnings_ := [], cbs := cbs }

/-- `# fix swc`: the `match` on `fix_roots`, entered only with several roots; returns the parent column, the type column and the callback state -/
def fixStage (norm : σ → Int → σ × List Int) (fuel : Nat) (ids pids types : List Int) (mode : Option String) (cbs : σ) :
    Option (List Int × List Int × σ) :=
  match mode with
  | none => some (pids, types, cbs)
  | some m =>
    if countNonzero (eqMask pids (-1)) > 1 then
      if m = "somas" then (mark_roots_as_somas_ ids pids types (some 1)).map fun r => (r.1, r.2.1, cbs)
      else if m = "nearest" then (link_roots_to_nearest_ norm fuel ids pids cbs).map fun r => (r.1, types, r.2.1)
      else none
    else some (pids, types, cbs)

/-- `sort_nodes_` or else `reset_index_` -/
def normStage (fuel : Nat) (ids pids types rs : List Int) (srt rst : Bool) : Option (List Int × List Int × List Int × List Int) :=
  if srt then (sort_nodes_ fuel ids pids types rs).map fun r => (r.1, r.2.1, r.2.2.1, r.2.2.2.1)
  else if rst then (reset_index_ ids pids).map fun r => (r.1, r.2.1, types, rs)
  else some (ids, pids, types, rs)

/-- `# check swc`: the warnings issued, as call-site numbers (0 = not a simple tree, 1 = root is not the first node, 2 = non-positive radius) -/
def checkStage (fuel : Nat) (ids pids rs : List Int) : Option (List Int) :=
  (is_single_root fuel ids pids).bind fun b => (argmaxMask (eqMask pids (-1))).map fun loc =>
    (if b then [] else [(0 : Int)]) ++ (if loc ≠ 0 then [(1 : Int)] else []) ++ (if Py.any (leMask rs 0) then [(2 : Int)] else [])

/-- **the tail of `read_swc` as translated is the composition repair → normalisation → checks of the translated callees, for EVERY input and
every option** (an exception anywhere is an exception of the whole) -/
theorem readFix_stages (norm : σ → Int → σ × List Int) (fuel : Nat) (ids pids types rs : List Int) (mode : Option String)
    (srt rst : Bool) (cbs : σ) :
    read_swc_fix norm fuel ids pids types rs mode srt rst cbs =
      (fixStage norm fuel ids pids types mode cbs).bind fun f =>
        (normStage fuel ids f.1 f.2.1 rs srt rst).bind fun g =>
          (checkStage fuel g.1 g.2.1 g.2.2.2).map fun w => (g.1, g.2.1, g.2.2.1, g.2.2.2, w, f.2.2, ()) := by
  unfold read_swc_fix read_swc_fix.body
  rw [seq_ofOption _ _ _ (fixStage norm fuel ids pids types mode cbs) (fun f => mkV ids f.1 f.2.1 rs mode srt rst f.2.2)]
  · cases fixStage norm fuel ids pids types mode cbs with
    | none => rfl
    | some f =>
      simp only [Option.bind_some]
      rw [seq_ofOption _ _ _ (normStage fuel ids f.1 f.2.1 rs srt rst)
        (fun g => mkV g.1 g.2.1 g.2.2.1 g.2.2.2 mode srt rst f.2.2)]
      · cases normStage fuel ids f.1 f.2.1 rs srt rst with
        | none => rfl
        | some g =>
          -- the three checks touch `warnings_` only: each conditional warning becomes `++ if … then [n] else []`, as in `checkStage`
          simp only [Option.bind_some, checkStage, seq_eq_bindS, mkV, bindS_bind, map_finish_bind, bindS_ite_next,
            finish_ret, map_bind, Option.map_map, Function.comp_def, Option.map_some,
            apply_ite read_swc_fix.V.ids, apply_ite read_swc_fix.V.pids, apply_ite read_swc_fix.V.types, apply_ite read_swc_fix.V.rs,
            apply_ite read_swc_fix.V.warnings_, apply_ite read_swc_fix.V.cbs, ite_self, ite_append_singleton]
          refine congrArg _ (funext fun b => ?_)
          cases b <;> simp [Option.map_eq_bind, Function.comp_def]
      · unfold normStage
        cases srt with
        | true => cases hm : sort_nodes_ fuel ids f.1 f.2.1 rs <;> simp [hm, Py.bind]
        | false =>
          cases rst with
          | true => cases hm : reset_index_ ids f.1 <;> simp [hm, Py.bind]
          | false => simp [skip]
  · unfold fixStage
    cases mode with
    | none => simp [skip]; rfl
    | some m =>
      by_cases hc : countNonzero (eqMask pids (-1)) > 1
      · by_cases h1 : m = "somas"
        · subst h1; cases hm : mark_roots_as_somas_ ids pids types (some 1) <;> simp [hc, hm, Py.bind]; rfl
        · by_cases h2 : m = "nearest"
          · subst h2; cases hm : link_roots_to_nearest_ norm fuel ids pids cbs <;> simp [hc, hm, Py.bind]; rfl
          · simp [hc, h1, h2]
      · simp [hc, skip]; rfl

end stages

end RefineRepair
