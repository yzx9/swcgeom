import SwcVerif.Gen.AlgoAsc
import SwcVerif.Refine.PyRun
/-! Refinement for C15: `NeurolucidaAscToSwc.from_ast` / `walk_ast` AS TRANSLATED from the current source
(`Gen/AlgoAsc.lean`) on every AST heap that unfolds to a tree: the explicit-stack loop produces exactly the rows of the structural
recursion `rows` — pre-order, one row per NODE, ids consecutive, `pid` = the id of the nearest enclosing NODE (−1 directly under a
TREE / the ROOT), typed by the enclosing TREE's label — and the fuel `cost` (one unit per visited AST node plus one per TREE) + 1
suffices. -/
namespace RefineAsc
open Gen.Algo Py

/-- the unfolding of an AST heap from a reference: the reference and the unfoldings of its children -/
inductive AT where
  | mk (ref : Nat) (kids : List AT)

def AT.ref : AT → Nat | .mk r _ => r
def AT.kids : AT → List AT | .mk _ ks => ks

/-- `types.axon` / `types.basal_dendrite` for the labels `walk_ast` knows -/
def labelCode (v : Val) : Option Int :=
  if Val.eqStr v "AXON" then some Gen.Consts.type_axon
  else if Val.eqStr v "DENDRITE" then some Gen.Consts.type_basal_dendrite else none

/-- one row of the table (`ndata`) -/
structure Row where
  id : Int
  type : Int
  x : Atom
  y : Atom
  z : Atom
  r : Atom
  pid : Int
deriving Repr, DecidableEq

def coord (v : Val) (k : Nat) : Atom := ((Val.unpack v 4).getD []).getD k default

mutual
/-- the heap unfolds to `t`, and is well-formed for the walk: a TREE carries a label the walk knows, a NODE a 4-tuple -/
def Agrees (nodes : List ASTNode) : AT → Prop
  | .mk r kids => ∃ o, nodes[r]? = some o ∧ o.children = kids.map (fun k => (k.ref : Int)) ∧
      (o.type = 2 → (labelCode o.value).isSome) ∧ (o.type = 3 → (Val.unpack o.value 4).isSome) ∧ AgreesL nodes kids
def AgreesL (nodes : List ASTNode) : List AT → Prop
  | [] => True
  | t :: ts => Agrees nodes t ∧ AgreesL nodes ts
end

mutual
/-- **the table the walk must produce**, by structural recursion: `pid` = id of the nearest enclosing NODE (−1 under a TREE / ROOT),
`ty` = code of the enclosing TREE's label, `next` = the next free id; COLOR / COMMENT nodes contribute nothing -/
def rows (nodes : List ASTNode) : AT → Int → Int → Nat → List Row
  | .mk r kids, pid, ty, next =>
    match nodes[r]? with
    | none => []
    | some o =>
      if o.type = 1 then rowsL nodes kids (-1) ty next
      else if o.type = 2 then rowsL nodes kids (-1) ((labelCode o.value).getD ty) next
      else if o.type = 3 then
        ⟨next, ty, coord o.value 0, coord o.value 1, coord o.value 2, coord o.value 3, pid⟩ :: rowsL nodes kids next ty (next + 1)
      else []
def rowsL (nodes : List ASTNode) : List AT → Int → Int → Nat → List Row
  | [], _, _, _ => []
  | t :: ts, pid, ty, next => rows nodes t pid ty next ++ rowsL nodes ts pid ty (next + (rows nodes t pid ty next).length)
end

mutual
/-- iterations of the `while` loop spent on a subtree: one per visited node, one more per TREE (its sentinel) -/
def cost (nodes : List ASTNode) : AT → Nat
  | .mk r kids =>
    match nodes[r]? with
    | none => 1
    | some o =>
      if o.type = 1 then 1 + costL nodes kids
      else if o.type = 2 then 2 + costL nodes kids
      else if o.type = 3 then 1 + costL nodes kids
      else 1
def costL (nodes : List ASTNode) : List AT → Nat
  | [] => 0
  | t :: ts => cost nodes t + costL nodes ts
end

abbrev Stk := List (Option Int × Int)

theorem for1_loop : ∀ (l : List Int) (v : walk_ast.V),
    forEach walk_ast.for1 l v = .next { v with c9_ := v.c9_ ++ l.map (fun n => (some n, v.idx)), n := l.getLast?.getD v.n } :=
  forEach_closed _ _ _ (fun _ _ => rfl) (fun v => by simp) (fun a l v => by simp [List.getLast?_cons])

theorem for2_loop : ∀ (l : List Int) (v : walk_ast.V),
    forEach walk_ast.for2 l v = .next { v with c16_ := v.c16_ ++ l.map (fun n => (some n, (-1 : Int))), n := l.getLast?.getD v.n } :=
  forEach_closed _ _ _ (fun _ _ => rfl) (fun v => by simp) (fun a l v => by simp [List.getLast?_cons])

theorem for3_loop : ∀ (l : List Int) (v : walk_ast.V),
    forEach walk_ast.for3 l v = .next { v with c20_ := v.c20_ ++ l.map (fun n => (some n, (-1 : Int))), n := l.getLast?.getD v.n } :=
  forEach_closed _ _ _ (fun _ _ => rfl) (fun v => by simp) (fun a l v => by simp [List.getLast?_cons])

def Cols (v v' : walk_ast.V) (rs : List Row) : Prop :=
  v'.nodes = v.nodes ∧ v'.next_id = v.next_id + rs.length ∧ v'.col_id = v.col_id ++ rs.map (·.id) ∧
  v'.col_type = v.col_type ++ rs.map (·.type) ∧ v'.col_x = v.col_x ++ rs.map (·.x) ∧ v'.col_y = v.col_y ++ rs.map (·.y) ∧
  v'.col_z = v.col_z ++ rs.map (·.z) ∧ v'.col_r = v.col_r ++ rs.map (·.r) ∧ v'.col_pid = v.col_pid ++ rs.map (·.pid)

theorem Cols.trans {v v1 v2 : walk_ast.V} {r1 r2 : List Row} (h1 : Cols v v1 r1) (h2 : Cols v1 v2 r2) : Cols v v2 (r1 ++ r2) := by
  obtain ⟨a, c, d, e, f, g, h, i, j⟩ := h1
  obtain ⟨a', c', d', e', f', g', h', i', j'⟩ := h2
  refine ⟨by rw [a', a], ?_, ?_, ?_, ?_, ?_, ?_, ?_, ?_⟩
  · rw [c', c]; simp; omega
  all_goals simp [*]

def Stepped (v v' : walk_ast.V) (stack : Stk) (typee : List Int) (rs : List Row) : Prop :=
  v'.stack = stack ∧ v'.typee = typee ∧ Cols v v' rs

theorem step_root {v : walk_ast.V} {rest : Stk} {k : Nat} {pid : Int} {o : ASTNode}
    (hs : v.stack = rest ++ [(some (k : Int), pid)]) (ho : v.nodes[k]? = some o) (ht : o.type = 1) :
    ∃ v', walk_ast.while4_body v = .next v' ∧
      Stepped v v' (rest ++ o.children.reverse.map (fun n => (some n, (-1 : Int)))) v.typee [] := by
  simp [walk_ast.while4_body, Py.seq, Py.bind, Py.bindS, hs, pop_append, Py.idx_natCast, ho, ht, Py.skip, for3_loop, Stepped, Cols]

theorem step_other {v : walk_ast.V} {rest : Stk} {k : Nat} {pid : Int} {o : ASTNode}
    (hs : v.stack = rest ++ [(some (k : Int), pid)]) (ho : v.nodes[k]? = some o) (h1 : o.type ≠ 1) (h2 : o.type ≠ 2) (h3 : o.type ≠ 3) :
    ∃ v', walk_ast.while4_body v = .next v' ∧ Stepped v v' rest v.typee [] := by
  simp [walk_ast.while4_body, Py.seq, Py.bind, hs, pop_append, Py.idx_natCast, ho, h1, h2, h3, Py.skip, Stepped, Cols]

theorem step_tree {v : walk_ast.V} {rest : Stk} {k : Nat} {pid : Int} {o : ASTNode} {c : Int}
    (hs : v.stack = rest ++ [(some (k : Int), pid)]) (ho : v.nodes[k]? = some o) (ht : o.type = 2) (hl : labelCode o.value = some c) :
    ∃ v', walk_ast.while4_body v = .next v' ∧
      Stepped v v' (rest ++ [(none, (-1 : Int))] ++ o.children.reverse.map (fun n => (some n, (-1 : Int)))) (v.typee ++ [c]) [] := by
  unfold labelCode at hl
  by_cases ha : Val.eqStr o.value "AXON" = true
  · simp only [ha, if_true, Option.some.injEq] at hl
    simp [walk_ast.while4_body, Py.seq, Py.bind, Py.bindS, hs, pop_append, Py.idx_natCast, ho, ht, Py.skip, for2_loop, ha, hl, Stepped, Cols]
  · by_cases hd : Val.eqStr o.value "DENDRITE" = true
    · simp [ha, hd] at hl
      simp [walk_ast.while4_body, Py.seq, Py.bind, Py.bindS, hs, pop_append, Py.idx_natCast, ho, ht, Py.skip, for2_loop, ha, hd, hl,
        Stepped, Cols]
    · simp [ha, hd] at hl

theorem step_node {v : walk_ast.V} {rest : Stk} {k : Nat} {pid : Int} {o : ASTNode} {tys : List Int} {ty : Int}
    (hs : v.stack = rest ++ [(some (k : Int), pid)]) (ho : v.nodes[k]? = some o) (ht : o.type = 3)
    (hu : (Val.unpack o.value 4).isSome) (hty : v.typee = tys ++ [ty]) :
    ∃ v', walk_ast.while4_body v = .next v' ∧
      Stepped v v' (rest ++ o.children.reverse.map (fun n => (some n, v.next_id))) v.typee
        [⟨v.next_id, ty, coord o.value 0, coord o.value 1, coord o.value 2, coord o.value 3, pid⟩] := by
  obtain ⟨l, hl⟩ := Option.isSome_iff_exists.mp hu
  simp [walk_ast.while4_body, Py.seq, Py.bind, Py.bindS, hs, pop_append, Py.idx_natCast, ho, ht, Py.skip, for1_loop, hl, hty, Py.idx_last, coord,
    Stepped, Cols]

theorem step_leave {v : walk_ast.V} {rest : Stk} {pid : Int} {tys : List Int} {ty : Int}
    (hs : v.stack = rest ++ [(none, pid)]) (hty : v.typee = tys ++ [ty]) :
    ∃ v', walk_ast.while4_body v = .cont v' ∧ Stepped v v' rest tys [] := by
  simp [walk_ast.while4_body, Py.seq, Py.bind, hs, pop_append, hty, Stepped, Cols]

/-- the loop of `walk_ast` -/
abbrev W (f : Nat) (v : walk_ast.V) : Res walk_ast.V Unit := whileF walk_ast.while4_cond walk_ast.while4_body f v

theorem W_next {f : Nat} {v v' : walk_ast.V} {x : Option Int × Int} {rest : Stk} (hs : v.stack = rest ++ [x])
    (hb : walk_ast.while4_body v = .next v') : W (f + 1) v = W f v' := by
  simp [W, whileF, walk_ast.while4_cond, hs, hb, show ¬ ((rest.length : Int) + 1 = 0) by omega]

theorem W_cont {f : Nat} {v v' : walk_ast.V} {x : Option Int × Int} {rest : Stk} (hs : v.stack = rest ++ [x])
    (hb : walk_ast.while4_body v = .cont v') : W (f + 1) v = W f v' := by
  simp [W, whileF, walk_ast.while4_cond, hs, hb, show ¬ ((rest.length : Int) + 1 = 0) by omega]

/-- the table grew by the rows `rs` (ids consecutive from `next_id`), nothing else that matters changed -/
def Ext (v v' : walk_ast.V) (rs : List Row) : Prop :=
  v'.nodes = v.nodes ∧ v'.typee = v.typee ∧ v'.next_id = v.next_id + rs.length ∧ v'.col_id = v.col_id ++ rs.map (·.id) ∧
  v'.col_type = v.col_type ++ rs.map (·.type) ∧ v'.col_x = v.col_x ++ rs.map (·.x) ∧ v'.col_y = v.col_y ++ rs.map (·.y) ∧
  v'.col_z = v.col_z ++ rs.map (·.z) ∧ v'.col_r = v.col_r ++ rs.map (·.r) ∧ v'.col_pid = v.col_pid ++ rs.map (·.pid)

theorem Ext.iff {v v' : walk_ast.V} {rs : List Row} : Ext v v' rs ↔ v'.typee = v.typee ∧ Cols v v' rs :=
  ⟨fun ⟨a, b, c⟩ => ⟨b, a, c⟩, fun ⟨b, a, c⟩ => ⟨a, b, c⟩⟩

theorem Ext.trans {v v1 v2 : walk_ast.V} {r1 r2 : List Row} (h1 : Ext v v1 r1) (h2 : Ext v1 v2 r2) : Ext v v2 (r1 ++ r2) :=
  Ext.iff.2 ⟨by rw [h2.2.1, h1.2.1], (Ext.iff.1 h1).2.trans (Ext.iff.1 h2).2⟩

theorem kids_stack (kids : List AT) (p : Int) :
    (kids.map (fun k => (k.ref : Int))).reverse.map (fun n => (some n, p)) = kids.reverse.map (fun t => ((some (t.ref : Int), p) : Option Int × Int)) := by
  simp [List.map_reverse]

mutual
/-- the core of the walk: with the reference of `t` on top of the stack, `cost` iterations later it is popped, exactly
`rows … t` have been appended, and the stack below it and the type stack are as before (`visitL`: the same for siblings,
which the loop pushes in reverse) -/
theorem visit : ∀ (t : AT) (v : walk_ast.V) (rest : Stk) (pid ty : Int) (tys : List Int) (next f : Nat),
    Agrees v.nodes t → v.stack = rest ++ [(some (t.ref : Int), pid)] → v.typee = tys ++ [ty] → v.next_id = (next : Int) →
    ∃ v', W (cost v.nodes t + f) v = W f v' ∧ v'.stack = rest ∧ Ext v v' (rows v.nodes t pid ty next)
  | .mk r kids, v, rest, pid, ty, tys, next, f, hA, hs, hty, hn => by
    unfold Agrees at hA
    obtain ⟨o, ho, hch, hlab, hval, hK⟩ := hA
    simp only [AT.ref] at hs
    simp only [cost, rows, ho]
    by_cases h1 : o.type = 1
    · obtain ⟨v1, hb, hs1, ht1, c1⟩ := step_root hs ho h1
      rw [hch, kids_stack] at hs1
      obtain ⟨v2, hw, hs2, hext⟩ := visitL kids v1 rest (-1) ty tys next f (c1.1 ▸ hK) hs1 (by rw [ht1, hty]) (by rw [c1.2.1, hn]; simp)
      rw [c1.1] at hw hext
      rw [if_pos h1, if_pos h1, show 1 + costL v.nodes kids + f = (costL v.nodes kids + f) + 1 by omega, W_next hs hb]
      exact ⟨v2, hw, hs2, Ext.iff.2 ⟨by rw [hext.2.1, ht1], c1.trans (Ext.iff.1 hext).2⟩⟩
    · rw [if_neg h1, if_neg h1]
      by_cases h2 : o.type = 2
      · obtain ⟨c, hc⟩ := Option.isSome_iff_exists.mp (hlab h2)
        obtain ⟨v1, hb, hs1, ht1, c1⟩ := step_tree hs ho h2 hc
        rw [hch, kids_stack] at hs1
        obtain ⟨v2, hw, hs2, hext⟩ := visitL kids v1 (rest ++ [(none, (-1 : Int))]) (-1) c (tys ++ [ty]) next (f + 1) (c1.1 ▸ hK) hs1
          (by rw [ht1, hty]) (by rw [c1.2.1, hn]; simp)
        obtain ⟨v3, hb3, hs3, ht3, c3⟩ := step_leave hs2 (by rw [hext.2.1, ht1, hty])
        rw [c1.1] at hw hext
        rw [if_pos h2, if_pos h2, hc, Option.getD_some,
          show 2 + costL v.nodes kids + f = (costL v.nodes kids + (f + 1)) + 1 by omega, W_next hs hb, hw, W_cont hs2 hb3]
        exact ⟨v3, rfl, hs3, Ext.iff.2 ⟨by rw [ht3, hty], by simpa using (c1.trans (Ext.iff.1 hext).2).trans c3⟩⟩
      · rw [if_neg h2, if_neg h2]
        by_cases h3 : o.type = 3
        · obtain ⟨v1, hb, hs1, ht1, c1⟩ := step_node hs ho h3 (hval h3) hty
          rw [hch, kids_stack, hn] at hs1
          obtain ⟨v2, hw, hs2, hext⟩ := visitL kids v1 rest (next : Int) ty tys (next + 1) f (c1.1 ▸ hK) hs1 (by rw [ht1, hty])
            (by rw [c1.2.1, hn]; simp)
          rw [c1.1] at hw hext
          rw [hn] at c1
          rw [if_pos h3, if_pos h3, show 1 + costL v.nodes kids + f = (costL v.nodes kids + f) + 1 by omega, W_next hs hb]
          exact ⟨v2, hw, hs2, Ext.iff.2 ⟨by rw [hext.2.1, ht1], c1.trans (Ext.iff.1 hext).2⟩⟩
        · obtain ⟨v1, hb, hs1, ht1, c1⟩ := step_other hs ho h1 h2 h3
          rw [if_neg h3, if_neg h3, show 1 + f = f + 1 by omega, W_next hs hb]
          exact ⟨v1, rfl, hs1, Ext.iff.2 ⟨ht1, c1⟩⟩
theorem visitL : ∀ (ts : List AT) (v : walk_ast.V) (rest : Stk) (pid ty : Int) (tys : List Int) (next f : Nat),
    AgreesL v.nodes ts → v.stack = rest ++ ts.reverse.map (fun t => ((some (t.ref : Int), pid) : Option Int × Int)) →
    v.typee = tys ++ [ty] → v.next_id = (next : Int) →
    ∃ v', W (costL v.nodes ts + f) v = W f v' ∧ v'.stack = rest ∧ Ext v v' (rowsL v.nodes ts pid ty next)
  | [], v, rest, pid, ty, tys, next, f, _, hs, _, _ => by
    refine ⟨v, by simp [costL], by simpa using hs, ?_⟩
    simp [rowsL, Ext]
  | t :: ts, v, rest, pid, ty, tys, next, f, hA, hs, hty, hn => by
    unfold AgreesL at hA
    have hs' : v.stack = (rest ++ ts.reverse.map (fun t => ((some (t.ref : Int), pid) : Option Int × Int))) ++ [(some (t.ref : Int), pid)] := by
      rw [hs]; simp
    obtain ⟨v1, hw1, hs1, hext1⟩ := visit t v _ pid ty tys next (costL v.nodes ts + f) hA.1 hs' hty hn
    have hn1 : v1.nodes = v.nodes := hext1.1
    obtain ⟨v2, hw2, hs2, hext2⟩ := visitL ts v1 rest pid ty tys (next + (rows v.nodes t pid ty next).length) f (hn1 ▸ hA.2) hs1
      (by rw [hext1.2.1, hty]) (by rw [hext1.2.2.1, hn]; push_cast; rfl)
    refine ⟨v2, ?_, hs2, ?_⟩
    · simp only [costL]
      rw [Nat.add_assoc, hw1, ← hn1, hw2]
    · rw [hn1] at hext2
      simpa [rowsL] using hext1.trans hext2
end

theorem W_done (f : Nat) (v : walk_ast.V) (hs : v.stack = []) : W (f + 1) v = .next v := by
  simp [W, whileF, walk_ast.while4_cond, hs]

def colsOf (rs : List Row) : List Int × List Int × List Atom × List Atom × List Atom × List Atom × List Int :=
  (rs.map (·.id), rs.map (·.type), rs.map (·.x), rs.map (·.y), rs.map (·.z), rs.map (·.r), rs.map (·.pid))

/-- **`walk_ast` as translated** (the closure over `next_id`, `typee`, `ndata`): on every heap that unfolds to a tree `t` from `root`,
with `cost + 1` units of fuel or more, it appends exactly `rows` to the seven columns, advances `next_id` by their number and leaves
the type stack as it was. -/
theorem walk_ast_refines (nodes : List ASTNode) (t : AT) (hA : Agrees nodes t) (fuel : Nat) (hf : cost nodes t + 1 ≤ fuel)
    (next : Nat) (tys : List Int) (ty : Int) (ci ct : List Int) (cx cy cz cr : List Atom) (cp : List Int) :
    let rs := rows nodes t (-1) ty next
    walk_ast fuel (nodes, (next : Int), tys ++ [ty], ci, ct, cx, cy, cz, cr, cp) (t.ref : Int) =
      some ((nodes, (next : Int) + rs.length, tys ++ [ty], ci ++ rs.map (·.id), ct ++ rs.map (·.type), cx ++ rs.map (·.x),
        cy ++ rs.map (·.y), cz ++ rs.map (·.z), cr ++ rs.map (·.r), cp ++ rs.map (·.pid)), ()) := by
  intro rs
  obtain ⟨f, rfl⟩ : ∃ f, fuel = cost nodes t + (f + 1) := ⟨fuel - cost nodes t - 1, by omega⟩
  let v0 : walk_ast.V := { (default : walk_ast.V) with root := (t.ref : Int), nodes := nodes, next_id := (next : Int), typee := tys ++ [ty], col_id := ci, col_type := ct, col_x := cx, col_y := cy, col_z := cz, col_r := cr, col_pid := cp, stack := [(some (t.ref : Int), (-1 : Int))] }
  obtain ⟨v', hw, hs, hn, hty, hnx, e1, e2, e3, e4, e5, e6, e7⟩ := visit t v0 [] (-1) ty tys next (f + 1) hA rfl rfl rfl
  show (Py.finish default (W (cost v0.nodes t + (f + 1)) v0)).map _ = _
  rw [hw, W_done f v' hs]
  simp only [Py.finish, Option.map_some, hn, hty, hnx, e1, e2, e3, e4, e5, e6, e7]
  rfl

/-- **`NeurolucidaAscToSwc.from_ast` as translated**: on every AST heap that unfolds to a tree from `root`, with `cost + 1` units of fuel
or more, the result is the number of rows and the seven columns of `rows` (ids from 0, `types.undefined` outside every TREE). -/
theorem from_ast_refines (nodes : List ASTNode) (t : AT) (hA : Agrees nodes t) (fuel : Nat) (hf : cost nodes t + 1 ≤ fuel) :
    let rs := rows nodes t (-1) Gen.Consts.type_undefined 0
    from_ast fuel nodes (t.ref : Int) = some ((rs.length : Int), colsOf rs) := by
  intro rs
  have h := walk_ast_refines nodes t hA fuel hf 0 [] Gen.Consts.type_undefined [] [] [] [] [] [] []
  simp only [List.nil_append, Int.natCast_zero, Int.zero_add] at h
  simp -implicitDefEqProofs only [from_ast, from_ast.body, seq_eq_bindS, bindS_next, bindS_bind, finish_bind, map_bind]
  -- the columns start as `default`, which is `[]` only up to unfolding
  show Option.bind (walk_ast fuel (nodes, 0, [_], [], [], [], [], [], [], []) _) _ = _
  rw [h]
  rfl

mutual
/-- number of AST nodes of the unfolding -/
def AT.size : AT → Nat
  | .mk _ kids => 1 + sizeL kids
def sizeL : List AT → Nat
  | [] => 0
  | t :: ts => t.size + sizeL ts
end

mutual
/-- number of TREE nodes of the unfolding -/
def trees (nodes : List ASTNode) : AT → Nat
  | .mk r kids => (match nodes[r]? with | some o => if o.type = 2 then 1 else 0 | none => 0) + treesL nodes kids
def treesL (nodes : List ASTNode) : List AT → Nat
  | [] => 0
  | t :: ts => trees nodes t + treesL nodes ts
end

mutual
/-- the fuel needed is at most (number of AST nodes) + (number of TREE nodes) -/
theorem cost_le (nodes : List ASTNode) : ∀ t : AT, cost nodes t ≤ t.size + trees nodes t
  | .mk r kids => by
    have := costL_le nodes kids
    simp only [cost, AT.size, trees]
    cases nodes[r]? with
    | none => simp; omega
    | some o =>
      simp only
      by_cases h1 : o.type = 1
      · have h2 : o.type ≠ 2 := by omega
        rw [if_pos h1, if_neg h2]; omega
      · by_cases h2 : o.type = 2
        · rw [if_neg h1, if_pos h2, if_pos h2]; omega
        · by_cases h3 : o.type = 3
          · rw [if_neg h1, if_neg h2, if_pos h3, if_neg h2]; omega
          · rw [if_neg h1, if_neg h2, if_neg h3, if_neg h2]; omega
theorem costL_le (nodes : List ASTNode) : ∀ ts : List AT, costL nodes ts ≤ sizeL ts + treesL nodes ts
  | [] => by simp [costL]
  | t :: ts => by
    have := cost_le nodes t
    have := costL_le nodes ts
    simp only [costL, sizeL, treesL]; omega
end

mutual
/-- ids are consecutive: the k-th row produced has id `next + k` -/
theorem rows_ids (nodes : List ASTNode) : ∀ (t : AT) (pid ty : Int) (next : Nat),
    (rows nodes t pid ty next).map (·.id) = (List.range' next (rows nodes t pid ty next).length).map (fun (k : Nat) => (k : Int))
  | .mk r kids, pid, ty, next => by
    simp only [rows]
    cases nodes[r]? with
    | none => simp
    | some o =>
      simp only
      by_cases h1 : o.type = 1
      · rw [if_pos h1]; exact rowsL_ids nodes kids _ _ _
      · by_cases h2 : o.type = 2
        · rw [if_neg h1, if_pos h2]; exact rowsL_ids nodes kids _ _ _
        · by_cases h3 : o.type = 3
          · rw [if_neg h1, if_neg h2, if_pos h3]
            simp [List.range'_succ, rowsL_ids nodes kids (next : Int) ty (next + 1)]
          · rw [if_neg h1, if_neg h2, if_neg h3]; simp
theorem rowsL_ids (nodes : List ASTNode) : ∀ (ts : List AT) (pid ty : Int) (next : Nat),
    (rowsL nodes ts pid ty next).map (·.id) = (List.range' next (rowsL nodes ts pid ty next).length).map (fun (k : Nat) => (k : Int))
  | [], _, _, _ => by simp [rowsL]
  | t :: ts, pid, ty, next => by
    simp only [rowsL, List.map_append, List.length_append]
    rw [rows_ids nodes t, rowsL_ids nodes ts, ← List.map_append, List.range'_append_1]
end

/-- non-vacuity (kernel-evaluated): the heap of `( (Axon) (p0) ( (p1) | (p2) ) )` with a COLOR marker — ROOT 0, TREE 1, NODE 2 under the
TREE, COLOR 3 and NODEs 4, 5 under NODE 2 — gives three rows, typed axon, parents −1, 0, 0 -/
def exHeap : List ASTNode :=
  [⟨1, .at .none, [1], none⟩, ⟨2, .at (.str "AXON"), [2], some 0⟩, ⟨3, .tup [.flt 0, .flt 1, .flt 2, .flt 3], [3, 4, 5], some 1⟩,
   ⟨4, .tup [.str "Red"], [], some 2⟩, ⟨3, .tup [.flt 4, .flt 5, .flt 6, .flt 7], [], some 2⟩, ⟨3, .tup [.flt 8, .flt 9, .flt 10, .flt 11], [], some 2⟩]
def exTree : AT := .mk 0 [.mk 1 [.mk 2 [.mk 3 [], .mk 4 [], .mk 5 []]]]
example : (from_ast 8 exHeap 0).map (fun r => (r.1, r.2.1, r.2.2.1, r.2.2.2.2.2.2.2)) = some (3, [0, 1, 2], [2, 2, 2], [-1, 0, 0]) := by
  decide +kernel
example : (from_ast 8 exHeap 0).map (fun r => (r.2.2.2.1, r.2.2.2.2.1, r.2.2.2.2.2.1, r.2.2.2.2.2.2.1)) =
    some ([.flt 0, .flt 4, .flt 8], [.flt 1, .flt 5, .flt 9], [.flt 2, .flt 6, .flt 10], [.flt 3, .flt 7, .flt 11]) := by decide +kernel
example : (from_ast 7 exHeap 0).isNone := by decide +kernel
example : cost exHeap exTree + 1 = 8 ∧ (rows exHeap exTree (-1) 0 0).map (·.pid) = [-1, 0, 0] := by decide +kernel
example : Agrees exHeap exTree := by
  unfold exTree
  exact ⟨_, rfl, rfl, nofun, nofun, ⟨_, rfl, rfl, fun _ => rfl, nofun, ⟨_, rfl, rfl, nofun, fun _ => rfl,
    ⟨_, rfl, rfl, nofun, nofun, trivial⟩, ⟨_, rfl, rfl, nofun, fun _ => rfl, trivial⟩, ⟨_, rfl, rfl, nofun, fun _ => rfl, trivial⟩, trivial⟩, trivial⟩,
    trivial⟩

end RefineAsc
