import SwcVerif.Model.PyPopFront
import Mathlib.Data.List.Sort
/-! # An arithmetic progression inside `range(n)` is a filter of `range(n)`

`up_eq` / `down_eq`: the progression `lo, lo ± step, …` that stops before `hi`, with both bounds inside `range(n)`, is the list of the
positions of `Py.range n` between the bounds that lie on the step lattice — ascending for a positive, descending for a negative step.
Both sides are strictly monotone lists with the same members (`eq_of_sorted`). -/
namespace RefineSlice
open Py

theorem eq_of_sorted {r : Int → Int → Prop} (hr : ∀ a b, r a b → ¬ r b a) {l₁ l₂ : List Int} (h₁ : l₁.Pairwise r) (h₂ : l₂.Pairwise r)
    (hm : ∀ x, x ∈ l₁ ↔ x ∈ l₂) : l₁ = l₂ := by
  have ne : ∀ a b, r a b → a ≠ b := fun a b h e => hr a b h (e ▸ h)
  exact List.Perm.eq_of_pairwise (le := r) (fun a b _ _ hab hba => absurd hba (hr a b hab))
    h₁ h₂ ((List.perm_ext_iff_of_nodup (h₁.imp (ne _ _)) (h₂.imp (ne _ _))).2 hm)

theorem range_sorted (n : Int) : (Py.range n).Pairwise (· < ·) := by
  unfold Py.range
  exact List.Pairwise.map _ (fun a b hab => by exact_mod_cast hab) List.pairwise_lt_range

theorem mem_range {n x : Int} : x ∈ Py.range n ↔ 0 ≤ x ∧ x < n := by
  unfold Py.range
  simp only [List.mem_map, List.mem_range]
  constructor
  · rintro ⟨k, hk, rfl⟩; omega
  · rintro ⟨h0, h1⟩; exact ⟨x.toNat, by omega, by omega⟩

/-- members of an arithmetic progression with `cnt = ⌈(d)/step⌉` terms: `k < cnt ↔ k·step < d` -/
theorem lt_count_iff {d step : Int} (hs : 0 < step) (k : Nat) :
    k < ((d + step - 1) / step).toNat ↔ (k : Int) * step < d := by
  have h1 : (k : Nat) < ((d + step - 1) / step).toNat ↔ ((k : Int) + 1) ≤ (d + step - 1) / step := by omega
  rw [h1, Int.le_ediv_iff_mul_le hs, Int.add_mul, Int.one_mul]
  omega

/-- the terms of `lo, lo+step, …` (`⌈d/step⌉` of them) are the points of `[lo, lo+d)` on the step lattice -/
theorem mem_progression {lo d step : Int} (hs : 0 < step) (x : Int) :
    (∃ k : Nat, k < ((d + step - 1) / step).toNat ∧ lo + (k : Int) * step = x) ↔
      lo ≤ x ∧ x < lo + d ∧ (x - lo) % step = 0 := by
  constructor
  · rintro ⟨k, hk, rfl⟩
    rw [lt_count_iff hs] at hk
    have hk0 : (0 : Int) ≤ (k : Int) * step := Int.mul_nonneg (Int.natCast_nonneg k) (le_of_lt hs)
    refine ⟨by omega, by omega, ?_⟩
    rw [Int.add_comm, Int.add_sub_cancel]; exact Int.mul_emod_left _ _
  · rintro ⟨h1, h2, h3⟩
    have hd : (x - lo) / step * step = x - lo := Int.ediv_mul_cancel (Int.dvd_of_emod_eq_zero h3)
    have hq0 : 0 ≤ (x - lo) / step := Int.ediv_nonneg (by omega) (le_of_lt hs)
    refine ⟨((x - lo) / step).toNat, ?_, ?_⟩
    · rw [lt_count_iff hs, Int.toNat_of_nonneg hq0, hd]; omega
    · rw [Int.toNat_of_nonneg hq0, hd]; omega

/-- positive step: the progression `lo, lo+step, …` below `hi` = the positions of `range n` in `[lo, hi)` on the step lattice -/
theorem up_eq (n lo hi step : Int) (hs : 0 < step) (hlo : 0 ≤ lo) (hhi : hi ≤ n) :
    (List.range ((hi - lo + step - 1) / step).toNat).map (fun (k : Nat) => lo + (k : Int) * step) =
      (Py.range n).filter (fun i => decide (lo ≤ i ∧ i < hi ∧ (i - lo) % step = 0)) := by
  apply eq_of_sorted (r := (· < ·)) (fun _ _ => lt_asymm)
  · refine List.Pairwise.map _ (fun a b hab => ?_) List.pairwise_lt_range
    have : (a : Int) < b := by exact_mod_cast hab
    exact Int.add_lt_add_left (Int.mul_lt_mul_of_pos_right this hs) lo
  · exact (range_sorted n).filter _
  · intro x
    simp only [List.mem_map, List.mem_range, List.mem_filter, mem_range, decide_eq_true_eq]
    rw [mem_progression hs]
    omega

/-- the mirror image of an ascending progression from `-lo` -/
theorem down_eq (n lo hi m : Int) (hs : 0 < m) (hlo : lo < n) (hhi : -1 ≤ hi) :
    (List.range ((lo - hi + m - 1) / m).toNat).map (fun (k : Nat) => lo + (k : Int) * (-m)) =
      ((Py.range n).filter (fun i => decide (hi < i ∧ i ≤ lo ∧ (lo - i) % m = 0))).reverse := by
  apply eq_of_sorted (r := (· > ·)) (fun _ _ => lt_asymm)
  · refine List.Pairwise.map _ (fun a b hab => ?_) List.pairwise_lt_range
    have : (a : Int) < b := by exact_mod_cast hab
    exact Int.add_lt_add_left (Int.mul_lt_mul_of_neg_right this (Int.neg_neg_of_pos hs)) lo
  · rw [List.pairwise_reverse]
    exact ((range_sorted n).filter _).imp (fun h => h)
  · intro x
    simp only [List.mem_map, List.mem_range, List.mem_reverse, List.mem_filter, mem_range, decide_eq_true_eq]
    have key : ∀ k : Nat, lo + (k : Int) * (-m) = x ↔ -lo + (k : Int) * m = -x := fun k => by
      rw [Int.mul_neg]; omega
    have e : -x - -lo = lo - x := by omega
    simp only [key, mem_progression hs, e]
    omega

end RefineSlice
