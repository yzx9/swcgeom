import SwcVerif.Refine.AscLoop
/-! Refinement for C15: `_skip_comments`, `_parse_tree`, `_parse` AS TRANSLATED against `Asc.skipComments` / `Asc.parseTop`, and the
composition generated parser ∘ generated walk = `Asc.convertTokens` (explicit fuel: `C15.convertWith`). -/
namespace RefineAscTop
open Gen.Algo Py Asc RefineAsc RefineAscParse RefineAscHeap RefineAscLoop RefineAscModel
open C15 (ok_bind)
variable {encF : SwcText.Sci → Int}

theorem skip_loop (f : Nat) : ∀ (toks : List Tok) (nodes : List ASTNode), NoBad toks → skipComments f toks ≠ .error .fuel →
    ∀ n, f ≤ n → ∃ t', skipComments f toks = .ok t' ∧ NoBad t' ∧
      whileF parser_skip_comments.while1_cond parser_skip_comments.while1_body n ⟨st encF toks nodes⟩ = .next ⟨st encF t' nodes⟩ := by
  induction f with
  | zero => exact fun _ _ _ hne => absurd rfl hne
  | succ f ih =>
    intro toks nodes hnb hne n hn
    obtain ⟨n', rfl⟩ := Nat.exists_eq_add_one.2 (Nat.zero_lt_of_lt hn)
    rcases toks with _ | ⟨tk, t⟩
    · exact ⟨[], rfl, hnb, whileF_done _ _ _ _ rfl⟩
    cases tk with
    | comment c =>
      rw [skipComments_comment, adv_noBad _ _ hnb, ok_bind] at hne ⊢
      obtain ⟨t', h1, h2, h3⟩ := ih t nodes hnb.tail hne n' (Nat.le_of_succ_le_succ hn)
      refine ⟨t', h1, h2, ?_⟩
      rw [← h3]
      exact whileF_next _ _ _ _ _ rfl (by simp [parser_skip_comments.while1_body, Py.bind, read_token_st])
    | _ => exact ⟨_, rfl, hnb, whileF_done _ _ _ _ rfl⟩

theorem skip_comments_sim (f : Nat) (toks : List Tok) (nodes : List ASTNode) (hnb : NoBad toks) (hne : skipComments f toks ≠ .error .fuel)
    (n : Nat) (hn : f ≤ n) : ∃ t', skipComments f toks = .ok t' ∧ NoBad t' ∧
      parser_skip_comments n (st encF toks nodes) = some (st encF t' nodes, ()) := by
  obtain ⟨t', h1, h2, h3⟩ := skip_loop (encF := encF) f toks nodes hnb hne n hn
  refine ⟨t', h1, h2, ?_⟩
  simp only [parser_skip_comments, parser_skip_comments.body]
  show (Py.finish default (whileF parser_skip_comments.while1_cond parser_skip_comments.while1_body n ⟨st encF toks nodes⟩)).map _ = _
  rw [h3]
  rfl

theorem skip_step {β γ : Type} {P : Option γ → Except Err β → Prop} (hF : ∀ g, P g (.error .fuel)) (f n : Nat) (hn : f ≤ n)
    (toks : List Tok) (nodes : List ASTNode) (hnb : NoBad toks) (K : Parser × Unit → Option γ) (k : List Tok → Except Err β)
    (hk : ∀ t', NoBad t' → P (K (st encF t' nodes, ())) (k t')) :
    P ((parser_skip_comments n (st encF toks nodes)).bind K) (skipComments f toks >>= k) := by
  by_cases hne : skipComments f toks = .error .fuel
  · rw [hne]; exact hF _
  · obtain ⟨t', h1, h2, h3⟩ := skip_comments_sim (encF := encF) f toks nodes hnb hne n hn
    rw [h1, h3]
    exact hk t' h2

/-- the TREE record `_parse_tree` allocates -/
def treeRec (w : SwcText.Str) : ASTNode :=
  { type := 2, value := .at (.str (Py.strUpper (String.ofList w))), children := [], parent := none }

/-- result of `_parse_tree(root)` / of a top-level `_parse_color(root)`: the heap `nodes` became `n3`, and whatever is built under the
ROOT afterwards (`n3` to `n4`, rows `new2`) extends to a `Built` from `nodes` with `new1` in front (nothing is said when the model runs
out of fuel) -/
def TreePost (encF : SwcText.Sci → Int) (U : Int) (rows : List Asc.Row) (nodes : List ASTNode) (ρ : Nat) (out : Option (Parser × Unit)) :
    Except Err (List Tok × List Asc.Row) → Prop
  | .error e => e ≠ .fuel → out = none
  | .ok (tr, rowsr) => ∃ n3 new1, out = some (st encF tr n3, ()) ∧ rowsr = rows ++ new1 ∧ NoBad tr ∧ nodes.length ≤ n3.length ∧
      ∀ n4 new2, Built encF U n3 n4 ρ ρ (-1) (-1) (rows.length + new1.length) new2 →
        Built encF U nodes n4 ρ ρ (-1) (-1) rows.length (new1 ++ new2)

theorem labelCode_tree (w : SwcText.Str) (h : upper w = "AXON".toList ∨ upper w = "DENDRITE".toList) :
    labelCode (treeRec w).value =
      some (if upper w = "AXON".toList then Gen.Consts.type_axon else Gen.Consts.type_basal_dendrite) := by
  simp only [labelCode, treeRec, Val.eqStr, Val.at.injEq, Atom.str.injEq, upper_decide, decide_eq_true_eq]
  rcases h with h | h
  · rw [if_pos h, if_pos h]
  · have hn : ¬ upper w = "AXON".toList := by rw [h]; decide
    rw [if_neg hn, if_pos h, if_neg hn]

/-- **`_parse_tree` as translated**: label, `)`, comments, `(`, the subtree, attached to the ROOT at the end -/
theorem parse_tree_refines (U ty : Int) (f : Nat) (w : SwcText.Str) (t' : List Tok) (rows : List Asc.Row) (nodes : List ASTNode) (ρ G : Nat)
    (hnb : NoBad t') (hlab : labelCode (treeRec w).value = some ty) (hG : 2 * f + 1 ≤ G) (hρ : ρ < nodes.length) :
    TreePost encF U rows nodes ρ (parser_parse_tree G (st encF (.literal w :: t') nodes) (ρ : Int)) (treeBody ty f rows t') := by
  unfold treeBody
  simp -implicitDefEqProofs only [parser_parse_tree, parser_parse_tree.body, seq_eq_bindS, bindS_bind, bindS_next, finish_bind, map_bind,
    assert_and_cunsume_st]
  show TreePost encF U rows nodes ρ ((parser_assert_and_cunsume (st encF t' (nodes ++ [treeRec w])) 2).bind _) _
  refine rp_step encF (fun _ _ => rfl) t' _ hnb _ _ fun t3 h3 => ?_
  refine skip_step (fun _ h => absurd rfl h) f G (by omega) t3 _ h3 _ _ fun t4 h4 => ?_
  refine lp_step encF (fun _ _ => rfl) t4 _ h4 _ _ fun t5 h5 => ?_
  show TreePost encF U rows nodes ρ ((parser_parse_subtree G (st encF t5 (nodes ++ [treeRec w])) (nodes.length : Int) false).bind _) _
  have hsub := subtree_of_loop (loop_sim (encF := encF) ty f) t5 false (-1) rows h5 G hG (nodes ++ [treeRec w]) nodes.length (by simp)
  revert hsub
  rcases parseSubtree ty f t5 false (-1) (-1) rows with e | ⟨tr, rowsr⟩
  · intro hsub he
    rw [hsub he]
    rfl
  · rintro ⟨n2, new1, g1, g2, g3, g4⟩
    have hlen := g4.len
    simp only [List.length_append, List.length_singleton] at hlen
    obtain ⟨n3, a1, a2, a3⟩ := add_child_step n2 ρ nodes.length (by omega) (by omega)
    refine ⟨n3, new1, ?_, g2, g3, by omega, fun n4 new2 h4 => Built.tree encF (treeRec w) hρ rfl hlab rfl g4 a3 a2 h4⟩
    rw [g1]
    show Option.bind (ast_add_child n2 (ρ : Int) (nodes.length : Int)) _ = _
    rw [a1]
    rfl

abbrev TV := parser_parse.V
/-- the `while` loop of `_parse` -/
abbrev TW (G n : Nat) (v : TV) : Res TV Int := whileF parser_parse.while1_cond (parser_parse.while1_body G) n v

-- `W_next` / `W_cont` in this namespace are about `TW`; `RefineAsc.W_next` / `W_cont` (the walk's loop) are other lemmas
theorem W_next (G n : Nat) (v v' : TV) (h : parser_parse.while1_body G v = .next v') : TW G (n + 1) v = TW G n v' := by
  simp only [TW, whileF, parser_parse.while1_cond, h]
theorem W_cont (G n : Nat) (v v' : TV) (h : parser_parse.while1_body G v = .cont v') : TW G (n + 1) v = TW G n v' := by
  simp only [TW, whileF, parser_parse.while1_cond, h]
theorem W_brk (G n : Nat) (v v' : TV) (h : parser_parse.while1_body G v = .brk v') : TW G (n + 1) v = .next v' := by
  simp only [TW, whileF, parser_parse.while1_cond, h]
theorem W_err (G n : Nat) (v : TV) (h : parser_parse.while1_body G v = .err) : TW G (n + 1) v = .err := by
  simp only [TW, whileF, parser_parse.while1_cond, h]

theorem top_nil (G : Nat) (v : TV) (nodes : List ASTNode) (hs : v.self = st encF [] nodes) :
    parser_parse.while1_body G v = .brk { v with token := none } := by
  simp [parser_parse.while1_body, Py.seq, hs]

theorem top_comment (G : Nat) (v : TV) (c : SwcText.Str) (t : List Tok) (nodes : List ASTNode) (hs : v.self = st encF (.comment c :: t) nodes) :
    parser_parse.while1_body G v = .cont { v with token := some (enc encF (.comment c)), self := st encF t nodes } := by
  simp [parser_parse.while1_body, Py.seq, Py.bind, Py.skip, hs, enc, read_token_st]

theorem top_rp (G : Nat) (v : TV) (t : List Tok) (nodes : List ASTNode) (hs : v.self = st encF (.rp :: t) nodes) :
    parser_parse.while1_body G v = .brk { v with token := some (enc encF .rp) } := by
  simp [parser_parse.while1_body, Py.seq, Py.bind, Py.skip, hs, enc]

theorem top_other (G : Nat) (v : TV) (x : Tok) (t : List Tok) (nodes : List ASTNode) (hs : v.self = st encF (x :: t) nodes)
    (h1 : x ≠ .lp) (h2 : x ≠ .rp) (h3 : ∀ c, x ≠ .comment c) : parser_parse.while1_body G v = .err := by
  cases x <;> simp_all [parser_parse.while1_body, Py.seq, Py.bind, Py.skip, enc]

theorem top_lp (G : Nat) (v : TV) (t : List Tok) (nodes : List ASTNode) (hs : v.self = st encF (.lp :: t) nodes) :
    parser_parse.while1_body G v =
      Py.bind (parser_assert (st encF t nodes) (st encF t nodes).next_token 6) fun t8 =>
      Py.bind (Py.Atom.str? t8.value) fun t10 =>
        if (decide (Py.strUpper t10 = "AXON") || decide (Py.strUpper t10 = "DENDRITE")) then
          Py.bind (parser_parse_tree G (st encF t nodes) v.root) fun t13 => .next { v with token := some t8, self := t13.1 }
        else if decide (Py.strUpper t10 = "COLOR") then
          Py.bind (parser_parse_color (st encF t nodes) v.root) fun t12 => .next { v with token := some t8, self := t12.1 }
        else .err := by
  simp -implicitDefEqProofs [parser_parse.while1_body, seq_eq_bindS, bindS_bind, bindS_next, hs, skip_apply, bind_some, enc, consume_st]

theorem top_lp_other (G : Nat) (v : TV) (t : List Tok) (nodes : List ASTNode) (hs : v.self = st encF (.lp :: t) nodes)
    (h : ∀ w t', t ≠ .literal w :: t') : parser_parse.while1_body G v = .err := by
  rw [top_lp G v t nodes hs, assert_eq]
  rcases t with _ | ⟨x, t'⟩
  · rfl
  · cases x with
    | literal w => exact absurd rfl (h _ _)
    | _ => rfl

theorem top_lp_literal (G : Nat) (v : TV) (w : SwcText.Str) (t : List Tok) (nodes : List ASTNode)
    (hs : v.self = st encF (.lp :: .literal w :: t) nodes) :
    parser_parse.while1_body G v =
      if upper w = "AXON".toList ∨ upper w = "DENDRITE".toList then
        Py.bind (parser_parse_tree G (st encF (.literal w :: t) nodes) v.root) fun r =>
          .next { v with token := some (enc encF (.literal w)), self := r.1 }
      else if upper w = "COLOR".toList then
        Py.bind (parser_parse_color (st encF (.literal w :: t) nodes) v.root) fun r =>
          .next { v with token := some (enc encF (.literal w)), self := r.1 }
      else .err := by
  rw [top_lp G v _ nodes hs, assert_eq]
  simp only [st_next_token, List.head?_cons, Option.map_some, enc, if_true, bind_some, Py.Atom.str?, Bool.or_eq_true, decide_eq_true_eq,
    strUpper_ofList, ofList_eq_iff]

/-! ### the simulation of the `_parse` loop against `Asc.parseTop` -/

/-- `types.undefined`, the type in force outside every tree (`from_ast` starts its type stack with it) -/
def U : Int := Gen.Consts.type_undefined

def TopPost (encF : SwcText.Sci → Int) (rows : List Asc.Row) (nodes : List ASTNode) (ρ : Nat) (out : Res TV Int) :
    Except Err (List Tok × List Asc.Row) → Prop
  | .error e => e ≠ .fuel → out = .err
  | .ok (t', rows') => ∃ v' nodes' new, out = .next v' ∧ v'.self = st encF t' nodes' ∧ v'.root = (ρ : Int) ∧ rows' = rows ++ new ∧ NoBad t' ∧
      Built encF U nodes nodes' ρ ρ (-1) (-1) rows.length new

/-- the statement proved by induction on the model's fuel `f` (as `RefineAscLoop.LoopSpec`): the translated loop of `_parse` with at
least `f` iterations of its own fuel, calling `_parse_tree` with fuel `G ≥ 2 f`, does what `parseTop f` does -/
def TopSpec (encF : SwcText.Sci → Int) (f : Nat) : Prop :=
  ∀ (toks : List Tok) (rows : List Asc.Row), NoBad toks →
    ∀ (G n : Nat) (v : TV) (nodes : List ASTNode) (ρ : Nat), f ≤ n → 2 * f ≤ G → v.self = st encF toks nodes → v.root = (ρ : Int) →
      ρ < nodes.length → TopPost encF rows nodes ρ (TW G n v) (parseTop f toks rows)

theorem TopPost.cont {rows new1 : List Asc.Row} {nodes n3 : List ASTNode} {ρ : Nat} {out : Res TV Int}
    {res : Except Err (List Tok × List Asc.Row)}
    (cap : ∀ n4 new2, Built encF U n3 n4 ρ ρ (-1) (-1) (rows.length + new1.length) new2 →
      Built encF U nodes n4 ρ ρ (-1) (-1) rows.length (new1 ++ new2))
    (h : TopPost encF (rows ++ new1) n3 ρ out res) : TopPost encF rows nodes ρ out res := by
  cases res with
  | error e => exact h
  | ok r =>
    obtain ⟨v', nodes', new, g1, g2, g3, g4, g5, g6⟩ := h
    refine ⟨v', nodes', new1 ++ new, g1, g2, g3, by rw [g4]; simp, g5, cap _ _ ?_⟩
    simpa using g6

theorem top_step {f : Nat} (hP : TopSpec encF f) : TopSpec encF (f + 1) := by
  intro toks rows hnb G n v nodes ρ hn hG hs hr hρ
  obtain ⟨n', rfl⟩ := Nat.exists_eq_add_one.2 (Nat.zero_lt_of_lt hn)
  have hn' : f ≤ n' := Nat.le_of_succ_le_succ hn
  have hG' : 2 * f ≤ G := by omega
  have done : ∀ v' : TV, v'.self = st encF toks nodes → v'.root = (ρ : Int) → TopPost encF rows nodes ρ (.next v') (.ok (toks, rows)) :=
    fun v' h1 h2 => ⟨v', nodes, [], rfl, h1, h2, by simp, hnb, Built.nil encF U nodes ρ ρ _ _ _⟩
  rcases toks with _ | ⟨tk, t⟩
  · rw [parseTop_nil, W_brk _ _ _ _ (top_nil G v nodes hs)]
    exact done _ hs hr
  have hnt := hnb.tail
  cases tk
  case rp =>
    rw [parseTop_rp, W_brk _ _ _ _ (top_rp G v t nodes hs)]
    exact done _ hs hr
  case comment c =>
    rw [parseTop_comment, adv_noBad _ _ hnb, ok_bind, W_cont _ _ _ _ (top_comment G v c t nodes hs)]
    exact hP t rows hnt G n' _ nodes ρ hn' hG' rfl hr hρ
  case lp =>
    rw [parseTop_lp, adv_noBad _ _ hnb, ok_bind]
    rcases t with _ | ⟨x, t'⟩
    · exact fun _ => W_err _ _ _ (top_lp_other G v [] nodes hs nofun)
    cases x
    case literal w =>
      have hb := top_lp_literal G v w t' nodes hs
      rw [hr] at hb
      rw [topItem_literal]
      by_cases hw : upper w = "AXON".toList ∨ upper w = "DENDRITE".toList
      · rw [if_pos hw] at hb
        rw [if_pos hw, adv_noBad _ _ hnt, ok_bind]
        have htree := parse_tree_refines (encF := encF) U _ f w t' rows nodes ρ G hnt.tail (labelCode_tree w hw) (by omega) hρ
        revert htree
        rcases treeBody (if upper w = "AXON".toList then Gen.Consts.type_axon else Gen.Consts.type_basal_dendrite) f rows t'
          with e | ⟨tr, rowsr⟩
        · intro htree he
          rw [htree he] at hb
          exact W_err _ _ _ hb
        · rintro ⟨n3, new1, g1, rfl, g3, g4, cap⟩
          rw [g1] at hb
          rw [ok_bind, W_next _ _ _ _ hb]
          exact TopPost.cont cap (hP tr _ g3 G n' _ n3 ρ hn' hG' rfl rfl (Nat.lt_of_lt_of_le hρ g4))
      · rw [if_neg hw] at hb ⊢
        by_cases hc : upper w = "COLOR".toList
        · rw [if_pos hc] at hb ⊢
          rw [parse_color_refines encF _ _ _ hnt] at hb
          revert hb
          cases hpc : parseColor (.literal w :: t') with
          | error er => intro hb _; exact W_err _ _ _ hb
          | ok rest =>
            intro hb
            obtain ⟨n1, a1, a2, a3⟩ := attach nodes (colorRec encF (.literal w :: t')) ρ hρ
            simp only [a1, Option.map_some] at hb
            rw [ok_bind, W_next _ _ _ _ hb]
            refine TopPost.cont (new1 := []) (fun n4 new2 h4 =>
              Built.leaf encF (colorRec encF (.literal w :: t')) hρ hρ (by decide : (3 : Int) < 4) rfl a3 a2 h4) ?_
            rw [List.append_nil]
            exact hP rest rows (NoBad.of_suffix hnt (parseColor_suffix hpc).1) G n' _ n1 ρ hn' hG' rfl rfl (a2 ▸ Nat.lt_succ_of_lt hρ)
        · rw [if_neg hc] at hb ⊢
          exact fun _ => W_err _ _ _ hb
    all_goals exact fun _ => W_err _ _ _ (top_lp_other G v _ nodes hs nofun)
  all_goals exact fun _ => W_err _ _ _ (top_other G v _ t nodes hs nofun nofun nofun)

/-- **the `while` loop of `_parse` as translated does what `Asc.parseTop` does** -/
theorem top_sim : ∀ f : Nat, TopSpec encF f
  | 0 => fun _ _ _ _ _ _ _ _ _ _ _ _ _ h => absurd rfl h
  | f + 1 => top_step (top_sim f)

/-- the ROOT record `_parse` allocates -/
def rootRec : ASTNode := { type := 1, value := default, children := [], parent := none }

/-- `C15.convertWith` returning also the tokens left after the closing bracket (`[]` ⇔ the parser's `next_token` is `None` at the end) -/
def convertRest (N : Nat) (toks : List Tok) : Except Err (List Tok × List Asc.Row) :=
  skipComments N toks >>= fun t0 => expectLp t0 >>= fun t1 => parseTop N t1 [] >>= fun r => expectRp r.1 >>= fun t => .ok (t, r.2)

theorem convertWith_rest (N : Nat) (toks : List Tok) : C15.convertWith N toks = Prod.snd <$> convertRest N toks := by
  unfold C15.convertWith convertRest
  simp only [_root_.map_bind]
  refine bind_congr fun t0 => bind_congr fun t1 => bind_congr fun r => ?_
  rcases r with ⟨_ | ⟨x, t⟩, rows⟩
  · rfl
  · cases x <;> first | rfl | (show (adv _ >>= _) = _ <$> (adv _ >>= _); cases adv (.rp :: t) <;> rfl)

/-- result of `_parse()`: the parser object with the tokens `rest` left, the ROOT's reference, and a heap grown from
`nodes0 ++ [ROOT]` by subtrees of the ROOT whose table is the model's rows (nothing is said when the model runs out of fuel) -/
def ParsePost (encF : SwcText.Sci → Int) (nodes0 : List ASTNode) (out : Option (Parser × Int)) :
    Except Err (List Tok × List Asc.Row) → Prop
  | .error e => e ≠ .fuel → out = none
  | .ok (rest, rows) => ∃ nodes', out = some (st encF rest nodes', (nodes0.length : Int)) ∧
      Built encF U (nodes0 ++ [rootRec]) nodes' nodes0.length nodes0.length (-1) (-1) 0 rows

/-- `parse_refines` with the final position of the parser: `rest` is exactly what the model has left after the closing bracket -/
theorem parse_rest_refines (N G : Nat) (toks : List Tok) (nodes0 : List ASTNode) (hnb : NoBad toks) (hG : 2 * N ≤ G) :
    ParsePost encF nodes0 (parser_parse G (st encF toks nodes0)) (convertRest N toks) := by
  unfold convertRest
  simp -implicitDefEqProofs only [parser_parse, parser_parse.body, seq_eq_bindS, bindS_bind, bindS_next, finish_bind, map_bind]
  show ParsePost encF nodes0 ((parser_skip_comments G (st encF toks (nodes0 ++ [rootRec]))).bind _) _
  refine skip_step (fun _ h => absurd rfl h) N G (by omega) toks _ hnb _ _ fun t0 h0 => ?_
  refine lp_step encF (fun _ _ => rfl) t0 _ h0 _ _ fun t1 h1 => ?_
  have htop := top_sim (encF := encF) N t1 [] h1 G G
    { self := st encF t1 (nodes0 ++ [rootRec]), root := (nodes0.length : Int), token := some (enc encF .lp) }
    (nodes0 ++ [rootRec]) nodes0.length (by omega) hG rfl rfl (by simp)
  show ParsePost encF nodes0 (Option.map _ (Py.finish default (bindS (TW G G
    { self := st encF t1 (nodes0 ++ [rootRec]), root := (nodes0.length : Int), token := some (enc encF .lp) }) _))) _
  revert htop
  rcases parseTop N t1 [] with e | ⟨tr, rows⟩
  · intro htop he
    rw [htop he]
    rfl
  · rintro ⟨v', nodes', new, g1, g2, g3, rfl, g5, g6⟩
    rw [g1]
    simp -implicitDefEqProofs only [bindS_next, seq_eq_bindS, bindS_bind, finish_bind, map_bind, g2, g3, ok_bind, assert_then_st]
    refine rp_step encF (fun _ _ => rfl) tr nodes' g5 _ _ fun rest _ => ⟨nodes', rfl, by simpa using g6⟩

/-- **`Parser._parse` as translated = the model's conversion up to the table**, with the model's fuel `N` explicit (`C15.convertWith`;
`Asc.convertTokens` is `convertWith (2·length + 4)`) and any fuel `G ≥ 2 N` for the translated loops / recursion: an error of the model
(other than its own fuel running out) ↦ an exception; rows ↦ the AST heap has grown from `nodes0 ++ [ROOT]` by subtrees of the ROOT whose
table is exactly these rows (`Built`) -/
theorem parse_refines (N G : Nat) (toks : List Tok) (nodes0 : List ASTNode) (hnb : NoBad toks) (hG : 2 * N ≤ G)
    (hne : C15.convertWith N toks ≠ .error .fuel) :
    match C15.convertWith N toks with
    | .error _ => parser_parse G (st encF toks nodes0) = none
    | .ok rows => ∃ t' nodes', parser_parse G (st encF toks nodes0) = some (st encF t' nodes', (nodes0.length : Int)) ∧
        Built encF U (nodes0 ++ [rootRec]) nodes' nodes0.length nodes0.length (-1) (-1) 0 rows := by
  have h := parse_rest_refines (encF := encF) N G toks nodes0 hnb hG
  rw [convertWith_rest] at hne ⊢
  revert h hne
  rcases convertRest N toks with e | ⟨rest, rows⟩
  · exact fun hne h => h fun c => hne (by rw [c]; rfl)
  · exact fun _ ⟨nodes', h1, h2⟩ => ⟨rest, nodes', h1, h2⟩

/-- the walk on the heap `_parse` has built: `from_ast` as translated returns exactly the model's rows -/
theorem built_root (nodes0 nodes' : List ASTNode) (rows : List Asc.Row)
    (h : Built encF U (nodes0 ++ [rootRec]) nodes' nodes0.length nodes0.length (-1) (-1) 0 rows) (F : Nat) (hF : 2 * nodes'.length ≤ F) :
    from_ast F nodes' (nodes0.length : Int) = some ((rows.length : Int), colsOf (encRows encF 0 rows)) := by
  obtain ⟨ls, hS, al, _, hr, hc⟩ := h.flat
  obtain ⟨o, g, t, v, c⟩ := new_record hS
  simp only [if_true, rootRec, List.nil_append] at c t
  have hA : RefineAsc.Agrees nodes' (.mk nodes0.length ls) := by
    unfold RefineAsc.Agrees
    exact ⟨o, g, c, fun h => absurd (t.symm.trans h) (by decide), fun h => absurd (t.symm.trans h) (by decide), al⟩
  have hrows : RefineAsc.rows nodes' (.mk nodes0.length ls) (-1) Gen.Consts.type_undefined 0 = encRows encF 0 rows := by
    simp only [RefineAsc.rows, g, t, if_true]
    exact hr
  have hcost : cost nodes' (.mk nodes0.length ls) + 1 ≤ F := by
    simp only [cost, g, t, if_true]
    simp only [List.length_append, List.length_singleton] at hc
    omega
  have := from_ast_refines nodes' (.mk nodes0.length ls) hA F hcost
  rw [hrows] at this
  simpa [AT.ref] using this

/-- the parser object right after `Parser.__init__`: `next_token = None`, then `_read_token()` -/
theorem init_st (toks : List Tok) :
    parser_read_token { lexer := toks.map (enc encF), next_token := none, nodes := [] } = some (st encF toks [], ()) := by
  rw [read_token_eq]
  cases toks <;> rfl

/-- **generated parser ∘ generated walk = the model**, explicit fuels: for every token list without a lexer failure, every fuel `N` of the
model with which the model does not run out of fuel, every fuel `G ≥ 2 N` of the translated parser and every fuel `F ≥ 2·#heap` of the
translated walk: `Parser(...)`, `_parse()`, `from_ast(ast)` as translated return the model's rows (count, ids 0…m−1, types, the four
numbers, parents), or raise exactly when the model has an error -/
theorem convert_refines (N G : Nat) (toks : List Tok) (hnb : NoBad toks) (hG : 2 * N ≤ G)
    (hne : C15.convertWith N toks ≠ .error .fuel) :
    match C15.convertWith N toks with
    | .error _ => parser_parse G (st encF toks []) = none
    | .ok rows => ∃ p, parser_parse G (st encF toks []) = some (p, 0) ∧
        ∀ F, 2 * p.nodes.length ≤ F → from_ast F p.nodes 0 = some ((rows.length : Int), colsOf (encRows encF 0 rows)) := by
  have h := parse_refines (encF := encF) N G toks [] hnb hG hne
  revert h
  cases C15.convertWith N toks with
  | error e => intro h; exact h
  | ok rows =>
    intro h
    obtain ⟨t', nodes', h1, h2⟩ := h
    refine ⟨st encF t' nodes', by simpa using h1, ?_⟩
    intro F hF
    simpa using built_root [] nodes' rows h2 F hF

end RefineAscTop
