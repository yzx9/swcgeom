import SwcVerif.Gen.AlgoCheckers
import SwcVerif.Refine.PyRun
import SwcVerif.Refine.Dsu
import SwcVerif.Proofs.Dsu
import SwcVerif.Model.Sort
/-! Refinement for C18 (pointer jumping): the definition GENERATED from `swcgeom/core/swc_utils/base.py::get_dsu`
(`np.where` initialisation, `dict(zip(...))` index, the `while True` loop over `enumerate(dsu)` reading the array
LIVE while it is updated in place, `break` on an unchanged pass) equals the model `Dsu.getDsu` — for every table with
distinct ids and EVERY amount of fuel, failures (KeyError / fuel) included.  Then the checkers GENERATED from
`swc_utils/checker.py`: `has_cyclic` (a loop over the translated union-find), `is_bifurcate` (a `defaultdict(list)` of child
rows), `is_sorted`. -/
namespace RefineCheckers
open Gen.Algo Dsu Py

def castL (l : List Nat) : List Int := l.map (fun (k : Nat) => (k : Int))

@[simp] theorem castL_length (l : List Nat) : (castL l).length = l.length := by simp [castL]

theorem castL_getElem? (l : List Nat) (i : Nat) : (castL l)[i]? = (l[i]?).map (fun (k : Nat) => (k : Int)) := by
  simp [castL]

theorem castL_set (l : List Nat) (i x : Nat) : (castL l).set i (x : Int) = castL (l.set i x) := by
  simp [castL, List.map_set]

/-! ### initialisation -/

theorem where_init : ∀ (ids pids : List Int),
    where_ (eqMask pids (-1)) ids pids = (List.zip ids pids).map (fun ip => if ip.2 = -1 then ip.1 else ip.2) := by
  intro ids
  induction ids with
  | nil => intro pids; simp [where_, eqMask]
  | cons i is ih =>
    intro pids
    cases pids with
    | nil => simp [where_, eqMask]
    | cons p ps =>
      have := ih ps
      simp only [where_, eqMask] at this ⊢
      by_cases hp : p = -1 <;> simp [hp, this]

theorem get?_index (ids : List Int) (hnd : ids.Nodup) (x : Int) :
    Dict.get? (Dict.ofZip ids (range (len ids))) x = (idxOf? ids x).map (fun (k : Nat) => (k : Int)) := by
  by_cases hx : x ∈ ids
  · rw [Dict.get?_ofZip ids _ hnd (by simp) x hx]
    have hlt : ids.idxOf x < ids.length := List.idxOf_lt_length_of_mem hx
    simp [idxOf?, hlt]
  · rw [Dict.get?_ofZip_not_mem _ _ _ hx]
    have : ¬ ids.idxOf x < ids.length := by
      rw [List.idxOf_lt_length_iff]; exact hx
    simp [idxOf?, this]

/-- `[id2idx[i] for i in dsu]`: the comprehension raises where a lookup does -/
theorem for1_loop (ids : List Int) : ∀ (xs : List Int) (v : get_dsu.V),
    (∀ x, Dict.get? v.id2idx x = (idxOf? ids x).map (fun (k : Nat) => (k : Int))) →
    forEach get_dsu.for1 xs v = match xs.mapM (idxOf? ids) with
      | some ys => .next { v with c0_ := v.c0_ ++ castL ys, i := xs.getLast?.getD v.i }
      | none => .err := by
  intro xs
  induction xs with
  | nil => intro v _; simp [forEach, castL]
  | cons x xs ih =>
    intro v hv
    rw [List.mapM_cons]
    simp only [forEach, get_dsu.for1, Py.bind, hv]
    cases idxOf? ids x with
    | none => rfl
    | some k =>
      simp only [Option.map_some]
      rw [ih _ (by exact hv)]
      cases xs.mapM (idxOf? ids) with
      | none => rfl
      | some ys => simp [castL, List.getLast?_cons]

/-! ### one pass -/

/-- Not `Dsu.Closed n g` (the same condition on a function, also in scope through `open Dsu`): inside this namespace `Closed` is this predicate on lists. -/
def Closed (l : List Nat) : Prop := ∀ x ∈ l, x < l.length

theorem getD_lt {l : List Nat} (h : Closed l) (i : Nat) (hi : i < l.length) : l.getD i 0 < l.length := by
  have : l.getD i 0 = l[i] := by simp [List.getD, hi]
  rw [this]; exact h _ (List.getElem_mem hi)

theorem jumpStep_closed {acc : List Nat × Bool} (h : Closed acc.1) (i : Nat) (hi : i < acc.1.length) :
    Closed (jumpStep acc i).1 := by
  unfold jumpStep
  split
  · intro x hx
    simp only [List.length_set]
    rcases List.mem_or_eq_of_mem_set hx with hx | hx
    · exact h x hx
    · rw [hx]; exact getD_lt h _ (getD_lt h i hi)
  · exact h

theorem idx_castL (l : List Nat) (i : Nat) (hi : i < l.length) : idx (castL l) (i : Int) = some ((l.getD i 0 : Nat) : Int) := by
  rw [idx_nat _ _ (by simpa using hi), castL_getElem?]
  simp [List.getD, hi]

/-- one `i, p` of `enumerate(dsu)`: the entry and its parent's entry are read from the array as it is now -/
theorem for2_step {acc : List Nat × Bool} {v : get_dsu.V} {i : Nat} (hc : Closed acc.1) (hi : i < acc.1.length)
    (hd : v.dsu = castL acc.1) (hf : v.flag = acc.2) :
    ∃ v', get_dsu.for2 (i : Int) v = .next v' ∧ v'.dsu = castL (jumpStep acc i).1 ∧ v'.flag = (jumpStep acc i).2 := by
  have e1 : idx v.dsu (i : Int) = some ((acc.1.getD i 0 : Nat) : Int) := hd ▸ idx_castL _ _ hi
  have e2 : idx v.dsu ((acc.1.getD i 0 : Nat) : Int) = some ((acc.1.getD (acc.1.getD i 0) 0 : Nat) : Int) :=
    hd ▸ idx_castL _ _ (getD_lt hc i hi)
  have e3 : ∀ x : Nat, setIdx v.dsu (i : Int) (x : Int) = some (castL (acc.1.set i x)) := fun x => by
    rw [setIdx_nat _ _ _ (by rw [hd]; simpa using hi), hd, castL_set]
  unfold jumpStep
  simp only [get_dsu.for2, seq, Py.bind, e1, e2, e3, ne_eq, Int.natCast_inj, decide_not]
  by_cases h : acc.1.getD i 0 = acc.1.getD (acc.1.getD i 0) 0
  · rw [if_neg (not_not_intro h)]
    simp only [decide_eq_true h, Bool.not_true, Bool.false_eq_true, if_false]
    exact ⟨_, rfl, hd, hf⟩
  · rw [if_pos h]
    simp only [decide_eq_false h, Bool.not_false, if_true]
    exact ⟨_, rfl, rfl, rfl⟩

/-- the `for i, p in enumerate(dsu)` loop (array read live, written in place) is the model's fold -/
theorem for2_loop : ∀ (is : List Nat) (acc : List Nat × Bool) (v : get_dsu.V), Closed acc.1 → (∀ i ∈ is, i < acc.1.length) →
    v.dsu = castL acc.1 → v.flag = acc.2 →
    ∃ v', forEach get_dsu.for2 (is.map (fun (k : Nat) => (k : Int))) v = .next v' ∧
      v'.dsu = castL (is.foldl jumpStep acc).1 ∧ v'.flag = (is.foldl jumpStep acc).2 ∧ Closed (is.foldl jumpStep acc).1 ∧
      (is.foldl jumpStep acc).1.length = acc.1.length := by
  intro is
  induction is with
  | nil => intro acc v hc _ hd hf; exact ⟨v, rfl, hd, hf, hc, rfl⟩
  | cons i is ih =>
    intro acc v hc hlt hd hf
    have hi := hlt i List.mem_cons_self
    obtain ⟨v1, e1, d1, f1⟩ := for2_step hc hi hd hf
    obtain ⟨v', e, h⟩ := ih (jumpStep acc i) v1 (jumpStep_closed hc i hi)
      (fun j hj => jumpStep_length acc i ▸ hlt j (List.mem_cons_of_mem _ hj)) d1 f1
    exact ⟨v', by simp only [List.map_cons, forEach, e1, e], jumpStep_length acc i ▸ h⟩

/-! ### the `while True` loop and the whole function -/

theorem pass_refines (l : List Nat) (hc : Closed l) (v : get_dsu.V) (hd : v.dsu = castL l) :
    ∃ v', forEach get_dsu.for2 (range (len v.dsu)) { v with flag := true } = .next v' ∧
      v'.dsu = castL (jumpPass l).1 ∧ v'.flag = (jumpPass l).2 ∧ Closed (jumpPass l).1 := by
  have hr : range (len v.dsu) = (List.range l.length).map (fun (k : Nat) => (k : Int)) := by
    rw [hd]; simp [castL]
  rw [hr, jumpPass_eq]
  obtain ⟨v', e, h1, h2, h3, _⟩ := for2_loop (List.range l.length) (l, true) { v with flag := true } hc
    (by intro i hi; simpa using hi) hd rfl
  exact ⟨v', e, h1, h2, h3⟩

/-- the `while True` loop followed by `return dsu` -/
theorem loop_refines : ∀ (F : Nat) (l : List Nat) (v : get_dsu.V), Closed l → v.dsu = castL l →
    (finish default (seq (whileF get_dsu.while3_cond get_dsu.while3_body F) (fun v => .ret v v.dsu) v)).map (·.2) =
      (jumpLoop F l).map castL := by
  intro F
  induction F with
  | zero => intro _ _ _ _; rfl
  | succ F ih =>
    intro l v hc hd
    obtain ⟨v1, e1, d1, f1, c1⟩ := pass_refines l hc v hd
    have hbody : get_dsu.while3_body v = if (jumpPass l).2 then .brk v1 else .next v1 := by
      simp only [get_dsu.while3_body, seq, e1, f1, skip]
    simp only [jumpLoop, seq, whileF, get_dsu.while3_cond, hbody]
    cases (jumpPass l).2 with
    | true => simp [finish, d1]
    | false => exact ih _ v1 c1 d1

/-- **`get_dsu` as translated IS the model**, for every table with distinct ids whose two columns have the
same length and every fuel: same labels, same failures (a parent id that names no row = KeyError; fuel) -/
theorem getDsu_refines (ids pids : List Int) (hnd : ids.Nodup) (hl : ids.length = pids.length) (fuel : Nat) :
    get_dsu fuel ids pids = ((dsuInit ids pids).bind (jumpLoop fuel)).map castL := by
  have hinit : dsuInit ids pids = ((List.zip ids pids).map (fun ip => if ip.2 = -1 then ip.1 else ip.2)).mapM (idxOf? ids) := by
    simp [dsuInit, List.mapM_map, Function.comp_def]
  simp only [get_dsu, get_dsu.body, seq, bindS, where_init, hinit]
  rw [for1_loop ids _ _ (by exact get?_index ids hnd)]
  cases hm : ((List.zip ids pids).map (fun ip => if ip.2 = -1 then ip.1 else ip.2)).mapM (idxOf? ids) with
  | none => rfl
  | some l0 =>
    have hc0 : Closed l0 := by
      obtain ⟨hlen, hk⟩ := Py.mapM_eq_some _ _ l0 hm
      intro y hy
      obtain ⟨k, hk2, rfl⟩ := List.mem_iff_getElem.1 hy
      rw [hlen, List.length_map, List.length_zip, ← hl, Nat.min_self]
      exact idxOf?_lt (hk k (hlen ▸ hk2) hk2)
    exact loop_refines fuel l0 _ hc0 (by rfl)

/-! ### `has_cyclic` -/

open RefineDsu in
/-- one row that has a parent: `is_same_set`, then `return True` or `union_sets` -/
theorem cyclic_row {g : DisjointSetUnion} {d : D} (hgood : Good g d) (F : Nat) (hF : d.b < F) (v : has_cyclic.V)
    (k : Int) (a b : Nat) (ha : a < d.n) (hb : b < d.n)
    (hva : idx v.topology.1 k = some (a : Int)) (hvb : idx v.topology.2 k = some (b : Int)) (hdsu : v.dsu = g) :
    if (same d a b).1 = true then ∃ v', has_cyclic.for1 F k v = .ret v' true
    else ∃ g2, Good g2 (union (same d a b).2 a b) ∧
      has_cyclic.for1 F k v = .next { v with i := k, node_a := a, node_b := b, dsu := g2 } := by
  obtain ⟨g1, e1, good1⟩ := same_refines hgood a b ha hb F hF
  have hb1 : ¬ (b : Int) = -1 := by omega
  split
  · rename_i hs
    exact ⟨{ v with i := k, node_a := a, node_b := b, dsu := g1 }, by
      simp only [has_cyclic.for1, seq, Py.bind, hva, hvb, hb1, decide_false, Bool.false_eq_true, if_false, skip, hdsu, e1, hs,
        if_true]⟩
  · rename_i hs
    obtain ⟨g2, e2, good2⟩ := union_refines good1 a b ha hb F hF
    refine ⟨g2, good2, ?_⟩
    simp only [has_cyclic.for1, seq, Py.bind, hva, hvb, hb1, decide_false, Bool.false_eq_true, if_false, skip, hdsu, e1,
      hs, e2]

theorem cyclic_root_row (F : Nat) (v : has_cyclic.V) (k a : Int) (hva : idx v.topology.1 k = some a)
    (hvb : idx v.topology.2 k = some (-1)) :
    has_cyclic.for1 F k v = .cont { v with i := k, node_a := a, node_b := -1 } := by
  simp only [has_cyclic.for1, seq, Py.bind, hva, hvb, decide_true, if_true]

open RefineDsu in
/-- the row loop of `has_cyclic`, from row `k` on: the `k` rows passed have raised the rank bound `d.b` to `k` at most, so any fuel
beyond the number of rows suffices -/
theorem cyclic_loop (ids pids : List Int) (F : Nat) (hF : ids.length < F) (hl : ids.length = pids.length)
    (hi : ∀ i ∈ ids, 0 ≤ i ∧ i < (ids.length : Int)) (hp : ∀ p ∈ pids, p = -1 ∨ (0 ≤ p ∧ p < (ids.length : Int))) :
    ∀ (m k : Nat) (d : D) (g : DisjointSetUnion) (v : has_cyclic.V), k + m = ids.length → Good g d → d.n = ids.length →
      d.b ≤ k → v.dsu = g → v.topology = (ids, pids) →
      ∃ r v', hasCyclicLoop d (ids.drop k) (pids.drop k) = some r ∧
        forEach (has_cyclic.for1 F) ((List.range' k m).map (fun (j : Nat) => (j : Int))) v = if r then .ret v' true else .next v' := by
  intro m
  induction m with
  | zero =>
    intro k d g v hk _ _ _ _ _
    have : ids.drop k = [] := List.drop_eq_nil_of_le (Nat.le_of_eq hk.symm)
    exact ⟨false, v, by simp [this, hasCyclicLoop], rfl⟩
  | succ m ih =>
    intro k d g v hk hgood hn hb hdsu htop
    have hkl : k < ids.length := hk ▸ Nat.lt_add_of_pos_right (Nat.succ_pos m)
    have hkp : k < pids.length := hl ▸ hkl
    have hk1 : k + 1 + m = ids.length := (Nat.add_right_comm k 1 m).trans hk
    have ga : idx v.topology.1 (k : Int) = some ids[k] := by rw [htop, Py.idx_natCast, List.getElem?_eq_getElem hkl]
    have gb : idx v.topology.2 (k : Int) = some pids[k] := by rw [htop, Py.idx_natCast, List.getElem?_eq_getElem hkp]
    rw [List.drop_eq_getElem_cons hkl, List.drop_eq_getElem_cons hkp]
    simp only [List.range'_succ, List.map_cons, forEach]
    obtain ⟨ha0, han⟩ := hi ids[k] (List.getElem_mem hkl)
    have hpb := hp pids[k] (List.getElem_mem hkp)
    generalize ids[k] = a at ga ha0 han ⊢
    generalize pids[k] = b at gb hpb ⊢
    by_cases hroot : b = -1
    · subst hroot
      rw [hasCyclicLoop_root, cyclic_root_row F v k a ga gb]
      exact ih (k + 1) d g _ hk1 hgood hn (Nat.le_succ_of_le hb) hdsu htop
    · obtain ⟨hb0, hbn⟩ := hpb.resolve_left hroot
      obtain ⟨a, rfl⟩ := Int.eq_ofNat_of_zero_le ha0
      obtain ⟨b, rfl⟩ := Int.eq_ofNat_of_zero_le hb0
      have han' : a < d.n := hn ▸ Int.ofNat_lt.1 han
      have hbn' : b < d.n := hn ▸ Int.ofNat_lt.1 hbn
      have hrow := cyclic_row hgood F (Nat.lt_of_le_of_lt hb (Nat.lt_trans hkl hF)) v k a b han' hbn' ga gb hdsu
      rw [hasCyclicLoop_step d a b _ _ han' hbn']
      by_cases hs : (same d a b).1 = true
      · rw [if_pos hs] at hrow ⊢
        obtain ⟨v', e⟩ := hrow
        exact ⟨true, v', rfl, by simp only [e, if_true]⟩
      · rw [if_neg hs] at hrow ⊢
        obtain ⟨g2, good2, e⟩ := hrow
        have hub := union_b_le (same d a b).2 a b
        simp only [e]
        exact ih (k + 1) _ g2 _ hk1 good2 (hub.2.trans hn) (Nat.le_trans hub.1 (Nat.succ_le_succ hb)) rfl htop

open RefineDsu in
/-- **`has_cyclic` as translated equals the model on every valid table** (ids `0..n-1` in any order, parents -1 or a row) -/
theorem hasCyclic_refines (ids pids : List Int) (hl : ids.length = pids.length)
    (hi : ∀ i ∈ ids, 0 ≤ i ∧ i < (ids.length : Int)) (hp : ∀ p ∈ pids, p = -1 ∨ (0 ≤ p ∧ p < (ids.length : Int))) (F : Nat) :
    has_cyclic (ids.length + 1 + F) (ids, pids) = hasCyclic ids pids := by
  obtain ⟨g, eg, hgood⟩ := init_good default ids.length
  obtain ⟨r, v', e, ev⟩ := cyclic_loop ids pids (ids.length + 1 + F) (Nat.lt_add_right F (Nat.lt_succ_self _)) hl hi hp ids.length 0
    (init ids.length) g { (default : has_cyclic.V) with topology := (ids, pids), node_num := (ids.length : Int), dsu := g }
    (Nat.zero_add _) hgood rfl (Nat.le_refl 0) rfl rfl
  simp only [List.drop_zero] at e
  simp only [hasCyclic, e]
  have hrange : range ((ids.length : Nat) : Int) = (List.range' 0 ids.length).map (fun (j : Nat) => (j : Int)) := by
    simp [List.range_eq_range']
  simp only [has_cyclic, has_cyclic.body, seq, Py.bind, len_eq, eg, hrange, ev]
  cases r <;> rfl

/-! ### `is_bifurcate` -/

/-- a `defaultdict(list)` that holds the lists `L` -/
def Holds (d : Dict Int (List Int)) (L : Int → List Int) : Prop :=
  (∀ q ∈ d, q.2 = L q.1) ∧ ∀ k, k ∉ d.map (·.1) → L k = []

theorem Holds.getD {d : Dict Int (List Int)} {L : Int → List Int} (h : Holds d L) (k : Int) : Dict.getD d k [] = L k := by
  rw [Dict.getD_eq]
  by_cases hk : k ∈ d.map (·.1)
  · rw [Dict.get?_of_forall d L h.1 k hk]; rfl
  · rw [Dict.get?_none_of_not_mem d k hk, h.2 k hk]; rfl

/-- `d[p]` on a `defaultdict`: the key is there afterwards, no list changes -/
theorem Holds.setdefault {d : Dict Int (List Int)} {L : Int → List Int} (h : Holds d L) (p : Int) :
    Holds (Dict.setdefault d p []) L := by
  refine ⟨fun q hq => ?_, fun k hk => h.2 k fun c => hk ((Dict.keys_setdefault d p [] k).2 (Or.inl c))⟩
  rcases (Dict.mem_setdefault _ _ _ _).1 hq with hq | ⟨hn, rfl⟩
  · exact h.1 q hq
  · exact (h.2 p hn).symm

theorem Holds.set {d : Dict Int (List Int)} {L : Int → List Int} (h : Holds d L) {p : Int} (hp : p ∈ d.map (·.1)) (l : List Int) :
    Holds (Dict.set d p l) (fun k => if k = p then l else L k) := by
  refine ⟨fun q hq => ?_, fun k hk => ?_⟩
  · rcases (Dict.mem_set_of_mem d p l hp q).1 hq with ⟨hq, hne⟩ | rfl
    · simp [hne, h.1 q hq]
    · simp
  · have hk' : k ∉ d.map (·.1) := fun c => hk ((Dict.keys_set_of_mem d p l hp k).2 c)
    show (if k = p then l else L k) = []
    rw [if_neg (fun (e : k = p) => hk' (e ▸ hp)), h.2 k hk']

/-- the `children[pid].append(idx)` loop over a `defaultdict(list)` -/
theorem bif_build : ∀ (ids pids : List Int) (v : is_bifurcate.V) (L : Int → List Int), Holds v.children L →
    ∃ v', forEach is_bifurcate.for1 (Py.zip ids pids) v = .next v' ∧
      Holds v'.children (fun k => L k ++ tableKids ids pids k) ∧
      (∀ k, k ∈ v'.children.map (·.1) ↔ (k ∈ v.children.map (·.1) ∨ k ∈ (List.zip ids pids).map (·.2))) ∧
      v'.exclude_root = v.exclude_root := by
  intro ids
  induction ids with
  | nil => intro pids v L h; exact ⟨v, rfl, by simpa [tableKids] using h, by simp, rfl⟩
  | cons i is ih =>
    intro pids v L h
    cases pids with
    | nil => exact ⟨v, rfl, by simpa [tableKids] using h, by simp, rfl⟩
    | cons p ps =>
      have h1 := h.setdefault p
      have hp : p ∈ (Dict.setdefault v.children p []).map (·.1) := (Dict.keys_setdefault _ _ _ _).2 (Or.inr rfl)
      obtain ⟨v', e, r1, r2, r3⟩ := ih ps
        { v with idx := i, pid := p, children := Dict.set (Dict.setdefault v.children p []) p (L p ++ [i]) } _ (h1.set hp _)
      refine ⟨v', ?_, ?_, fun k => ?_, r3⟩
      · simp only [Py.zip, List.zip_cons_cons, forEach, is_bifurcate.for1, h1.getD]
        exact e
      · have hL : (fun k => (if k = p then L p ++ [i] else L k) ++ tableKids is ps k) =
            fun k => L k ++ tableKids (i :: is) (p :: ps) k := funext fun k => by
          rw [tableKids_cons]
          by_cases hk : k = p
          · simp [hk]
          · simp [hk, Ne.symm hk]
        exact hL ▸ r1
      · rw [r2 k, Dict.keys_set_of_mem _ p _ hp k, Dict.keys_setdefault]
        simp only [List.zip_cons_cons, List.map_cons, List.mem_cons, or_assoc]

/-- the `for k, v in children.items()` loop with its early `return False` -/
theorem bif_scan : ∀ (items : List (Int × List Int)) (v : is_bifurcate.V), ∃ v', forEach is_bifurcate.for2 items v =
    if items.all (fun kv => decide (kv.1 = -1) || (v.exclude_root && v.root.contains kv.1) || decide (kv.2.length ≤ 2))
    then .next v' else .ret v' false := by
  intro items
  induction items with
  | nil => intro v; exact ⟨v, rfl⟩
  | cons kv items ih =>
    intro v
    obtain ⟨v', ih⟩ := ih { v with k := kv.1, v := kv.2 }
    simp only [forEach, is_bifurcate.for2, seq, skip, len_eq, List.all_cons]
    by_cases hskip : (decide (kv.1 = -1) || (v.exclude_root && v.root.contains kv.1)) = true
    · simp only [hskip, if_true, Bool.true_or, Bool.true_and]
      exact ⟨v', ih⟩
    · by_cases hlen : kv.2.length ≤ 2
      · have : ¬ ((kv.2.length : Int) > 2) := by omega
        simp only [hskip, Bool.false_eq_true, if_false, Bool.false_or, this, decide_false, hlen, decide_true, Bool.true_and]
        exact ⟨v', ih⟩
      · have : (kv.2.length : Int) > 2 := by omega
        simp only [hskip, Bool.false_eq_true, if_false, Bool.false_or, this, decide_true, if_true, hlen, decide_false, Bool.false_and]
        exact ⟨_, rfl⟩

/-- **`is_bifurcate` as translated equals the model** on every table with equally long columns: `True` exactly when no parent other
than the (optionally exempt) roots has more than two children -/
theorem isBifurcate_refines (ids pids : List Int) (hl : ids.length = pids.length) (excl : Bool) :
    is_bifurcate (ids, pids) excl = some (isBifurcate ids pids excl) := by
  obtain ⟨v1, e1, a1, k1, x1⟩ := bif_build ids pids
    { (default : is_bifurcate.V) with topology := (ids, pids), exclude_root := excl, children := [] } (fun _ => [])
    ⟨fun _ hp => (List.not_mem_nil hp).elim, fun _ _ => rfl⟩
  simp only [List.nil_append] at a1
  have hzip : (List.zip ids pids).map (·.2) = pids := by
    rw [← List.unzip_snd, List.unzip_zip_right (Nat.le_of_eq hl.symm)]
  simp only [List.map_nil, List.not_mem_nil, false_or, hzip] at k1
  -- after `root = children[-1]`
  have a2 := a1.setdefault (-1)
  obtain ⟨v', ev⟩ := bif_scan (Dict.setdefault v1.children (-1) [])
    { v1 with children := Dict.setdefault v1.children (-1) [], root := tableKids ids pids (-1) }
  -- the two `all`s agree
  have hiff : ((Dict.setdefault v1.children (-1) []).all (fun kv => decide (kv.1 = -1) || (excl && (tableKids ids pids (-1)).contains kv.1) ||
      decide (kv.2.length ≤ 2))) = isBifurcate ids pids excl := by
    rw [Bool.eq_iff_iff]
    simp only [isBifurcate, List.all_eq_true]
    constructor
    · intro h k hk
      obtain ⟨q, hq, rfl⟩ := List.mem_map.1 ((Dict.keys_setdefault _ (-1) [] k).2 (Or.inl ((k1 k).2 hk)))
      simpa [a2.1 q hq] using h q hq
    · intro h q hq
      rw [a2.1 q hq]
      by_cases hq1 : q.1 = -1
      · simp [hq1]
      · have hqk := (k1 q.1).1 (((Dict.keys_setdefault _ (-1) [] q.1).1 (List.mem_map.2 ⟨q, hq, rfl⟩)).resolve_right hq1)
        simpa using h q.1 hqk
  have x1 : v1.exclude_root = excl := x1
  simp only [is_bifurcate, is_bifurcate.body, seq, e1, a2.getD]
  rw [ev, x1, hiff]
  cases isBifurcate ids pids excl <;> rfl

/-- `is_sorted` as translated is the model's `np.all(pids < ids)` -/
theorem isSorted_refines (ids pids : List Int) : is_sorted (ids, pids) = some (SortM.isSorted ids pids) := by
  simp only [is_sorted, is_sorted.body, seq, finish, SortM.isSorted, Py.all, Py.ltMask, Option.map]
  rw [List.zipWith_comm]

end RefineCheckers
