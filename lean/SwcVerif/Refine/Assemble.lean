import SwcVerif.Gen.AlgoAssemble
import SwcVerif.Proofs.Assemble
import SwcVerif.Refine.PyRun
/-! # Refinement: the generated `BranchTreeAssembler.__call__` (`Gen/AlgoAssemble.lean`) builds the table of the model `Model/Assemble.lean`

The generated definition works on the branch tree as DATA (the two topology columns of `x`, the dictionary `x.branches`, a branch =
the list of its sample handles), with `self.pair` a state-passing callback and the two duplicate tests as function parameters.
`Rep` states that a key node handle `h` of that data represents the rose tree `t : Asm.BT` the model takes as input: the kids of `t`
are the children of `h` IN THE ORDER IN WHICH `pair` RETURNS THEM and `k.m` is the number of samples of the paired branch that survive
the trimming `br[s:e]`.  For every such input the generated function returns ids `0 .. n-1` and the parent list `-1 :: Asm.sub t 0 1`
(which is `Asm.assemble t`: `C16Asm.assemble_eq` in `Props/C16Asm.lean`), and the fuel `t.size + 1` suffices. -/
namespace RefineAsm
open Py Gen.Algo Asm

theorem node_detach_eq (h : Int) : node_detach h = some ⟨0, -1⟩ := by
  simp [node_detach, node_detach.body, Py.seq, Py.bind, Py.idx, Py.normIdx, Py.finish]

/-- the record the reindexing loop writes at position `j` of a branch allocated from table length `N` on (at `j = 0` the `pid` is
provisional: `br_nodes[0].pid = pid_new` overwrites it, see `chainNodes`) -/
def mk (N : Int) (j : Nat) : DNode := ⟨N + (j : Int), N + (j : Int) - 1⟩

section
variable {σ : Type} [Inhabited σ] (pair : σ → List (List Int) → List Int → σ × List ((List Int) × Int))
  (dupFirst dupLast : List Int → Int → Bool)

/-- `[n.detach() for n in br[s:e]]` -/
theorem for1_loop : ∀ (xs : List Int) (v : bt_assemble.V σ),
    forEach (bt_assemble.for1 pair dupFirst dupLast) xs v =
      .next { v with c6_ := v.c6_ ++ List.replicate xs.length ⟨0, -1⟩, n_c5 := xs.getLast?.getD v.n_c5 } := fun xs v => by
  rw [← List.map_const']
  exact forEach_comp (bt_assemble.for1 pair dupFirst dupLast) (fun l y => { v with c6_ := l, n_c5 := y }) _
    (fun x l y => by simp only [bt_assemble.for1, node_detach_eq, Py.bind]) xs _ _

/-- `for i, n in enumerate(br_nodes): n.id = len(nodes) + i; n.pid = len(nodes) + i - 1` (the elements are updated in place) -/
theorem for2_loop : ∀ (todo done : List DNode) (v : bt_assemble.V σ), v.br_nodes = done ++ todo →
    forEach (bt_assemble.for2 pair dupFirst dupLast) ((List.range todo.length).map (fun (k : Nat) => ((done.length + k : Nat) : Int))) v =
      .next { v with br_nodes := done ++ (List.range todo.length).map (fun k => mk (Py.len v.nodes) (done.length + k)),
                     i := (((List.range todo.length).map (fun (k : Nat) => ((done.length + k : Nat) : Int))).getLast?).getD v.i,
                     n := (((List.range todo.length).map (fun k => mk (Py.len v.nodes) (done.length + k))).getLast?).getD v.n } := by
  intro todo
  induction todo with
  | nil =>
    intro done v h
    simp only [List.append_nil] at h
    subst h
    simp [forEach]
  | cons d ds ih =>
    intro done v h
    have hlen : done.length < v.br_nodes.length := by simp [h]
    have hget : v.br_nodes[done.length]? = some d := by simp [h]
    have e := ih (done ++ [mk (Py.len v.nodes) done.length])
      { v with i := (done.length : Int), n := mk (Py.len v.nodes) done.length,
               br_nodes := (done ++ [mk (Py.len v.nodes) done.length]) ++ ds } rfl
    simp only [List.length_cons, List.range_succ_eq_map, List.map_cons, List.map_map, forEach, Nat.add_zero, List.getLast?_cons,
      Option.getD_some]
    simp only [bt_assemble.for2, Py.seq, Py.bind, Py.idx_nat _ _ hlen, hget, Py.setIdx_nat _ _ _ hlen]
    have hset : v.br_nodes.set done.length (mk (Py.len v.nodes) done.length) = (done ++ [mk (Py.len v.nodes) done.length]) ++ ds := by
      simp [h]
    have key : ∀ k, done.length + (0 + 1) + k = done.length + (k + 1) := by intro k; omega
    simp only [List.length_append, List.length_cons, List.length_nil] at e
    simp only [mk, Py.len_eq, key] at e hset ⊢
    rw [hset]
    simp only [Function.comp_def, Nat.succ_eq_add_one, List.append_assoc, List.cons_append, List.nil_append] at e ⊢
    exact e

/-- the whole reindexing loop -/
theorem for2_all (L : List DNode) (v : bt_assemble.V σ) (h : v.br_nodes = L) :
    forEach (bt_assemble.for2 pair dupFirst dupLast) (Py.range (Py.len L)) v =
      .next { v with br_nodes := (List.range L.length).map (fun k => mk (Py.len v.nodes) k),
                     i := (((List.range L.length).map (fun (k : Nat) => (k : Int))).getLast?).getD v.i,
                     n := (((List.range L.length).map (fun k => mk (Py.len v.nodes) k)).getLast?).getD v.n } := by
  have := for2_loop pair dupFirst dupLast L [] v (by simpa using h)
  simpa using this

/-- the samples of `br` that survive the trimming `br[s:e]` (`s`, `e` from the two duplicate tests) -/
def trim (br : List Int) (h c : Int) : List Int :=
  Py.slice br (some (if dupFirst br h then (1 : Int) else 0)) (if dupLast br c then some (-(1 : Int)) else none)

/-- rows of one branch as detached nodes: ids `N ..`, the first hangs off `p`, every further one off its predecessor -/
def chainNodes (N p : Int) (m : Nat) : List DNode := ⟨N, p⟩ :: (List.range m).map (fun k => mk N (k + 1))

theorem setIdx_zero_cons {α : Type} (a x : α) (l : List α) : Py.setIdx (a :: l) 0 x = some (x :: l) := by simp [Py.setIdx, Py.normIdx]

theorem idx_last_chain (N p : Int) (m : Nat) : ∃ q, Py.idx (chainNodes N p m) (-1) = some ⟨N + (m : Int), q⟩ := by
  cases m with
  | zero => exact ⟨p, by rw [Py.idx_last]; simp [chainNodes]⟩
  | succ m =>
    refine ⟨N + ((m + 1 : Nat) : Int) - 1, ?_⟩
    have : chainNodes N p (m + 1) = (⟨N, p⟩ :: (List.range m).map (fun k => mk N (k + 1))) ++ [mk N (m + 1)] := by
      simp [chainNodes, List.range_succ]
    rw [this, Py.idx_last, List.getLast?_concat]
    simp [mk]

theorem for3_body (pr : List Int × Int) (v : bt_assemble.V σ) : ∃ v1,
    bt_assemble.for3 pair dupFirst dupLast pr v = .next v1 ∧
    v1.nodes = v.nodes ++ chainNodes (Py.len v.nodes) v.pid_new (trim dupFirst dupLast pr.1 v.n_orig pr.2).length ∧
    v1.stack = v.stack ++ [(pr.2, Py.len v.nodes + ((trim dupFirst dupLast pr.1 v.n_orig pr.2).length : Int))] ∧
    v1.ids = v.ids ∧ v1.pids = v.pids ∧ v1.branches = v.branches ∧ v1.pid_new = v.pid_new ∧ v1.n_orig = v.n_orig := by
  simp -implicitDefEqProofs only [bt_assemble.for3, Py.seq_eq_bindS, Py.bindS_next, Py.bind_some, for1_loop, node_detach_eq]
  rw [for2_all pair dupFirst dupLast _ _ ?h]
  case h => rfl
  simp -implicitDefEqProofs only [List.length_append, List.length_replicate, List.length_cons, List.length_nil, List.nil_append,
    List.range_succ_eq_map, List.map_cons, Py.idx_head, List.head?_cons, setIdx_zero_cons, Py.seq_eq_bindS, Py.bindS_next, Py.bind_some, trim]
  generalize (slice pr.1 (some (if dupFirst pr.1 v.n_orig = true then 1 else 0)) (if dupLast pr.1 pr.2 = true then some (-1) else none)).length = M
  have hch : ({ id := (mk (len v.nodes) 0).id, pid := v.pid_new } :: List.map (fun k => mk (len v.nodes) k) (List.map Nat.succ (List.range M)))
      = chainNodes (len v.nodes) v.pid_new M := by
    simp [chainNodes, mk, List.map_map, Function.comp_def]
  rw [hch]
  obtain ⟨q, hq⟩ := idx_last_chain (len v.nodes) v.pid_new M
  rw [hq]
  exact ⟨_, rfl, rfl, rfl, rfl, rfl, rfl, rfl, rfl⟩

/-- the detached nodes built so far are the rows `out` of the model: ids are positions, pids the model's parent list -/
def Tab (nodes : List DNode) (out : List Int) : Prop :=
  nodes.map (·.pid) = out ∧ nodes.map (·.id) = (List.range out.length).map (fun (k : Nat) => (k : Int))

theorem Tab.length {nodes : List DNode} {out : List Int} (h : Tab nodes out) : nodes.length = out.length := by
  have := congrArg List.length h.1
  simpa using this

theorem Tab.chain {nodes : List DNode} {out : List Int} (h : Tab nodes out) (p m : Nat) :
    Tab (nodes ++ chainNodes (out.length : Int) (p : Int) m) (out ++ chainRows p out.length m) := by
  refine ⟨?_, ?_⟩
  · simp only [List.map_append, h.1, chainNodes, chainRows, List.map_cons, List.map_map]
    congr 2
    apply List.map_congr_left
    intro k _
    simp [mk] <;> omega
  · simp only [List.map_append, h.2, chainNodes, chainRows, List.map_cons, List.map_map, List.length_append, List.length_cons,
      List.length_map, List.length_range]
    rw [List.range_add, List.range_succ_eq_map]
    simp only [List.map_append, List.map_cons, List.map_map]
    congr 2

variable (ids pids : List Int) (branches : Py.Dict Int (List (List Int)))

mutual
/-- **the key node handle `h` of the data represents the rose tree `t`** (the model's input): the kids of `t` are the children of `h`
in the order in which `pair` returns them (whatever its state), `k.m` is the number of samples of the paired branch that survive
`br[s:e]`, hereditarily -/
def Rep : BT → Int → Prop
  | .node _ _ ks, h => ∃ cs key prs, node_children ids pids h = some cs ∧ Py.idx ids h = some key ∧
      (∀ s : σ, (pair s (Py.Dict.getD branches key []) cs).2 = prs) ∧ RepL ks h prs
def RepL : List BT → Int → List (List Int × Int) → Prop
  | [], _, [] => True
  | k :: ks, h, pr :: prs => (trim dupFirst dupLast pr.1 h pr.2).length = k.m ∧ Rep k pr.2 ∧ RepL ks h prs
  | _ :: _, _, [] => False
  | [], _, _ :: _ => False
end

/-- the columns of the branch tree and its dictionary are never written -/
def Fix (v : bt_assemble.V σ) : Prop := v.ids = ids ∧ v.pids = pids ∧ v.branches = branches

/-- the `for br, c in pairs` loop over the pairs of the kids `ks`: the model's `chains` -/
theorem for3_loop (h : Int) (p : Nat) : ∀ (ks : List BT) (prs : List (List Int × Int)),
    RepL pair dupFirst dupLast ids pids branches ks h prs →
    ∀ (v : bt_assemble.V σ) (out : List Int), Tab v.nodes out → v.n_orig = h → v.pid_new = (p : Int) → Fix ids pids branches v →
    ∃ v', forEach (bt_assemble.for3 pair dupFirst dupLast) prs v = .next v' ∧
      Tab v'.nodes (out ++ (chains ks p out.length).1) ∧
      v'.stack = v.stack ++ List.zip (prs.map (·.2)) ((chains ks p out.length).2.map (fun (k : Nat) => (k : Int))) ∧
      Fix ids pids branches v' := by
  intro ks
  induction ks with
  | nil =>
    intro prs hr v out ht _ _ hfix
    cases prs with
    | nil => exact ⟨v, rfl, by simpa [chains] using ht, by simp [chains], hfix⟩
    | cons => simp [RepL] at hr
  | cons k ks ih =>
    intro prs hr v out ht hno hpn hfix
    cases prs with
    | nil => simp [RepL] at hr
    | cons pr prs =>
    simp only [RepL] at hr
    obtain ⟨v1, e1, hn, hs, hi, hp, hb, hpn1, hno1⟩ := for3_body pair dupFirst dupLast pr v
    rw [hno, hr.1, Py.len_eq, ht.length] at hn hs
    rw [hpn] at hn
    obtain ⟨v', e', ht', hs', hfix'⟩ := ih prs hr.2.2 v1 _ (hn ▸ ht.chain p k.m) (hno1.trans hno) (hpn1.trans hpn)
      ⟨hi.trans hfix.1, hp.trans hfix.2.1, hb.trans hfix.2.2⟩
    have e : (out ++ chainRows p out.length k.m).length = out.length + k.m + 1 := by
      rw [List.length_append, chainRows_length]; rfl
    rw [e] at ht' hs'
    refine ⟨v', by simp only [forEach, e1]; exact e', by simpa [chains, List.append_assoc] using ht', ?_, hfix'⟩
    rw [hs', hs]
    simp [chains]

/-- the variables after `n_orig, pid_new = stack.pop()`, `children = n_orig.children()` and the call of `pair` -/
def afterPop (v : bt_assemble.V σ) (rest : List (Int × Int)) (h sid : Int) (cs : List Int) (s' : σ) : bt_assemble.V σ :=
  { v with stack := rest, n_orig := h, pid_new := sid, children := cs, cbs := s' }

/-- one iteration of the `while len(stack)` loop = one step of the model's machine -/
theorem while_step (i : Int) (m : Nat) (ks : List BT) (h : Int) (sid : Nat) (rest : List (Int × Int)) (v : bt_assemble.V σ)
    (out : List Int) (hrep : Rep pair dupFirst dupLast ids pids branches (.node i m ks) h)
    (hst : v.stack = rest ++ [(h, (sid : Int))]) (ht : Tab v.nodes out) (hfix : Fix ids pids branches v) :
    ∃ prs v1, RepL pair dupFirst dupLast ids pids branches ks h prs ∧
      bt_assemble.while4_cond pair dupFirst dupLast v = some true ∧
      bt_assemble.while4_body pair dupFirst dupLast v = .next v1 ∧
      Tab v1.nodes (out ++ (chains ks sid out.length).1) ∧
      v1.stack = rest ++ List.zip (prs.map (·.2)) ((chains ks sid out.length).2.map (fun (k : Nat) => (k : Int))) ∧
      Fix ids pids branches v1 := by
  simp only [Rep] at hrep
  obtain ⟨cs, key, prs, hch, hkey, hpair, hL⟩ := hrep
  have hbody : bt_assemble.while4_body pair dupFirst dupLast v =
      forEach (bt_assemble.for3 pair dupFirst dupLast) prs (afterPop v rest h sid cs (pair v.cbs (Py.Dict.getD branches key []) cs).1) := by
    simp only [bt_assemble.while4_body, Py.seq, Py.bind, hst, Py.pop_append, hfix.1, hfix.2.1, hfix.2.2, hch, hkey, hpair v.cbs, afterPop]
  obtain ⟨v', e, ht', hs', hfix'⟩ := for3_loop pair dupFirst dupLast ids pids branches h sid ks prs hL
    (afterPop v rest h sid cs (pair v.cbs (Py.Dict.getD branches key []) cs).1) out ht rfl rfl hfix
  refine ⟨prs, v', hL, ?_, hbody.trans e, ht', hs', hfix'⟩
  simp [bt_assemble.while4_cond, hst]; omega

-- **the generated loop is the model's structural recursion**: with `(h, sid)` on top of the stack, `t.size` iterations pop it,
-- append exactly the rows `sub t sid (length so far)` and leave the rest of the stack alone (any amount `f` of fuel may remain)
mutual
theorem gen_sub (t : BT) (h : Int) (sid : Nat) (rest : List (Int × Int)) (v : bt_assemble.V σ) (out : List Int) (f : Nat)
    (hrep : Rep pair dupFirst dupLast ids pids branches t h) (hst : v.stack = rest ++ [(h, (sid : Int))])
    (ht : Tab v.nodes out) (hfix : Fix ids pids branches v) :
    ∃ v', whileF (bt_assemble.while4_cond pair dupFirst dupLast) (bt_assemble.while4_body pair dupFirst dupLast) (t.size + f) v =
        whileF (bt_assemble.while4_cond pair dupFirst dupLast) (bt_assemble.while4_body pair dupFirst dupLast) f v' ∧
      v'.stack = rest ∧ Tab v'.nodes (out ++ sub t sid out.length) ∧ Fix ids pids branches v' := by
  match t with
  | .node i m ks =>
    obtain ⟨prs, v1, hL, hc, hb, ht1, hs1, hfix1⟩ := while_step pair dupFirst dupLast ids pids branches i m ks h sid rest v out hrep hst ht hfix
    have e1 : (BT.node i m ks).size + f = (Asm.sizeL ks + f) + 1 := by rw [BT.size]; omega
    rw [e1, whileF_next _ _ _ _ _ hc hb]
    obtain ⟨v', e, hs', ht', hfix'⟩ := gen_subRev ks h prs (chains ks sid out.length).2 (chains_length ks sid out.length) rest v1 _ f hL hs1 ht1 hfix1
    refine ⟨v', e, hs', ?_, hfix'⟩
    simpa only [sub, List.append_assoc, List.length_append] using ht'
theorem gen_subRev (ks : List BT) (h : Int) (prs : List (List Int × Int)) (cids : List Nat) (hl : cids.length = ks.length)
    (rest : List (Int × Int)) (v : bt_assemble.V σ) (out : List Int) (f : Nat)
    (hrep : RepL pair dupFirst dupLast ids pids branches ks h prs)
    (hst : v.stack = rest ++ List.zip (prs.map (·.2)) (cids.map (fun (k : Nat) => (k : Int))))
    (ht : Tab v.nodes out) (hfix : Fix ids pids branches v) :
    ∃ v', whileF (bt_assemble.while4_cond pair dupFirst dupLast) (bt_assemble.while4_body pair dupFirst dupLast) (Asm.sizeL ks + f) v =
        whileF (bt_assemble.while4_cond pair dupFirst dupLast) (bt_assemble.while4_body pair dupFirst dupLast) f v' ∧
      v'.stack = rest ∧ Tab v'.nodes (out ++ subRev ks cids out.length) ∧ Fix ids pids branches v' := by
  match ks, prs, cids, hl, hrep, hst with
  | [], [], _, _, _, hst => exact ⟨v, by simp [Asm.sizeL], by simpa using hst, by simpa [subRev] using ht, hfix⟩
  | [], _ :: _, _, _, hrep, _ => simp [RepL] at hrep
  | _ :: _, [], _, _, hrep, _ => simp [RepL] at hrep
  | k :: ks, _ :: _, [], hl, _, _ => simp at hl
  | k :: ks, pr :: prs, cid :: cids, hl, hrep, hst =>
    simp only [RepL] at hrep
    obtain ⟨_, hk, hL⟩ := hrep
    have e : Asm.sizeL (k :: ks) + f = Asm.sizeL ks + (k.size + f) := by rw [Asm.sizeL]; omega
    have hst1 : v.stack = (rest ++ [(pr.2, (cid : Int))]) ++ List.zip (prs.map (·.2)) (cids.map (fun (k : Nat) => (k : Int))) := by
      simpa using hst
    obtain ⟨v1, e1, hs1, ht1, hfix1⟩ := gen_subRev ks h prs cids (by simpa using hl) (rest ++ [(pr.2, (cid : Int))]) v out (k.size + f) hL hst1 ht hfix
    obtain ⟨v', e', hs', ht', hfix'⟩ := gen_sub k pr.2 cid rest v1 _ f hk hs1 ht1 hfix1
    refine ⟨v', by rw [e, e1, e'], hs', ?_, hfix'⟩
    simpa only [subRev, List.append_assoc, List.length_append] using ht'
end

/-- `[n.id for n in nodes]` -/
theorem for5_loop : ∀ (xs : List DNode) (v : bt_assemble.V σ),
    forEach (bt_assemble.for5 pair dupFirst dupLast) xs v =
      .next { v with c16_ := v.c16_ ++ xs.map (·.id), n := xs.getLast?.getD v.n } := fun xs v =>
  forEach_comp _ (fun l y => { v with c16_ := l, n := y }) _ (fun _ _ _ => rfl) xs _ _

/-- `[n.pid for n in nodes]` -/
theorem for6_loop : ∀ (xs : List DNode) (v : bt_assemble.V σ),
    forEach (bt_assemble.for6 pair dupFirst dupLast) xs v =
      .next { v with c18_ := v.c18_ ++ xs.map (·.pid), n := xs.getLast?.getD v.n } := fun xs v =>
  forEach_comp _ (fun l y => { v with c18_ := l, n := y }) _ (fun _ _ _ => rfl) xs _ _

/-- the variables when the `while` loop is entered -/
def init0 (s0 : σ) : bt_assemble.V σ :=
  { (default : bt_assemble.V σ) with ids := ids, pids := pids, branches := branches, cbs := s0, nodes := [⟨0, -1⟩], stack := [((0 : Int), (0 : Int))] }

/-- **refinement**: on every input that represents the rose tree `root` (at the handle 0 of the soma), for every initial state of the
`pair` callback and every fuel ≥ `root.size + 1`, the generated `BranchTreeAssembler.__call__` returns the ids `0 .. n-1` and the
parent list `-1 :: sub root 0 1` (= `Asm.assemble root`, `C16Asm.assemble_eq`) -/
theorem assemble_refines (root : BT) (s0 : σ) (fuel : Nat) (hf : root.size + 1 ≤ fuel)
    (hrep : Rep pair dupFirst dupLast ids pids branches root 0) :
    ∃ s', bt_assemble pair dupFirst dupLast fuel ids pids branches s0 =
      some (s', ((List.range (1 + (sub root 0 1).length)).map (fun (k : Nat) => (k : Int)), -1 :: sub root 0 1)) := by
  obtain ⟨f, rfl⟩ : ∃ f, fuel = root.size + (f + 1) := ⟨fuel - root.size - 1, by omega⟩
  obtain ⟨v', e, hs', ht', _⟩ := gen_sub pair dupFirst dupLast ids pids branches root 0 0 [] (init0 ids pids branches s0) [-1] (f + 1)
    hrep (by simp [init0]) (by simp [init0, Tab]) (by simp [init0, Fix])
  have hend := whileF_done (bt_assemble.while4_cond pair dupFirst dupLast) (bt_assemble.while4_body pair dupFirst dupLast) f v'
    (by simp [bt_assemble.while4_cond, hs'])
  refine ⟨v'.cbs, ?_⟩
  simp only [bt_assemble, bt_assemble.body, Py.seq_eq_bindS, node_detach_eq, Py.bind_some, Py.bindS_next]
  -- the two initial statements have run: the loop starts from `init0`, whatever follows it
  change (Py.finish default (Py.bindS (Py.whileF _ _ _ (init0 ids pids branches s0)) _)).map _ = _
  rw [e, hend]
  simp only [Py.bindS_next, for5_loop, for6_loop, Py.finish_ret, List.nil_append, Option.map_some]
  obtain ⟨h1, h2⟩ := ht'
  simp only [List.cons_append, List.nil_append, List.length_cons] at h1 h2
  rw [h1, h2]
  simp only [List.length_nil, Nat.zero_add, Nat.add_comm (sub root 0 1).length 1]

end
end RefineAsm
