import SwcVerif.Gen.AlgoVolFront
import SwcVerif.Refine.Volume
/-! Refinement for C14, the FRONT of the volume computation: the definitions GENERATED from
`swcgeom/analysis/volume.py::get_volume` (the accuracy-name table `ACCURACY_LEVELS`, the assertion `0 < accuracy <= 10`, the `match method:`
dispatch, the call of the generated `_get_volume_frustum_cone`) and `::_get_volume_frustum_cone_mc_only` (the scene built by its `leave` closure
over the generated `Tree.traverse`) are characterised for EVERY input: which exception is raised exactly when, which level is computed, and the
scene handed to the sampler = one sphere per node followed by the frusta to its children, nodes in traversal (post-)order. -/
namespace RefineVolFront
open Gen.Algo Trav Py Vol C14 RefineTravFront RefineVolume

section front
variable {K : Type} [Inhabited K] [Add K] [Sub K] [Mul K] [OfNat K 0] [OfNat K 1] [LT K] [DecidableLT K] [LE K] [DecidableLE K]
variable (volSphere : Int → K) (volFrustum : Int × Int → K) (volSF : Int → Int × Int → K) (volPairs : Int → List (Int × Int) → K) (mcScene : List Py.Shape → K)

def assertionError : Py.Exc := ⟨"AssertionError", "", []⟩
def keyError : Py.Exc := ⟨"KeyError", "", []⟩
def unsupportedMethod : Py.Exc := ⟨"ValueError", "Unsupported method: {method}", []⟩

/-- **`get_volume` with an integer accuracy, as translated, EVERY input**: `AssertionError` exactly when the accuracy is outside
`1 … 10` (checked first); otherwise `ValueError("Unsupported method: …")` exactly when `method` is not `"frustum_cone"`; otherwise whatever the
generated `_get_volume_frustum_cone` does on the same tree at that accuracy (same fuel) -/
theorem get_volume_int_eq (fuel : Nat) (ids pids : List Int) (method : String) (acc : Int) :
    get_volume_int volSphere volFrustum volSF volPairs mcScene fuel ids pids method acc
      = if ¬ (0 < acc ∧ acc ≤ 10) then some (.error assertionError)
        else if method ≠ "frustum_cone" then some (.error unsupportedMethod)
        else (get_volume_frustum_cone volSphere volFrustum volSF volPairs mcScene fuel ids pids acc).map .ok := by
  by_cases hv : 0 < acc ∧ acc ≤ 10
  · by_cases hm : method = "frustum_cone"
    · cases h : get_volume_frustum_cone volSphere volFrustum volSF volPairs mcScene fuel ids pids acc <;>
        simp [get_volume_int, get_volume_int.body, Py.seq, Py.skip, Py.finishX, Py.bind, hv, hm, h]
    · simp [get_volume_int, get_volume_int.body, Py.seq, Py.skip, Py.raise, Py.finishX, hv, hm, unsupportedMethod]
  · simp [get_volume_int, get_volume_int.body, Py.seq, Py.skip, Py.raise, Py.finishX, hv, assertionError]

theorem get_volume_int_valid (fuel : Nat) (ids pids : List Int) (acc : Int) (h1 : 0 < acc) (h10 : acc ≤ 10) :
    get_volume_int volSphere volFrustum volSF volPairs mcScene fuel ids pids "frustum_cone" acc
      = (get_volume_frustum_cone volSphere volFrustum volSF volPairs mcScene fuel ids pids acc).map .ok := by
  rw [get_volume_int_eq, if_neg (not_not.mpr ⟨h1, h10⟩), if_neg (not_not.mpr rfl)]

/-- **`get_volume` with a string accuracy, EVERY input**: `KeyError` exactly when the string is no key of `ACCURACY_LEVELS` (checked before
everything else); otherwise `get_volume` at the integer the table gives.  The table is written out here as it stands in the generated
definition: when the source's table changes, so does the generated one, and this statement no longer applies to it. -/
theorem get_volume_str_eq (fuel : Nat) (ids pids : List Int) (method : String) (acc : String) :
    get_volume_str volSphere volFrustum volSF volPairs mcScene fuel ids pids method acc
      = match Py.strLookup [("low", 3), ("middle", 5), ("high", 8)] acc with
        | none => some (.error keyError)
        | some a => get_volume_int volSphere volFrustum volSF volPairs mcScene fuel ids pids method a := by
  rw [get_volume_str]
  simp only [get_volume_str.body, Py.seq, Py.bindOrRaise]
  cases h : Py.strLookup [("low", 3), ("middle", 5), ("high", 8)] acc with
  | none => simp [Py.finishX, keyError]
  | some a =>
    -- the translator inlines validation and dispatch once more after the lookup: the three outcomes of `get_volume_int_eq` again
    simp only [get_volume_int_eq]
    by_cases hv : 0 < a ∧ a ≤ 10
    · by_cases hm : method = "frustum_cone"
      · cases h : get_volume_frustum_cone volSphere volFrustum volSF volPairs mcScene fuel ids pids a <;>
          simp [Py.finishX, Py.bind, hv, hm, h]
      · simp [Py.raise, Py.finishX, hv, hm, unsupportedMethod]
    · simp [Py.raise, Py.finishX, hv, assertionError]

/-- the three names and what they select; every other string is no key -/
theorem accuracy_names :
    Py.strLookup [("low", 3), ("middle", 5), ("high", 8)] "low" = some 3 ∧ Py.strLookup [("low", 3), ("middle", 5), ("high", 8)] "middle" = some 5
      ∧ Py.strLookup [("low", 3), ("middle", 5), ("high", 8)] "high" = some 8
      ∧ ∀ s : String, s ≠ "low" → s ≠ "middle" → s ≠ "high" → Py.strLookup [("low", 3), ("middle", 5), ("high", 8)] s = none := by
  refine ⟨by decide, by decide, by decide, ?_⟩
  intro s h1 h2 h3
  simp [Py.strLookup, Ne.symm h1, Ne.symm h2, Ne.symm h3]

end front

/-! ### the Monte-Carlo-only path: the scene -/

mutual
/-- the scene of a subtree: the scenes of the children's subtrees, LAST child first (the traversal's stack order), then the node's sphere and the
frusta to its children in table order -/
def sceneOf : Rose → List Py.Shape
  | .node i ks => sceneOfL ks ++ (Py.Shape.sphere i :: ks.map fun k => Py.Shape.frustum i k.id)
def sceneOfL : List Rose → List Py.Shape
  | [] => []
  | r :: rs => sceneOfL rs ++ sceneOf r
end

section mc
variable {K : Type} [Inhabited K] [Add K] [Sub K] [Mul K] [OfNat K 0] [OfNat K 1] [LT K] [DecidableLT K] [LE K] [DecidableLE K]
variable (mcScene : List Py.Shape → K)

theorem mc_for1_loop : ∀ (cs : List Py.Shape) (v : mc_leave.V K),
    forEach (mc_leave.for1 mcScene) cs v
      = .next { v with scene := v.scene ++ cs.map (fun c => Py.Shape.frustum v.n c.node), c := cs.getLast?.getD v.c,
                       fc := (cs.getLast?.map fun c => Py.Shape.frustum v.n c.node).getD v.fc } :=
  forEach_closed _ _ _ (fun _ _ => rfl) (fun v => by simp) (fun c cs v => by cases h : cs.getLast? <;> simp [List.getLast?_cons, h])

/-- **the `leave` closure of the Monte-Carlo path as translated**: it never raises, appends the node's sphere and then one frustum per child (in
the order of `children`) to the scene, and returns the sphere -/
theorem mc_leave_eq (scene : List Py.Shape) (n : Int) (cs : List Py.Shape) :
    mc_leave mcScene scene n cs
      = some (scene ++ (Py.Shape.sphere n :: cs.map fun c => Py.Shape.frustum n c.node), Py.Shape.sphere n) := by
  simp [mc_leave, mc_leave.body, Py.seq, mc_for1_loop, Py.finish]

/-- the closure as a total callback -/
def mcLeaveTotal : List Py.Shape → Int → List Py.Shape → List Py.Shape × Py.Shape :=
  fun st n cs => (st ++ (Py.Shape.sphere n :: cs.map fun c => Py.Shape.frustum n c.node), Py.Shape.sphere n)

mutual
theorem spec_scene : ∀ (r : Rose) (pv : Option Unit) (st : List Py.Shape),
    spec Py.absent2 mcLeaveTotal r pv st = (st ++ sceneOf r, Py.Shape.sphere r.id)
  | .node i ks, pv, st => by
    simp only [spec, Py.absent2, mcLeaveTotal, sceneOf, Rose.id]
    rw [specRev_scene ks () st]
    simp [List.map_map, Function.comp_def, Py.Shape.node, List.append_assoc]
    intro a _
    cases a
    rfl
theorem specRev_scene : ∀ (ks : List Rose) (cur : Unit) (st : List Py.Shape),
    specRev Py.absent2 mcLeaveTotal ks cur st = (st ++ sceneOfL ks, ks.map fun k => Py.Shape.sphere k.id)
  | [], _, st => by simp [specRev, sceneOfL]
  | r :: rs, cur, st => by
    simp only [specRev, sceneOfL]
    rw [specRev_scene rs cur st, spec_scene r (some cur) (st ++ sceneOfL rs)]
    simp [List.append_assoc]
end

/-- the traversal with the wrapped closure: the scene grows by `sceneOf r` -/
theorem spec_mc_leave (r : Rose) (st : List Py.Shape) :
    spec Py.absent2 (Py.wrap2 (mc_leave mcScene)) r none (some st) = (some (st ++ sceneOf r), Py.Shape.sphere r.id) := by
  rw [absent2_eq_wrapE, wrap2_eq_wrapL, RefineClosures.spec_wrap _ _ Py.absent2 mcLeaveTotal (fun _ _ _ => rfl)
    (fun st n ks => by rw [mc_leave_eq]; rfl), spec_scene]

/-- **`_get_volume_frustum_cone_mc_only` as translated**: on every tree (a table whose subtree at node 0 is `r`, all of whose nodes are
rows) the call returns — never raises, never runs out of fuel — the Monte-Carlo estimate `mcScene` of exactly the scene `sceneOf r`: one sphere
per node and one frustum per parent-child pair, in traversal order -/
theorem mc_only_refines (ids pids : List Int) (r : Rose) (hR : Represents r ids pids) (h0 : r.id = 0) (hok : Rows r ids) (F : Nat) :
    get_volume_mc_only mcScene (2 * r.size + F + 1) ids pids = some (mcScene (sceneOf r)) := by
  have hlen : ids ≠ [] := by
    have := hok r.id (by cases r; simp [Rose.ids, Rose.id])
    intro h
    simp [h] at this
    omega
  simp [get_volume_mc_only, get_volume_mc_only.body, Py.seq, Py.skip, Py.bind, Py.len, hlen,
    tree_traverse_l_refines _ ids pids r hR h0 hok _ F, spec_mc_leave, Py.unwrapCb, Py.finish]

/-- the empty table: the early `return 0`, whatever the fuel -/
theorem mc_only_empty (pids : List Int) (fuel : Nat) : get_volume_mc_only mcScene fuel [] pids = some (0 : K) := by
  simp [get_volume_mc_only, get_volume_mc_only.body, Py.seq, Py.len, Py.finish]

end mc

/-- non-vacuity: the scene of the tree of `C04.lean` (root 0 with the children 2, 3; node 3 with 1, 4), kernel-evaluated through the generated
function at `K = Nat`-like `Int` with `mcScene` = an injective code of the scene -/
example : get_volume_mc_only (K := Int) (fun l => l.foldl (fun a s => match s with
      | .sphere n => 100 * a + 10 + n | .frustum x y => 100 * a + 50 + 7 * x + y) 0) 11 [0, 1, 2, 3, 4] [-1, 3, 0, 0, 3]
    = some ((sceneOf (.node 0 [.node 2 [], .node 3 [.node 1 [], .node 4 []]])).foldl (fun a s => match s with
      | .sphere n => 100 * a + 10 + n | .frustum x y => 100 * a + 50 + 7 * x + y) 0) := by
  decide +kernel

/-! ### the dispatch layer of `utils/volumetric_object.py` -/
section objects

/-- the class hierarchy of `utils/volumetric_object.py`, copied from the generated `isinstance` tests (the translator writes it into every
one of them; when a `class` statement of the file changes, the generated tests change and the theorems below no longer apply) -/
local notation "HIER" => ([("VolObject", ["ABC"]), ("VolMCObject", ["VolObject", "ABC"]), ("VolSDFObject", ["VolMCObject"]), ("VolSDFIntersection", ["VolSDFObject", "ABC", "Generic"]), ("VolSDFUnion", ["VolSDFObject", "ABC", "Generic"]), ("VolSDFDifference", ["VolSDFObject", "ABC", "Generic"]), ("VolSphere", ["VolSDFObject"]), ("VolFrustumCone", ["VolSDFObject"]), ("VolSphere2Intersection", ["VolSDFIntersection"]), ("VolSphere2Union", ["VolSDFUnion"]), ("VolSphereFrustumConeIntersection", ["VolSDFIntersection"]), ("VolSphereFrustumConeUnion", ["VolSDFUnion"])] : List (String × List String))

def compositeClasses : List String :=
  ["VolSDFUnion", "VolSDFIntersection", "VolSDFDifference", "VolSphere2Union", "VolSphere2Intersection",
   "VolSphereFrustumConeUnion", "VolSphereFrustumConeIntersection"]

/-- the classes whose instances are the terms `Py.VObj` -/
def objClasses : List String := "VolSphere" :: "VolFrustumCone" :: compositeClasses

/-- what the generated `isinstance` tests answer on the known classes: only a sphere is a `VolSphere`, only a frustum a `VolFrustumCone`, every
object is a `VolSDFObject` -/
theorem class_facts : ∀ c ∈ objClasses,
    Py.subclassF HIER (HIER).length c "VolSphere" = (c == "VolSphere") ∧ Py.subclassF HIER (HIER).length c "VolFrustumCone" = (c == "VolFrustumCone")
      ∧ Py.subclassF HIER (HIER).length c "VolSDFObject" = true := by
  decide +kernel

theorem composite_ne : ∀ c ∈ compositeClasses, c ≠ "VolSphere" ∧ c ≠ "VolFrustumCone" := by
  decide +kernel

/-- an object of the library: a sphere, a frustum, or a composite whose class is one of the composite classes of the file -/
def Known : Py.VObj → Prop
  | .node c _ _ => c ∈ compositeClasses
  | _ => True

theorem known_cls : ∀ x : Py.VObj, Known x → x.cls ∈ objClasses
  | .sphere _, _ => List.mem_cons_self
  | .frustum _ _, _ => List.mem_cons_of_mem _ List.mem_cons_self
  | .node _ _ _, h => List.mem_cons_of_mem _ (List.mem_cons_of_mem _ h)

theorem isA_known (x : Py.VObj) (hk : Known x) :
    Py.VObj.isA HIER x "VolSphere" = (match x with | .sphere _ => true | _ => false)
      ∧ Py.VObj.isA HIER x "VolFrustumCone" = (match x with | .frustum _ _ => true | _ => false)
      ∧ Py.VObj.isA HIER x "VolSDFObject" = true := by
  obtain ⟨h1, h2, h3⟩ := class_facts x.cls (known_cls x hk)
  refine ⟨h1.trans ?_, h2.trans ?_, h3⟩
  all_goals
    cases x with
    | node c a b => simp [Py.VObj.cls, composite_ne c hk]
    | _ => rfl

def notImplemented : Py.Exc := ⟨"NotImplementedError", "", []⟩

/-- `VolSDFObject.union / intersect / subtract` (inherited by every composite): the generic SDF composite of the two operands, in this order -/
theorem sdf_ops_eq (self obj : Py.VObj) (hx : Known obj) :
    sdf_union self obj = some (.ok (.node "VolSDFUnion" self obj)) ∧ sdf_intersect self obj = some (.ok (.node "VolSDFIntersection" self obj))
      ∧ sdf_subtract self obj = some (.ok (.node "VolSDFDifference" self obj)) := by
  obtain ⟨-, -, h3⟩ := isA_known obj hx
  simp [sdf_union, sdf_union.body, sdf_intersect, sdf_intersect.body, sdf_subtract, sdf_subtract.body, Py.seq, Py.finishX, h3]

/-- an object that is no `VolSDFObject` (no class of the file): `NotImplementedError` -/
theorem sdf_union_foreign (self obj : Py.VObj) (hx : Py.VObj.isA HIER obj "VolSDFObject" = false) :
    sdf_union self obj = some (.error notImplemented) := by
  simp [sdf_union, sdf_union.body, Py.seq, Py.skip, Py.raise, Py.finishX, hx, notImplemented]

/-- **`VolSphere.union`**: with a sphere the two-sphere union, with a frustum the sphere-frustum union (sphere first), with anything else the
generic SDF union; never an exception on the library's own objects -/
theorem sphere_union_eq (self obj : Py.VObj) (hx : Known obj) :
    sphere_union self obj = some (.ok (match obj with
      | .sphere _ => .node "VolSphere2Union" self obj
      | .frustum _ _ => .node "VolSphereFrustumConeUnion" self obj
      | .node _ _ _ => .node "VolSDFUnion" self obj)) := by
  obtain ⟨h1, h2, -⟩ := isA_known obj hx
  have h3 := (sdf_ops_eq self obj hx).1
  cases obj <;> simp [sphere_union, sphere_union.body, Py.seq, Py.skip, Py.finishX, Py.bindX, h1, h2, h3]

/-- **`VolSphere.intersect`** -/
theorem sphere_intersect_eq (self obj : Py.VObj) (hx : Known obj) :
    sphere_intersect self obj = some (.ok (match obj with
      | .sphere _ => .node "VolSphere2Intersection" self obj
      | .frustum _ _ => .node "VolSphereFrustumConeIntersection" self obj
      | .node _ _ _ => .node "VolSDFIntersection" self obj)) := by
  obtain ⟨h1, h2, -⟩ := isA_known obj hx
  have h3 := (sdf_ops_eq self obj hx).2.1
  cases obj <;> simp [sphere_intersect, sphere_intersect.body, Py.seq, Py.skip, Py.finishX, Py.bindX, h1, h2, h3]

/-- **`VolFrustumCone.union / intersect`**: with a sphere the sphere-frustum union WITH THE SPHERE FIRST; otherwise the generic SDF union; the
intersection is always the generic SDF intersection (no closed form is selected from the frustum's side) -/
theorem frustum_ops_eq (self obj : Py.VObj) (hx : Known obj) :
    frustum_union self obj = some (.ok (match obj with
      | .sphere _ => .node "VolSphereFrustumConeUnion" obj self
      | _ => .node "VolSDFUnion" self obj))
    ∧ frustum_intersect self obj = some (.ok (.node "VolSDFIntersection" self obj)) := by
  obtain ⟨h1, -, -⟩ := isA_known obj hx
  obtain ⟨h3, h4, -⟩ := sdf_ops_eq self obj hx
  refine ⟨?_, by simp [frustum_intersect, frustum_intersect.body, Py.finishX, Py.bindX, h4]⟩
  cases obj <;> simp [frustum_union, frustum_union.body, Py.seq, Py.skip, Py.finishX, Py.bindX, h1, h3]

variable {K : Type} [Inhabited K] [Add K] [Sub K] [Mul K] [OfNat K 0] [OfNat K 1] [LT K] [DecidableLT K] [LE K] [DecidableLE K]
variable (getVolume : Py.VObj → K) (concentric lens : Py.VObj → Py.VObj → K) (mcVolume : Py.VObj → K) (sameC1 sameR1 sameC2 sameR2 : Py.VObj → Py.VObj → Bool)

/-- **inclusion–exclusion at the union nodes**: `V(obj1) + V(obj2) − V(obj1 ∩ obj2)`, the intersection by the closed form of the class -/
theorem union_get_volume_eq (c : String) (a b : Py.VObj) :
    sfu_get_volume getVolume concentric lens mcVolume sameC1 sameR1 sameC2 sameR2 (.node c a b) = some (getVolume a + getVolume b - concentric a b)
    ∧ s2u_get_volume getVolume concentric lens mcVolume sameC1 sameR1 sameC2 sameR2 (.node c a b) = some (getVolume a + getVolume b - lens a b) := by
  simp [sfu_get_volume, sfu_get_volume.body, s2u_get_volume, s2u_get_volume.body, Py.bind, Py.VObj.obj1, Py.VObj.obj2, Py.finish]

/-- **sphere ∩ frustum**: the closed form exactly when the sphere coincides (centre AND radius, `np.allclose`) with the first or with the second
end of the frustum; the Monte-Carlo estimate of the object otherwise -/
theorem sfi_get_volume_eq (c : String) (a b : Py.VObj) :
    sfi_get_volume getVolume concentric lens mcVolume sameC1 sameR1 sameC2 sameR2 (.node c a b)
      = some (if (sameC1 a b && sameR1 a b) || (sameC2 a b && sameR2 a b) then concentric a b else mcVolume (.node c a b)) := by
  cases h1 : sameC1 a b <;> cases h2 : sameR1 a b <;> cases h3 : sameC2 a b <;> cases h4 : sameR2 a b <;>
    simp [sfi_get_volume, sfi_get_volume.body, Py.seq, Py.skip, Py.bind, Py.VObj.obj1, Py.VObj.obj2, Py.finish, h1, h2, h3, h4]

/-- **the cache of `VolObject.get_volume`** (no keyword arguments): a cached value is returned without computing; otherwise the computed value is
returned and stored -/
theorem obj_get_volume_eq (compute : K) (vol : Option K) :
    obj_get_volume compute vol = some (some (vol.getD compute), vol.getD compute) := by
  cases vol <;> simp [obj_get_volume, obj_get_volume.body, Py.seq, Py.skip, Py.bind, Py.finish]

/-- **what `leave` requests**: `sphere.intersect(fc).get_volume()` for a sphere and a frustum one of whose ends IS that sphere (the `np.allclose`
tests of that end succeed) — the object built is the sphere-frustum intersection and its volume is the closed form; Monte Carlo is not used -/
theorem leave_intersection_closed_form (n a b : Int)
    (hend : ((sameC1 (.sphere n) (.frustum a b) && sameR1 (.sphere n) (.frustum a b)) || (sameC2 (.sphere n) (.frustum a b) && sameR2 (.sphere n) (.frustum a b))) = true) :
    ∃ o, sphere_intersect (.sphere n) (.frustum a b) = some (.ok o)
      ∧ sfi_get_volume getVolume concentric lens mcVolume sameC1 sameR1 sameC2 sameR2 o = some (concentric (.sphere n) (.frustum a b)) := by
  refine ⟨_, sphere_intersect_eq (.sphere n) (.frustum a b) trivial, ?_⟩
  simp only [sfi_get_volume_eq]
  simp [hend]

end objects

/-- non-vacuity of the dispatch theorems: kernel-evaluated calls of the generated methods -/
example : [sphere_union (.sphere 1) (.sphere 2), sphere_union (.sphere 1) (.frustum 1 2), frustum_union (.frustum 1 2) (.sphere 2),
           frustum_intersect (.frustum 1 2) (.sphere 1), sphere_intersect (.sphere 1) (.node "VolSphere2Union" (.sphere 1) (.sphere 2)),
           sdf_union (.sphere 1) (.node "Foreign" (.sphere 1) (.sphere 2))]
    = [some (.ok (.node "VolSphere2Union" (.sphere 1) (.sphere 2))), some (.ok (.node "VolSphereFrustumConeUnion" (.sphere 1) (.frustum 1 2))),
       some (.ok (.node "VolSphereFrustumConeUnion" (.sphere 2) (.frustum 1 2))), some (.ok (.node "VolSDFIntersection" (.frustum 1 2) (.sphere 1))),
       some (.ok (.node "VolSDFIntersection" (.sphere 1) (.node "VolSphere2Union" (.sphere 1) (.sphere 2)))), some (.error notImplemented)] := by
  decide +kernel

end RefineVolFront
