import SwcVerif.Gen.AlgoShortTip
import SwcVerif.Refine.Cut
import SwcVerif.Refine.Node
import SwcVerif.Refine.Subtree
/-! Refinement for C06: the definitions GENERATED from `swcgeom/transforms/tree.py::CutShortTipBranch._leave` and
`__call__` (with the recording `lambda` it puts on the callback list) equal the model `Sub.cutShortTip` on every tree table, for every
threshold and every list of (total, stateful) user callbacks; the user callbacks are called once per removed branch, in traversal order,
with the branch `[furcation, child, …, tip]`.

The section `columns` at the end: `to_subtree_impl`, `get_subtree`, `to_subtree` and the deprecated `to_sub_tree` on ALL columns of a tree
object factor through their topology-level translations and so equal the models.  There `-2` is the value the generated code has for
`REMOVAL` (`RefineSub.removal_eq`). -/
namespace RefineShortTip
open Gen.Algo Sub Py Trav C06

/-- the path the `while` loop of `_leave` walks from a node: the node, its FIRST child, and so on down to a tip -/
def firstPath : Rose → List Int
  | .node a [] => [a]
  | .node a (k :: _) => a :: firstPath k

section walk
variable {S : Type} [Inhabited S] (cbsL : List (S → List Int → Option S)) (dist : Int → Int → Int)

/-- `cc[0] if len(cc) > 0 else None` -/
theorem head_ite (cc : List Int) :
    (if decide (Py.len cc > 0) then (Py.idx cc 0).bind fun t => some (some t) else some none) = some cc.head? := by
  rw [idx_head]
  cases cc with
  | nil => rfl
  | cons c cs => simp

theorem walk_body (v : tip_leave.V S Int) (a : Int) (kids : List Int) (hc : v.child = some a) (hia : Py.idx v.ids a = some a)
    (hk : node_children v.ids v.pids a = some kids) :
    tip_leave.while1_body cbsL dist v = .next { v with path := v.path ++ [a], cc := kids, child := kids.head? } := by
  simp only [tip_leave.while1_body, seq_eq_bindS, hc, hia, hk, head_ite, Py.bind, bindS_next]

/-- the `while` loop of `_leave` started at a node `k` of the table walks `firstPath k` and stops at its tip -/
theorem while_walk (N : Nat) (pids : List Int) : ∀ (fuel : Nat) (k : Rose) (v : tip_leave.V S Int),
    Agrees (tableKids (rangeI N) pids) k → (∀ j ∈ k.ids, 0 ≤ j ∧ j < (N : Int)) → k.size < fuel →
    v.ids = rangeI N → v.pids = pids → v.child = some k.id →
    whileF (tip_leave.while1_cond cbsL dist) (tip_leave.while1_body cbsL dist) fuel v
      = .next { v with path := v.path ++ firstPath k, child := none, cc := [] }
  | 0, k, v, _, _, hs, _, _, _ => by omega
  | fuel + 1, .node a ks, v, hA, hin, hs, hi, hp, hc => by
    have ha := hin a List.mem_cons_self
    have hb := walk_body cbsL dist v a (ks.map Rose.id) hc (by rw [hi]; exact RefineNode.idx_rangeI N a ha.1 ha.2)
      (by rw [hi, hp, RefineNode.node_children_spec N pids a ha.1 ha.2, hA.1])
    rw [whileF_next _ _ fuel v _ (by simp [tip_leave.while1_cond, hc]) hb]
    cases ks with
    | nil =>
      cases fuel with
      | zero => simp [Rose.size, sizeL] at hs
      | succ f => exact whileF_done _ _ f _ rfl
    | cons k' rest =>
      refine (while_walk N pids fuel k' { v with path := v.path ++ [a], cc := (k' :: rest).map Rose.id, child := some k'.id }
        hA.2.1 (fun j hj => hin j (List.mem_cons_of_mem _ (List.mem_append_left _ hj)))
        (by simp only [Rose.size, sizeL] at hs; omega) hi hp rfl).trans ?_
      simp only [firstPath, List.append_assoc, List.singleton_append]
end walk

/-- the value `_leave` returns for a subtree: `(length of the unbranched chain below it, its id)` or `None` -/
def val (elen : Int → Int) (k : Rose) : Option (Int × Int) := (chainLen? elen k).map (·, k.id)

/-- the branch `_leave` at node `i` reports for its child `k`: `[i, k, first child of k, …, tip]` when the chain below `k` is unbranched
and, measured from `i`, not longer than the threshold -/
def brOf (elen : Int → Int) (thre : Int) (i : Int) (k : Rose) : Option (List Int) :=
  match chainLen? elen k with
  | some L => if L + elen k.id > thre then none else some (i :: firstPath k)
  | none => none

theorem firstPath_head : ∀ k : Rose, ∃ rest, firstPath k = k.id :: rest
  | .node a [] => ⟨[], rfl⟩
  | .node a (k :: _) => ⟨firstPath k, rfl⟩

-- the branches reported in the whole subtree, in the order the traversal leaves the nodes (mirrors `C06.tipRemoved`)
mutual
def tipBranches (elen : Int → Int) (thre : Int) : Rose → List (List Int)
  | .node i ks => tipBranchesRev elen thre ks ++ (if ks.length ≥ 2 then ks.filterMap (brOf elen thre i) else [])
def tipBranchesRev (elen : Int → Int) (thre : Int) : List Rose → List (List Int)
  | [] => []
  | r :: rs => tipBranchesRev elen thre rs ++ tipBranches elen thre r
end

section leave
variable {S : Type} [Inhabited S] (cbsL : List (S → List Int → Option S)) (eff : S → List Int → S) (Pst : S → Prop)
  (N : Nat) (pids : List Int) (elen : Int → Int) (thre : Int)

/-- what the per-node lemmas need to know about the callback list: on a branch whose second node is a row of the table every callable
succeeds and together they compute `eff`, preserving the state invariant -/
def CbOk : Prop := ∀ (s : S) (a x : Int) (rest : List Int), Pst s → 0 ≤ x → x < (N : Int) →
  callAll cbsL s (a :: x :: rest) = some (eff s (a :: x :: rest)) ∧ Pst (eff s (a :: x :: rest))

/-- the variables of `_leave` that its loops only read -/
def Frame (i : Int) (v : tip_leave.V S Int) : Prop := v.ids = rangeI N ∧ v.pids = pids ∧ v.n = i ∧ v.thre = thre

theorem for2_step (hcb : CbOk cbsL eff Pst N) (i : Int) (hi : 0 ≤ i ∧ i < (N : Int)) (G : Nat) (k : Rose) (v : tip_leave.V S Int)
    (hA : Agrees (tableKids (rangeI N) pids) k) (hin : ∀ j ∈ k.ids, 0 ≤ j ∧ j < (N : Int)) (hs : k.size < G)
    (hF : Frame N pids thre i v) (hP : Pst v.cbs) :
    ∃ v', (tip_leave.for2 cbsL (fun _ c => elen c) G (val elen k) v = .next v' ∨
           tip_leave.for2 cbsL (fun _ c => elen c) G (val elen k) v = .cont v') ∧
      Frame N pids thre i v' ∧ v'.cbs = (brOf elen thre i k).elim v.cbs (eff v.cbs) ∧ Pst v'.cbs := by
  cases hcl : chainLen? elen k with
  | none =>
    refine ⟨{ v with c := none }, Or.inr ?_, hF, by simp [brOf, hcl], hP⟩
    simp only [val, hcl]
    rfl
  | some L =>
    by_cases hgt : L + elen k.id > thre
    · refine ⟨{ v with c := some (L, k.id), dis := L, child := some k.id }, Or.inr ?_, hF, by simp [brOf, hcl, hgt], hP⟩
      simp [tip_leave.for2, val, hcl, Py.seq, Py.bind, Py.skip, hgt, hF.2.2.2]
    · have hidx : Py.idx v.ids v.n = some i := by rw [hF.1, hF.2.2.1]; exact RefineNode.idx_rangeI N i hi.1 hi.2
      have hgt' : ¬ L + elen k.id > v.thre := hF.2.2.2 ▸ hgt
      have e := while_walk cbsL (fun _ c => elen c) N pids G k
        { v with c := some (L, k.id), dis := L, child := some k.id, path := [i] } hA hin hs hF.1 hF.2.1 rfl
      simp only [List.singleton_append] at e
      obtain ⟨rest, hr⟩ := firstPath_head k
      have hk := hin k.id (ids_head k)
      obtain ⟨c1, c2⟩ := hcb v.cbs i k.id rest hP hk.1 hk.2
      rw [← hr] at c1 c2
      refine ⟨{ v with c := some (L, k.id), dis := L, child := none, path := i :: firstPath k, cc := [], br := i :: firstPath k,
                       cbs := eff v.cbs (i :: firstPath k) }, Or.inl ?_, hF, by simp [brOf, hcl, hgt], c2⟩
      simp only [tip_leave.for2, val, hcl, seq_eq_bindS, Py.bind, Py.skip, Option.map_some, Option.isNone_some, Bool.false_eq_true,
        if_false, hgt', decide_false, hidx, bindS_next, e, c1]

theorem sizeL_mem : ∀ (ks : List Rose) (k : Rose), k ∈ ks → k.size ≤ sizeL ks
  | [], _, h => by simp at h
  | r :: rs, k, h => by
    simp only [sizeL]
    rcases List.mem_cons.1 h with rfl | h'
    · omega
    · have := sizeL_mem rs k h'; omega

theorem for2_loop (hcb : CbOk cbsL eff Pst N) (i : Int) (hi : 0 ≤ i ∧ i < (N : Int)) (G : Nat) : ∀ (ks : List Rose) (v : tip_leave.V S Int),
    AgreesL (tableKids (rangeI N) pids) ks → (∀ j ∈ idsL ks, 0 ≤ j ∧ j < (N : Int)) → sizeL ks < G →
    v.ids = rangeI N → v.pids = pids → v.n = i → v.thre = thre → Pst v.cbs →
    ∃ v', forEach (tip_leave.for2 cbsL (fun _ c => elen c) G) (ks.map (val elen)) v = .next v' ∧
      v'.cbs = (ks.filterMap (brOf elen thre i)).foldl eff v.cbs ∧ Pst v'.cbs
  | [], v, _, _, _, _, _, _, _, hP => ⟨v, by simp [forEach], by simp, hP⟩
  | k :: ks, v, hA, hin, hs, h1, h2, h3, h4, hP => by
    simp only [sizeL] at hs
    obtain ⟨v1, hor, ⟨f1, f2, f3, f4⟩, fc, fp⟩ := for2_step cbsL eff Pst N pids elen thre hcb i hi G k v hA.1
      (fun j hj => hin j (List.mem_append_left _ hj)) (by omega) ⟨h1, h2, h3, h4⟩ hP
    obtain ⟨v', e, hc, hp⟩ := for2_loop hcb i hi G ks v1 hA.2 (fun j hj => hin j (List.mem_append_right _ hj)) (by omega) f1 f2 f3 f4 fp
    refine ⟨v', ?_, ?_, hp⟩
    · rcases hor with h | h <;> simp only [List.map_cons, forEach, h, e]
    · rw [hc, fc]
      cases hb : brOf elen thre i k <;> simp [List.filterMap_cons, hb]

theorem tipLeave_many (G : Nat) (ids : List Int) (i : Int) (s : S) (c1 c2 : Option (Int × Int)) (cs : List (Option (Int × Int))) :
    tip_leave cbsL (fun _ c => elen c) G ids pids thre i (c1 :: c2 :: cs) s =
      (Py.finish default (Py.bindS (forEach (tip_leave.for2 cbsL (fun _ c => elen c) G) (c1 :: c2 :: cs)
        { (default : tip_leave.V S Int) with ids := ids, pids := pids, thre := thre, n := i, children := c1 :: c2 :: cs, cbs := s })
        fun v => .ret v none)).map fun r => (r.1.cbs, r.2) :=
  rfl

/-- **`_leave` at one node of the tree**: with the values of the children's subtrees, the generated `_leave` returns the value of the
node's subtree, and calls the callback list once for every short terminal chain hanging from the node (when it has ≥ 2 children) -/
theorem tipLeave_node (hcb : CbOk cbsL eff Pst N) (i : Int) (G : Nat) (ks : List Rose) (s : S)
    (hA : Agrees (tableKids (rangeI N) pids) (.node i ks)) (hin : ∀ j ∈ (Rose.node i ks).ids, 0 ≤ j ∧ j < (N : Int))
    (hs : (Rose.node i ks).size ≤ G) (hP : Pst s) :
    tip_leave cbsL (fun _ c => elen c) G (rangeI N) pids thre i (ks.map (val elen)) s
      = some ((if ks.length ≥ 2 then ks.filterMap (brOf elen thre i) else []).foldl eff s, val elen (.node i ks)) ∧
    Pst ((if ks.length ≥ 2 then ks.filterMap (brOf elen thre i) else []).foldl eff s) := by
  match ks, hA, hin, hs with
  | [], _, _, _ => exact ⟨rfl, hP⟩
  | [k], _, _, _ =>
    -- one child: the chain is passed up, or (the child's value is `None`) the loop runs on `[None]` and does nothing
    refine ⟨?_, hP⟩
    simp only [List.map_cons, List.map_nil, val, chainLen?]
    cases chainLen? elen k <;> rfl
  | k1 :: k2 :: rest, hA, hin, hs =>
    simp only [Rose.size] at hs
    obtain ⟨v', e, hc, hp⟩ := for2_loop cbsL eff Pst N pids elen thre hcb i (hin i List.mem_cons_self) G (k1 :: k2 :: rest)
      { (default : tip_leave.V S Int) with ids := rangeI N, pids := pids, thre := thre, n := i, cbs := s,
                                           children := (k1 :: k2 :: rest).map (val elen) }
      hA.2 (fun j hj => hin j (List.mem_cons_of_mem _ hj)) (by omega) rfl rfl rfl rfl hP
    simp only [List.map_cons] at e hc
    refine ⟨?_, hc ▸ hp⟩
    rw [List.map_cons, List.map_cons, tipLeave_many, e]
    exact congrArg (fun c => some (c, none)) hc
/-- the closure the generated `__call__` hands to the traversal -/
def leaveFn (G : Nat) : S → Int → List (Option (Int × Int)) → Option (S × Option (Int × Int)) :=
  fun s n ch => tip_leave cbsL (fun _ c => elen c) G (rangeI N) pids thre n ch s

mutual
theorem spec_tipLeave (hcb : CbOk cbsL eff Pst N) (G : Nat) : ∀ (r : Rose) (pv : Option Unit) (s : S),
    Agrees (tableKids (rangeI N) pids) r → (∀ j ∈ r.ids, 0 ≤ j ∧ j < (N : Int)) → r.size ≤ G → Pst s →
    spec (wrapE Py.noEnter) (wrapL (leaveFn cbsL N pids elen thre G)) r pv (some s)
      = (some ((tipBranches elen thre r).foldl eff s), val elen r) ∧ Pst ((tipBranches elen thre r).foldl eff s)
  | .node i ks, pv, s, hA, hin, hs, hP => by
    obtain ⟨e1, p1⟩ := specRev_tipLeave hcb G ks () s hA.2 (fun j hj => hin j (List.mem_cons_of_mem _ hj))
      (by simp only [Rose.size] at hs; omega) hP
    obtain ⟨e2, p2⟩ := tipLeave_node cbsL eff Pst N pids elen thre hcb i G ks _ hA hin hs p1
    rw [tipBranches, List.foldl_append]
    exact ⟨by simp only [spec, wrapE, Py.noEnter, e1, wrapL, leaveFn, e2], p2⟩
theorem specRev_tipLeave (hcb : CbOk cbsL eff Pst N) (G : Nat) : ∀ (ks : List Rose) (cur : Unit) (s : S),
    AgreesL (tableKids (rangeI N) pids) ks → (∀ j ∈ idsL ks, 0 ≤ j ∧ j < (N : Int)) → sizeL ks ≤ G → Pst s →
    specRev (wrapE Py.noEnter) (wrapL (leaveFn cbsL N pids elen thre G)) ks cur (some s)
      = (some ((tipBranchesRev elen thre ks).foldl eff s), ks.map (val elen)) ∧ Pst ((tipBranchesRev elen thre ks).foldl eff s)
  | [], _, s, _, _, _, hP => by simp [specRev, tipBranchesRev, hP]
  | r :: rs, cur, s, hA, hin, hs, hP => by
    simp only [sizeL] at hs
    obtain ⟨e1, p1⟩ := specRev_tipLeave hcb G rs cur s hA.2 (fun j hj => hin j (List.mem_append_right _ hj)) (by omega) hP
    obtain ⟨e2, p2⟩ := spec_tipLeave hcb G r (some cur) _ hA.1 (fun j hj => hin j (List.mem_append_left _ hj)) (by omega) p1
    rw [tipBranchesRev, List.foldl_append]
    exact ⟨by simp only [specRev, e1, e2, List.map_cons], p2⟩
end
end leave

/-! ## the callback list of `__call__`: the user's callbacks, then the recording `lambda` -/
section top
variable {σ : Type} [Inhabited σ]

/-- total user callbacks as callables that never raise -/
def tot (ucbs : List (σ → List Int → σ)) : List (σ → List Int → Option σ) := ucbs.map fun cb s br => some (cb s br)
/-- `for cb in callbacks: cb(br)` on the user's callbacks -/
def callUser (ucbs : List (σ → List Int → σ)) (c : σ) (br : List Int) : σ := ucbs.foldl (fun c cb => cb c br) c
/-- effect of one reported branch on (user state, (removals, id column)) -/
def effTop (ucbs : List (σ → List Int → σ)) : σ × (List Int × List Int) → List Int → σ × (List Int × List Int) :=
  fun s br => (callUser ucbs s.1 br, (s.2.1 ++ [br.getD 1 0], s.2.2))

theorem callAll_append {S A : Type} : ∀ (l1 l2 : List (S → A → Option S)) (s : S) (a : A),
    callAll (l1 ++ l2) s a = (callAll l1 s a).bind fun s' => callAll l2 s' a
  | [], l2, s, a => by simp [callAll]
  | cb :: l1, l2, s, a => by
    simp only [List.cons_append, callAll]
    cases cb s a with
    | none => simp
    | some s' => simpa using callAll_append l1 l2 s' a

theorem callAll_tot : ∀ (ucbs : List (σ → List Int → σ)) (s : σ) (br : List Int), callAll (tot ucbs) s br = some (callUser ucbs s br)
  | [], _, _ => rfl
  | cb :: ucbs, s, br => callAll_tot ucbs (cb s br) br

theorem callAll_liftCbs {σ C A : Type} : ∀ (cbs : List (σ → A → Option σ)) (s : σ × C) (a : A),
    callAll (liftCbs cbs) s a = (callAll cbs s.1 a).map (·, s.2)
  | [], _, _ => rfl
  | cb :: cbs, s, a => by
    simp only [liftCbs, List.map_cons, callAll]
    cases cb s.1 a with
    | none => rfl
    | some s' => exact callAll_liftCbs cbs (s', s.2) a

theorem tip_record_eq (rem : List Int) (N : Nat) (a x : Int) (rest : List Int) (h0 : 0 ≤ x) (h1 : x < (N : Int)) :
    tip_record (rem, rangeI N) (a :: x :: rest) = some ((rem ++ [x], rangeI N), ()) := by
  have hb : Py.idx (a :: x :: rest) 1 = some x := by simpa using idx_nat (a :: x :: rest) 1 (by simp)
  simp [tip_record, tip_record.body, Py.bind, hb, RefineNode.idx_rangeI N x h0 h1, Py.finish]

theorem cbOk_top (ucbs : List (σ → List Int → σ)) (N : Nat) :
    CbOk (liftCbs (tot ucbs) ++ [closureCb tip_record]) (effTop ucbs) (fun s => RefineCut.IdsInv N s.2.1 s.2.2) N := by
  rintro ⟨c, rem, ids⟩ a x rest ⟨hi, hr⟩ h0 h1
  obtain rfl : ids = rangeI N := hi
  refine ⟨?_, rfl, fun i hi => ?_⟩
  · rw [callAll_append, callAll_liftCbs, callAll_tot]
    simp [callAll, closureCb, tip_record_eq rem N a x rest h0 h1, effTop]
  · rcases List.mem_append.1 hi with h | h
    · exact hr i h
    · obtain rfl : i = x := List.mem_singleton.1 h
      omega

theorem foldl_effTop (ucbs : List (σ → List Int → σ)) : ∀ (brs : List (List Int)) (c : σ) (rem ids : List Int),
    brs.foldl (effTop ucbs) (c, (rem, ids)) = (brs.foldl (callUser ucbs) c, (rem ++ brs.map (fun b => b.getD 1 0), ids))
  | [], c, rem, ids => by simp
  | b :: brs, c, rem, ids => by
    rw [List.foldl_cons]
    show brs.foldl (effTop ucbs) (callUser ucbs c b, (rem ++ [b.getD 1 0], ids)) = _
    rw [foldl_effTop ucbs brs]
    simp
end top

/-! ## the removed nodes are the second nodes of the reported branches -/
theorem brOf_second (elen : Int → Int) (thre : Int) (i : Int) (ks : List Rose) :
    (ks.filterMap (brOf elen thre i)).map (fun b => b.getD 1 0)
      = ks.filterMap (fun k => match chainLen? elen k with
          | some L => if L + elen k.id > thre then none else some k.id
          | none => none) := by
  rw [List.map_filterMap]
  congr 1
  funext k
  obtain ⟨rest, hr⟩ := firstPath_head k
  simp only [brOf]
  cases chainLen? elen k with
  | none => simp
  | some L => by_cases hg : L + elen k.id > thre <;> simp [hg, hr]

mutual
theorem tipRemoved_eq (elen : Int → Int) (thre : Int) : ∀ r : Rose,
    tipRemoved elen thre r = (tipBranches elen thre r).map (fun b => b.getD 1 0)
  | .node i ks => by
    rw [tipRemoved, tipBranches, List.map_append, tipRemovedRev_eq elen thre ks, apply_ite (List.map _), brOf_second]
    rfl
theorem tipRemovedRev_eq (elen : Int → Int) (thre : Int) : ∀ ks : List Rose,
    tipRemovedRev elen thre ks = (tipBranchesRev elen thre ks).map (fun b => b.getD 1 0)
  | [] => rfl
  | r :: rs => by
    rw [tipRemovedRev, tipBranchesRev, List.map_append, tipRemovedRev_eq elen thre rs, tipRemoved_eq elen thre r]
end

/-- **`CutShortTipBranch.__call__` as translated IS the model `Sub.cutShortTip`** (with `_leave` handed to the generated traversal, the
recording `lambda` on the callback list and the generated `to_subtree`): on every tree table, for every threshold, every edge-length
function and every list of total stateful user callbacks (what `__init__` put on `self.callbacks`), nothing raises, the result is the model's
table — `C06.cutShortTip_removed` characterises the removed nodes as `tipRemoved` — and the user callbacks have been called, every one in
list order, exactly once per reported branch `[furcation, child, …, tip]`, in the order the traversal leaves the furcations
(`tipBranches`; `tipRemoved_eq`: the removed seeds are exactly the second nodes of these branches).  Fuel `2·|tree| + 1` suffices. -/
theorem cutShortTip_refines {σ : Type} [Inhabited σ] (pids : List Int) (r : Rose) (h : IsTree r pids) (elen : Int → Int) (thre : Int)
    (ucbs : List (σ → List Int → σ)) (s0 : σ) (F : Nat) :
    cut_short_tip (tot ucbs) (fun _ c => elen c) (2 * r.size + F + 1) (rangeI pids.length) pids thre s0 =
      (cutShortTip pids elen thre).map (fun t =>
        ((tipBranches elen thre r).foldl (callUser ucbs) s0, ((Py.range (t.mapping.length : Int), t.newPid), t.mapping))) := by
  have hin : ∀ j ∈ r.ids, 0 ≤ j ∧ j < (pids.length : Int) := fun j hj => by
    have := (isTree_mem h j).1 hj; omega
  obtain ⟨e1, p1⟩ := spec_tipLeave (liftCbs (tot ucbs) ++ [closureCb tip_record]) (effTop ucbs) _ pids.length pids elen thre
    (cbOk_top ucbs pids.length) (2 * r.size + F + 1) r none (s0, ([], rangeI pids.length)) h.1.1 hin (by omega) ⟨rfl, by simp⟩
  have hcall := RefineTrav.traverse_refines (wrapE Py.noEnter)
    (wrapL (leaveFn (liftCbs (tot ucbs) ++ [closureCb tip_record]) pids.length pids elen thre (2 * r.size + F + 1)))
    (rangeI pids.length) pids r h.1 (some (s0, (([] : List Int), rangeI pids.length))) F
  rw [e1, h.2.2.1, foldl_effTop] at hcall
  rw [foldl_effTop] at p1
  simp only [List.nil_append, ← tipRemoved_eq] at hcall p1
  have hsub := RefineCut.toSubtree_refines pids r h (tipRemoved elen thre r) p1.2 F
  rw [cutShortTip_removed pids r h]
  unfold leaveFn at hcall
  simp only [cut_short_tip, cut_short_tip.body, Py.seq, Py.bind, Py.skip, hcall, unwrapCb, hsub]
  cases toSubtree pids (tipRemoved elen thre r) <;> simp [Py.finish]

section columns
variable {A Src Nm : Type} [Inhabited A] [Inhabited Src] [Inhabited Nm]

/-! ## `to_subtree_impl`: every column gathered by the kept rows -/

/-- the gather of every column through a topology-level result `((new ids, new parents), mapping)`; a mapping entry outside a column raises -/
def gatherBy (ids pids types : List Int) (xs : List A) (src : Src) (nm : Nm) (r : (List Int × List Int) × List Int) :
    Option (List Int × List Int × List Int × List Int × List A × (Int × ((List Int × List Int × List Int × List A) × (Src × Nm)))) :=
  (Py.take ids r.2).bind fun _ => (Py.take pids r.2).bind fun _ =>
    (Py.take types r.2).bind fun ty => (Py.take xs r.2).bind fun x =>
      some (r.2, ids, pids, types, xs, (Py.len r.1.1, (r.1.1, r.1.2, ty, x), src, nm))

/-- **`to_subtree_impl` as translated, on EVERY input** (failures included): it is `to_sub_topology` followed by the gather of every column
through the returned mapping (`out_mapping`, a list, is cleared and filled with the mapping) -/
theorem toSubtreeImpl_eq (ids pids types : List Int) (xs : List A) (src : Src) (nm : Nm) (sub : List Int × List Int) (out0 : List Int) :
    to_subtree_impl ids pids types xs src nm sub out0 = (to_sub_topology sub).bind (gatherBy ids pids types xs src nm) := by
  simp only [to_subtree_impl, to_subtree_impl.body, seq_eq_bindS, bindS_bind, bindS_next, finish_bind, finish_ret, map_bind,
    List.nil_append, Option.map_some]
  rfl

/-- numpy fancy indexing `col[mapping]` with every index inside the column is the model's `takeRows` -/
theorem take_inrange {α : Type} [Inhabited α] (col : List α) (m : List Int) (h : ∀ i ∈ m, 0 ≤ i ∧ i.toNat < col.length) :
    Py.take col m = some (takeRows col m) :=
  Py.take_inrange col default m h

theorem gatherBy_map (N : Nat) (ids pids types : List Int) (xs : List A) (src : Src) (nm : Nm) (o : Option SubTopo)
    (h1 : ids.length = N) (h2 : pids.length = N) (h3 : types.length = N) (h4 : xs.length = N)
    (hmem : ∀ t, o = some t → ∀ i ∈ t.mapping, 0 ≤ i ∧ i.toNat < N) :
    (o.map fun t => ((Py.range (t.mapping.length : Int), t.newPid), t.mapping)).bind (gatherBy ids pids types xs src nm) =
      o.map fun t => (t.mapping, ids, pids, types, xs,
        ((t.mapping.length : Int), (Py.range (t.mapping.length : Int), t.newPid, takeRows types t.mapping, takeRows xs t.mapping), src, nm)) := by
  cases o with
  | none => rfl
  | some t =>
    have hm := hmem t rfl
    subst h1
    rw [Option.map_some, Option.bind_some, gatherBy, take_inrange ids _ hm, take_inrange pids _ (h2 ▸ hm),
      take_inrange types _ (h3 ▸ hm), take_inrange xs _ (h4 ▸ hm)]
    simp [Py.len, Py.range]

/-- **`to_subtree_impl` as translated IS compaction + attribute gather of the model**: for a marked topology `(subId, subPid)` over a tree
whose columns all have `N` rows (kept ids distinct and inside the table), the result is the model's `toSubTopology` (`KeyError` exactly
when the model fails): ids `0..k−1`, the model's new parents, EVERY further column the input column gathered at the kept rows in order
(`takeRows`, characterised by `C06.attrs_preserved`), `out_mapping` = the new→old mapping, `source` / `names` handed on, and the input
columns are unchanged -/
theorem toSubtreeImpl_refines (N : Nat) (ids pids types : List Int) (xs : List A) (src : Src) (nm : Nm) (subId subPid out0 : List Int)
    (h1 : ids.length = N) (h2 : pids.length = N) (h3 : types.length = N) (h4 : xs.length = N)
    (hl : subId.length = subPid.length)
    (hnd : (((List.zip subId subPid).filter (fun ip => !decide (ip.1 = -2))).map (·.1)).Nodup)
    (hin : ∀ i ∈ subId, i ≠ REMOVAL → 0 ≤ i ∧ i.toNat < N) :
    to_subtree_impl ids pids types xs src nm (subId, subPid) out0 =
      (toSubTopology subId subPid).map fun r =>
        (r.mapping, ids, pids, types, xs,
          ((r.mapping.length : Int), (Py.range (r.mapping.length : Int), r.newPid, takeRows types r.mapping, takeRows xs r.mapping), src, nm)) := by
  rw [toSubtreeImpl_eq, RefineSub.toSubTopology_refines subId subPid hl hnd]
  refine gatherBy_map N ids pids types xs src nm _ h1 h2 h3 h4 fun r hr i hi => ?_
  rw [(C06.toSubTopology_spec subId subPid hl r hr).1, List.mem_filter] at hi
  exact hin i hi.1 (by simpa using hi.2)

/-! ## `get_subtree_impl` / `get_subtree` on all columns -/

/-- **`get_subtree_impl` on all columns factors through the topology-level translation** (the one `C06.generated_getSubtree_eq_model` is
about), on EVERY input: the same traversal / gather of parents / root reset, then the gather of every column through the mapping -/
theorem getSubtreeImplTree_eq (fuel : Nat) (ids pids types : List Int) (xs : List A) (src : Src) (nm : Nm) (n : Int) (out0 : List Int) :
    get_subtree_impl_tree fuel ids pids types xs src nm n out0 =
      (get_subtree_impl fuel ids pids n).bind (gatherBy ids pids types xs src nm) := by
  simp only [get_subtree_impl_tree, get_subtree_impl_tree.body, get_subtree_impl, get_subtree_impl.body, toSubtreeImpl_eq,
    seq_eq_bindS, bindS_bind, bindS_next, finish_bind, finish_ret, map_bind, Option.map_some, Option.bind_assoc, Option.bind_some,
    Prod.eta, Option.bind_fun_some]

/-- `get_subtree` is `get_subtree_impl` handed to the `Tree` constructor: the same value, on every input -/
theorem getSubtreeTree_eq (fuel : Nat) (ids pids types : List Int) (xs : List A) (src : Src) (nm : Nm) (n : Int) (out0 : List Int) :
    get_subtree_tree fuel ids pids types xs src nm n out0 = get_subtree_impl_tree fuel ids pids types xs src nm n out0 := by
  simp only [get_subtree_tree, get_subtree_tree.body, seq_eq_bindS, bindS_bind, bindS_next, finish_bind, finish_ret, map_bind,
    Option.map_some, Prod.eta, Option.bind_fun_some]

/-- **`get_subtree` as translated, on all columns, IS the model**: on a tree object whose columns all have `|pids|` rows, at the root of any
subtree `s` of the table, the result is the model's `getSubtree` (characterised by `C06.subtree_nodes`: precisely that node and its
descendants, in enter order): ids `0..k−1`, the model's parents, every further column gathered at the kept rows in order, `out_mapping` =
the new→old mapping, `source` / `names` handed on, input columns unchanged -/
theorem getSubtreeTree_refines (pids types : List Int) (xs : List A) (src : Src) (nm : Nm) (s : Rose)
    (h : Represents s (rangeI pids.length) pids) (hin : ∀ i ∈ s.ids, 0 ≤ i ∧ i.toNat < pids.length)
    (h3 : types.length = pids.length) (h4 : xs.length = pids.length) (out0 : List Int) (F : Nat) :
    get_subtree_tree (2 * s.size + F + 1) (rangeI pids.length) pids types xs src nm s.id out0 =
      (getSubtree pids s.id).map fun r =>
        (r.mapping, rangeI pids.length, pids, types, xs,
          ((r.mapping.length : Int), (Py.range (r.mapping.length : Int), r.newPid, takeRows types r.mapping, takeRows xs r.mapping), src, nm)) := by
  rw [getSubtreeTree_eq, getSubtreeImplTree_eq, C06.generated_getSubtree_eq_model pids s h hin F]
  obtain ⟨res, hr, _, hperm, _⟩ := C06.subtree_nodes pids s h hin
  refine gatherBy_map pids.length _ pids types xs src nm _ (by simp [rangeI]) rfl h3 h4 fun t ht i hi => ?_
  obtain rfl : res = t := Option.some.inj (hr.symm.trans ht)
  exact hin i (hperm.mem_iff.1 hi)

/-! ## `to_subtree` on all columns -/

theorem for1T_loop : ∀ (rm : List Int) (v : to_subtree_tree.V A Src Nm),
    forEach to_subtree_tree.for1 rm v =
      Py.bind (RefineCut.markAll v.new_ids rm) fun l => .next { v with new_ids := l, i := rm.getLast?.getD v.i }
  | [], v => rfl
  | i :: is, v => by
    simp only [forEach, to_subtree_tree.for1, RefineCut.markAll]
    cases setIdx v.new_ids i (-2) with
    | none => rfl
    | some l' => simp only [Py.bind, Option.bind_some, for1T_loop is, List.getLast?_cons, Option.getD_some]

/-- **`to_subtree` on all columns factors through the topology-level translation** (the one `RefineCut.toSubtree_refines` is about), on
EVERY input: the same marking loop and `propagate_removal`, then `to_subtree_impl` = compaction + the gather of every column -/
theorem toSubtreeTree_eq (fuel : Nat) (ids pids types : List Int) (xs : List A) (src : Src) (nm : Nm) (rm out0 : List Int) :
    to_subtree_tree fuel ids pids types xs src nm rm out0 =
      (to_subtree fuel ids pids rm).bind (gatherBy ids pids types xs src nm) := by
  simp only [to_subtree_tree, to_subtree_tree.body, RefineCut.toSubtree_unfold, toSubtreeImpl_eq, for1T_loop,
    seq_eq_bindS, bindS_bind, bindS_next, finish_bind, finish_ret, map_bind, Option.map_some, Option.bind_assoc,
    Prod.eta, Option.bind_fun_some]

theorem toSubtree_mapping_inrange (pids : List Int) (r : Rose) (h : IsTree r pids) (rm : List Int) (t : SubTopo)
    (ht : toSubtree pids rm = some t) : ∀ i ∈ t.mapping, 0 ≤ i ∧ i.toNat < pids.length := by
  obtain ⟨res, hr, hmap, _, _⟩ := C06.toSubtree_kept pids r h rm
  obtain rfl : res = t := Option.some.inj (hr.symm.trans ht)
  exact fun i hi => (C06.mem_rangeI pids.length i).1 (List.mem_filter.1 (hmap ▸ hi)).1

/-- **`to_subtree` as translated, on all columns, IS the model**: on every tree table whose columns all have `|pids|` rows and every list
of node ids, the result is the model's `toSubtree` (characterised by `C06.toSubtree_kept`: precisely the nodes neither removed nor below
a removed node): ids `0..k−1`, the model's parents, every further column gathered at the kept rows in order, `out_mapping` = the new→old
mapping, `source` / `names` handed on, input columns unchanged -/
theorem toSubtreeTree_refines (pids types : List Int) (xs : List A) (src : Src) (nm : Nm) (r : Rose) (h : IsTree r pids) (rm : List Int)
    (hrm : ∀ i ∈ rm, 0 ≤ i ∧ i.toNat < pids.length) (h3 : types.length = pids.length) (h4 : xs.length = pids.length) (out0 : List Int) (F : Nat) :
    to_subtree_tree (2 * r.size + F + 1) (rangeI pids.length) pids types xs src nm rm out0 =
      (toSubtree pids rm).map fun t =>
        (t.mapping, rangeI pids.length, pids, types, xs,
          ((t.mapping.length : Int), (Py.range (t.mapping.length : Int), t.newPid, takeRows types t.mapping, takeRows xs t.mapping), src, nm)) := by
  rw [toSubtreeTree_eq, RefineCut.toSubtree_refines pids r h rm hrm F]
  exact gatherBy_map pids.length _ pids types xs src nm _ (by simp [rangeI]) rfl h3 h4 (toSubtree_mapping_inrange pids r h rm)

/-! ## `to_sub_tree` (deprecated wrapper) on all columns -/

/-- `id_map = {}; for i, idx in enumerate(id_map_arr): id_map[idx] = i`: the old→new dictionary of a new→old mapping -/
def idMapOf (m : List Int) : Py.Dict Int Int := (Py.enumerate m).foldl (fun d p => Py.Dict.set d p.2 p.1) []

theorem depFor1_loop : ∀ (l : List (Int × Int)) (v : to_sub_tree.V A Src Nm),
    forEach to_sub_tree.for1 l v =
      .next { v with i := (l.getLast?.getD (v.i, v.idx)).1, idx := (l.getLast?.getD (v.i, v.idx)).2,
                     id_map := l.foldl (fun d p => Py.Dict.set d p.2 p.1) v.id_map }
  | [], v => rfl
  | p :: ps, v => by
    simp only [forEach, to_sub_tree.for1, depFor1_loop ps, List.foldl_cons, List.getLast?_cons, Option.getD_some]

/-- **`to_sub_tree` as translated, on EVERY input**: `propagate_removal`, compaction, the gather of every column through the mapping (the
same as `to_subtree_impl`), the `Tree` of the result, and the old→new dictionary built from the mapping; the input columns are unchanged -/
theorem toSubTree_eq (fuel : Nat) (ids pids types : List Int) (xs : List A) (src : Src) (nm : Nm) (sub : List Int × List Int) :
    to_sub_tree fuel ids pids types xs src nm sub =
      (((propagate_removal fuel sub).bind to_sub_topology).bind (gatherBy ids pids types xs src nm)).map fun g =>
        (ids, pids, types, xs, (g.2.2.2.2.2, idMapOf g.1)) := by
  simp only [to_sub_tree, to_sub_tree.body, gatherBy, idMapOf, depFor1_loop, seq_eq_bindS, bindS_bind, bindS_next, finish_bind, finish_ret,
    map_bind, Option.map_some, Option.map_eq_bind, Option.bind_assoc]
  rfl

/-- the topology-level `to_subtree` is: mark, propagate, compact -/
theorem toSubtree_unfold (fuel : Nat) (ids pids rm : List Int) :
    to_subtree fuel ids pids rm =
      (RefineCut.markAll ids rm).bind fun l => (propagate_removal fuel (l, pids)).bind to_sub_topology :=
  RefineCut.toSubtree_unfold fuel ids pids rm

/-- **`to_sub_tree` as translated IS the model** on a tree object and the id column marked at the node ids `rm` (not yet propagated: the
wrapper propagates itself): the model's `toSubtree` (precisely the nodes neither removed nor below a removed node), every further column
gathered at the kept rows, and the old→new dictionary of the mapping -/
theorem toSubTree_refines (pids types : List Int) (xs : List A) (src : Src) (nm : Nm) (r : Rose) (h : IsTree r pids) (rm l : List Int)
    (hrm : ∀ i ∈ rm, 0 ≤ i ∧ i.toNat < pids.length) (hl : RefineCut.markAll (rangeI pids.length) rm = some l)
    (h3 : types.length = pids.length) (h4 : xs.length = pids.length) (F : Nat) :
    to_sub_tree (2 * r.size + F + 1) (rangeI pids.length) pids types xs src nm (l, pids) =
      (toSubtree pids rm).map fun t =>
        (rangeI pids.length, pids, types, xs,
          (((t.mapping.length : Int), (Py.range (t.mapping.length : Int), t.newPid, takeRows types t.mapping, takeRows xs t.mapping), src, nm),
           idMapOf t.mapping)) := by
  have hsub := RefineCut.toSubtree_refines pids r h rm hrm F
  rw [RefineCut.toSubtree_unfold, hl, Option.bind_some] at hsub
  rw [toSubTree_eq, hsub, gatherBy_map pids.length _ pids types xs src nm _ (by simp [rangeI]) rfl h3 h4
    (toSubtree_mapping_inrange pids r h rm), Option.map_map]
  rfl
end columns

end RefineShortTip
