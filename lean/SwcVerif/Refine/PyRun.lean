import SwcVerif.Refine.PyLemmas
/-! Running a translated body, whatever its record of variables `V` is.

`seq` is `bindS`, and `bindS` / `finish` commute with `bind`: `simp only` with the lemmas of the first section runs a straight-line
body statement by statement, or turns `(finish d (body v₀)).map f` into a term of the `Option` monad in which every fallible
expression of the source occurs once. Rewriting with `seq_eq_bindS` keeps the continuation folded until its turn comes; unfolding
`Py.seq` / `Py.bind` instead rewrites the whole rest of the program under binders and leaves the kernel to find the run again by
itself (give `simp` the option `-implicitDefEqProofs` so that these `rfl` steps are recorded in the proof term). -/
namespace Py
variable {V R α β γ : Type}

theorem seq_eq_bindS (s1 s2 : V → Res V R) (v : V) : seq s1 s2 v = bindS (s1 v) s2 := rfl

theorem bindS_next (v : V) (k : V → Res V R) : bindS (.next v) k = k v := rfl

theorem bindS_ret (v : V) (r : R) (k : V → Res V R) : bindS (.ret v r) k = .ret v r := rfl

theorem bindS_err (k : V → Res V R) : bindS .err k = .err := rfl

theorem bindS_bind (e : Option α) (f : α → Res V R) (k : V → Res V R) :
    bindS (bind e f) k = bind e fun a => bindS (f a) k := by
  cases e <;> rfl

theorem bind_some (a : α) (k : α → Res V R) : bind (some a) k = k a := rfl

theorem bind_none (k : α → Res V R) : bind (none : Option α) k = .err := rfl

theorem skip_apply (v : V) : (skip v : Res V R) = .next v := rfl

theorem finish_ret (d : R) (v : V) (r : R) : finish d (.ret v r : Res V R) = some (v, r) := rfl

theorem finish_next (d : R) (v : V) : finish d (.next v : Res V R) = some (v, d) := rfl

theorem finish_bind (d : R) (e : Option α) (k : α → Res V R) :
    finish d (bind e k) = e.bind fun a => finish d (k a) := by
  cases e <;> rfl

theorem map_finish_bind (g : V × R → β) (d : R) (e : Option α) (k : α → Res V R) :
    (finish d (bind e k)).map g = e.bind fun a => (finish d (k a)).map g := by
  cases e <;> rfl

theorem finish_bind_ret (d : R) (e : Option α) (v : V) (g : α → R) :
    (finish d (bind e fun a => .ret v (g a))).map (·.2) = e.map g := by
  cases e <;> rfl

theorem finish_return (d : R) (e : Option R) (v : V) : ((finish d (bind e fun t => .ret v t)).map fun r => r.2) = e := by
  cases e <;> rfl

theorem bindS_ite (c : Prop) [Decidable c] (a b : Res V R) (k : V → Res V R) :
    bindS (if c then a else b) k = if c then bindS a k else bindS b k := apply_ite (bindS · k) c a b

theorem bindS_ite_next (c : Prop) [Decidable c] (a v : V) (k : V → Res V R) :
    bindS (if c then .next a else skip v) k = k (if c then a else v) := by
  split <;> rfl

theorem map_finish_ite (g : V × R → β) (d : R) (c : Prop) [Decidable c] (a b : Res V R) :
    (finish d (if c then a else b)).map g = if c then (finish d a).map g else (finish d b).map g :=
  apply_ite (fun r => (finish d r).map g) c a b

theorem seq_ofOption (s1 s2 : V → Res V R) (v : V) (o : Option α) (k : α → V)
    (h : s1 v = match o with | none => .err | some a => .next (k a)) :
    seq s1 s2 v = match (generalizing := false) o with | none => .err | some a => s2 (k a) := by
  cases o <;> simp [seq, h]

/-- the translation of `c and x` -/
theorem bind_and (c x : Bool) (k : Bool → Res V R) : bind (if c then some x else some false) k = k (c && x) := by
  cases c <;> rfl

theorem bind_some_eq_map (o : Option α) (g : α → β) : (o.bind fun a => some (g a)) = o.map g := by
  cases o <;> rfl

theorem ite_append_singleton (c : Prop) [Decidable c] (w : List α) (n : α) :
    (if c then w ++ [n] else w) = w ++ if c then [n] else [] := by
  split <;> simp

/-- `Option.map_bind` with the composition written out, so that `simp` can go on under the binder -/
theorem map_bind (g : β → γ) (e : Option α) (f : α → Option β) : (e.bind f).map g = e.bind fun a => (f a).map g := by
  cases e <;> rfl

section lists
universe u v
variable {α : Type u}

theorem getD_eq_getElem (l : List α) (d : α) {k : Nat} (h : k < l.length) : l.getD k d = l[k] :=
  (List.getElem_eq_getD d).symm

theorem getD_default (l : List α) (d d' : α) {k : Nat} (h : k < l.length) : l.getD k d = l.getD k d' := by
  rw [getD_eq_getElem l d h, getD_eq_getElem l d' h]

theorem getD_map {β : Type v} (f : α → β) (l : List α) (d : α) (d' : β) {k : Nat} (h : k < l.length) :
    (l.map f).getD k d' = f (l.getD k d) := by
  rw [getD_eq_getElem _ d' (by rwa [List.length_map]), getD_eq_getElem l d h, List.getElem_map]

theorem getD_range_map (f : Nat → α) (d : α) {n k : Nat} (h : k < n) : ((List.range n).map f).getD k d = f k := by
  rw [getD_eq_getElem _ d (by simpa using h), List.getElem_map, List.getElem_range]

theorem eq_range_map (l : List α) (d : α) : l = (List.range l.length).map (l.getD · d) :=
  List.ext_getElem (by simp) fun k h _ => by rw [List.getElem_map, List.getElem_range, getD_eq_getElem l d h]

theorem range_nodup (n : Nat) : ((List.range n).map Int.ofNat).Nodup :=
  List.Pairwise.map _ (fun _ _ hab he => hab (Int.ofNat.inj he)) List.nodup_range

theorem foldl_max_ge : ∀ (l : List (List α)) (n : Nat),
    n ≤ l.foldl (fun a v => max a v.length) n ∧ ∀ v ∈ l, v.length ≤ l.foldl (fun a v => max a v.length) n
  | [], n => ⟨Nat.le_refl n, fun _ h => nomatch h⟩
  | w :: l, n => by
    obtain ⟨h1, h2⟩ := foldl_max_ge l (max n w.length)
    exact ⟨Nat.le_trans (Nat.le_max_left ..) h1, List.forall_mem_cons.2 ⟨Nat.le_trans (Nat.le_max_right ..) h1, h2⟩⟩

theorem foldl_concat_map {β : Type v} (f : α → β) : ∀ (xs : List α) (l : List β), xs.foldl (fun l x => l ++ [f x]) l = l ++ xs.map f
  | [], l => (List.append_nil l).symm
  | x :: xs, l => by rw [List.foldl_cons, foldl_concat_map f xs, List.append_assoc]; rfl

end lists


/-! A `for` loop as an equation, when every pass falls through and the final state can be written down: `forEach_closed` (any closed form
`G xs v` that satisfies the loop's recurrence), `forEach_pure` (the fold itself), `forEach_comp` (a comprehension whose passes write the
accumulator and the loop variable only); `forEach_opt` when a pass may raise. With an invariant `I`, when the passes need facts about
the other variables, or leave temporaries with values nobody states: `forEach_fold` (a projection `π v` of the state is folded over the
list), `forEach_collect` (`π` is a list the passes append to), `forEach_collectDict` (a dictionary comprehension), `forEach_enumerate`
(the invariant speaks of the members passed so far). `forEach_map` moves a `map` on the iterated list into the body. -/

theorem forEach_map (body : α → V → Res V R) (g : γ → α) : ∀ (xs : List γ) (v : V),
    forEach body (xs.map g) v = forEach (fun x => body (g x)) xs v
  | [], _ => rfl
  | x :: xs, v => by
    simp only [List.map_cons, forEach]
    cases body (g x) v <;> first | rfl | exact forEach_map body g xs _

theorem forEach_closed (body : α → V → Res V R) (step : α → V → V) (G : List α → V → V)
    (hb : ∀ x v, body x v = .next (step x v)) (h0 : ∀ v, G [] v = v) (hG : ∀ x xs v, G xs (step x v) = G (x :: xs) v) :
    ∀ (xs : List α) (v : V), forEach body xs v = .next (G xs v)
  | [], v => by rw [h0]; rfl
  | x :: xs, v => by rw [← hG, ← forEach_closed body step G hb h0 hG xs, forEach, hb]

theorem forEach_pure (body : α → V → Res V R) (step : V → α → V) (h : ∀ x v, body x v = .next (step v x)) :
    ∀ (xs : List α) (v : V), forEach body xs v = .next (xs.foldl step v) :=
  forEach_closed body (fun x v => step v x) (fun xs v => xs.foldl step v) h (fun _ => rfl) fun _ _ _ => rfl

theorem forEach_opt (body : α → V → Res V R) (step : V → α → Option V)
    (h : ∀ x v, body x v = match step v x with | some v' => .next v' | none => .err) :
    ∀ (xs : List α) (v : V), forEach body xs v = match xs.foldlM step v with | some v' => .next v' | none => .err := by
  intro xs
  induction xs with
  | nil => intro v; rfl
  | cons x xs ih =>
    intro v
    simp only [forEach, h, List.foldlM_cons]
    cases hs : step v x with
    | none => simp [hs]
    | some v' => simp [hs, ih]

/-- `[f x for x in xs]`; `S l y` is the state whose accumulator is `l` and whose loop variable is `y` -/
theorem forEach_comp (body : α → V → Res V R) (S : List β → α → V) (f : α → β)
    (h : ∀ x l y, body x (S l y) = .next (S (l ++ [f x]) x)) :
    ∀ (xs : List α) (l : List β) (y : α), forEach body xs (S l y) = .next (S (l ++ xs.map f) (xs.getLast?.getD y))
  | [], l, y => by rw [List.map_nil, List.append_nil]; rfl
  | x :: xs, l, y => by
    have ih := forEach_comp body S f h xs (l ++ [f x]) x
    rw [List.append_assoc] at ih
    simp only [forEach, h, ih, List.getLast?_cons, List.map_cons, Option.getD_some, List.singleton_append]

theorem forEach_fold {S : Type} (body : α → V → Res V R) (π : V → S) (step : S → α → S) (I : V → Prop) :
    ∀ xs : List α, (∀ x ∈ xs, ∀ v, I v → ∃ v', body x v = .next v' ∧ I v' ∧ π v' = step (π v) x) →
    ∀ v, I v → ∃ v', forEach body xs v = .next v' ∧ I v' ∧ π v' = xs.foldl step (π v)
  | [], _, v, hv => ⟨v, rfl, hv, rfl⟩
  | x :: xs, h, v, hv => by
    obtain ⟨v1, e1, i1, a1⟩ := h x List.mem_cons_self v hv
    obtain ⟨v2, e2, i2, a2⟩ := forEach_fold body π step I xs (fun y hy => h y (List.mem_cons_of_mem _ hy)) v1 i1
    exact ⟨v2, by simp only [forEach, e1, e2], i2, by rw [a2, a1, List.foldl_cons]⟩

/-- `[f x for x in xs]`. In an application the first component of `h` determines `v'`: give the other two as `by rfl`, checked after it. -/
theorem forEach_collect (body : α → V → Res V R) (acc : V → List β) (f : α → β) (I : V → Prop) (xs : List α)
    (h : ∀ x ∈ xs, ∀ v, I v → ∃ v', body x v = .next v' ∧ I v' ∧ acc v' = acc v ++ [f x]) (v : V) (hv : I v) :
    ∃ v', forEach body xs v = .next v' ∧ I v' ∧ acc v' = acc v ++ xs.map f := by
  obtain ⟨v', e, i, a⟩ := forEach_fold body acc (fun l x => l ++ [f x]) I xs h v hv
  exact ⟨v', e, i, a.trans (foldl_concat_map f xs _)⟩

/-- `{k: f k for k in ks}` -/
theorem forEach_collectDict {κ ν : Type} [DecidableEq κ] (body : κ → V → Res V R) (acc : V → Dict κ ν) (f : κ → Option ν)
    (I : V → Prop) (ks : List κ)
    (h : ∀ k ∈ ks, ∀ v, I v → ∃ g v', f k = some g ∧ body k v = .next v' ∧ I v' ∧ acc v' = Dict.set (acc v) k g) :
    ∀ v, I v → ∃ v', forEach body ks v = .next v' ∧ I v' ∧
      ∀ k', Dict.get? (acc v') k' = if k' ∈ ks then f k' else Dict.get? (acc v) k' := by
  induction ks with
  | nil => intro v hv; exact ⟨v, rfl, hv, by simp⟩
  | cons k ks ih =>
    intro v hv
    obtain ⟨g, v1, hg, e1, i1, a1⟩ := h k List.mem_cons_self v hv
    obtain ⟨v2, e2, i2, a2⟩ := ih (fun j hj => h j (List.mem_cons_of_mem _ hj)) v1 i1
    refine ⟨v2, by simp only [forEach, e1, e2], i2, fun k' => ?_⟩
    rw [a2 k', a1, Dict.get?_set]
    by_cases m : k' ∈ ks
    · simp [m]
    · by_cases e : k' = k <;> simp [m, e, hg]

theorem forEach_enumerate (body : Int × α → V → Res V R) (xs : List α) (J : List α → V → Prop)
    (step : ∀ done x rest v, xs = done ++ x :: rest → J done v →
      ∃ v', body ((done.length : Int), x) v = .next v' ∧ J (done ++ [x]) v')
    (v : V) (h : J [] v) : ∃ v', forEach body (enumerate xs) v = .next v' ∧ J xs v' := by
  have : ∀ rest done v, xs = done ++ rest → J done v →
      ∃ v', forEach body (enumFrom (done.length : Int) rest) v = .next v' ∧ J xs v' := by
    intro rest
    induction rest with
    | nil => intro done v e hv; exact ⟨v, rfl, by rwa [e, List.append_nil]⟩
    | cons x rest ih =>
      intro done v e hv
      obtain ⟨v1, e1, h1⟩ := step done x rest v e hv
      obtain ⟨v2, e2, h2⟩ := ih (done ++ [x]) v1 (by rw [e, List.append_assoc]; rfl) h1
      have hl : ((done ++ [x]).length : Int) = (done.length : Int) + 1 := by simp
      rw [hl] at e2
      exact ⟨v2, by simp only [enumFrom, forEach, e1, e2], h2⟩
  exact this xs [] v rfl h

theorem whileF_count (cond : V → Option Bool) (body : V → Res V R) (st : Nat → V) (n F : Nat)
    (hstep : ∀ i < n, cond (st i) = some true ∧ body (st i) = .next (st (i + 1))) (hstop : cond (st n) = some false) :
    whileF cond body (n + 1 + F) (st 0) = .next (st n) := by
  induction n generalizing st with
  | zero =>
    rw [Nat.zero_add, Nat.add_comm]
    exact whileF_done _ _ _ _ hstop
  | succ n ih =>
    obtain ⟨hc, hb⟩ := hstep 0 (Nat.succ_pos n)
    rw [Nat.add_right_comm, whileF_next _ _ _ _ _ hc hb]
    exact ih (fun i => st (i + 1)) (fun i hi => hstep (i + 1) (Nat.succ_lt_succ hi)) hstop


theorem idx_nat_getD (l : List α) (k : Nat) (d : α) (h : k < l.length) : idx l (k : Int) = some (l.getD k d) := by
  rw [idx_natCast, List.getElem?_eq_getElem h, getD_eq_getElem l d h]

theorem idx_inrange (l : List α) (i : Int) (d : α) (h : 0 ≤ i ∧ i.toNat < l.length) : idx l i = some (l.getD i.toNat d) := by
  obtain ⟨k, rfl⟩ := Int.eq_ofNat_of_zero_le h.1
  exact idx_nat_getD l k d h.2

theorem setIdx_inrange (l : List α) (i : Int) (x : α) (h : 0 ≤ i ∧ i.toNat < l.length) : setIdx l i x = some (l.set i.toNat x) := by
  obtain ⟨k, rfl⟩ := Int.eq_ofNat_of_zero_le h.1
  exact setIdx_nat l k x h.2

theorem idx_head (l : List α) : idx l 0 = l.head? := by
  cases l <;> simp [idx, normIdx]

theorem idx_last (l : List α) : idx l (-1) = l.getLast? := by
  cases l with
  | nil => simp [idx, normIdx]
  | cons a t => simp [idx, normIdx, List.getLast?_eq_getElem?]

theorem take_inrange (col : List α) (d : α) : ∀ (m : List Int), (∀ i ∈ m, 0 ≤ i ∧ i.toNat < col.length) →
    take col m = some (m.map fun i => col.getD i.toNat d)
  | [], _ => rfl
  | i :: m, h => by
    have ih := take_inrange col d m fun j hj => h j (List.mem_cons_of_mem _ hj)
    simp only [take] at ih ⊢
    simp [List.mapM_cons, idx_inrange col i d (h i List.mem_cons_self), ih]


theorem mapOpt_total (f : α → Option β) (g : α → β) : ∀ (l : List α), (∀ x ∈ l, f x = some (g x)) → mapOpt f l = some (l.map g) := by
  intro l
  induction l with
  | nil => intro _; rfl
  | cons x xs ih =>
    intro h
    simp only [mapOpt, h x (List.mem_cons_self), ih (fun y hy => h y (List.mem_cons_of_mem _ hy)), List.map_cons]

theorem mapM_eq_some_map (f : α → Option β) (g : α → β) : ∀ (l : List α), (∀ x ∈ l, f x = some (g x)) → l.mapM f = some (l.map g) := by
  intro l
  induction l with
  | nil => intro _; rfl
  | cons a l ih =>
    intro h
    rw [List.mapM_cons, h a List.mem_cons_self, ih fun x hx => h x (List.mem_cons_of_mem _ hx)]; rfl

theorem mapM_eq_some (f : α → Option β) : ∀ (l : List α) (l' : List β), l.mapM f = some l' →
    l'.length = l.length ∧ ∀ k (h1 : k < l.length) (h2 : k < l'.length), f l[k] = some l'[k] := by
  intro l
  induction l with
  | nil => intro l' h; cases h; exact ⟨rfl, fun k h1 => absurd h1 (Nat.not_lt_zero k)⟩
  | cons a l ih =>
    intro l' h
    rw [List.mapM_cons] at h
    cases hfa : f a with
    | none => rw [hfa] at h; cases h
    | some b =>
      cases hl : l.mapM f with
      | none => rw [hfa, hl] at h; cases h
      | some bs =>
        rw [hfa, hl] at h
        cases h
        obtain ⟨i1, i2⟩ := ih bs hl
        refine ⟨congrArg (· + 1) i1, fun k h1 h2 => ?_⟩
        cases k with
        | zero => exact hfa
        | succ k => exact i2 k (Nat.lt_of_succ_lt_succ h1) (Nat.lt_of_succ_lt_succ h2)

theorem exists_mem_of_mapM_eq_some (f : α → Option β) (l : List α) (l' : List β) (h : l.mapM f = some l') {a : α} (ha : a ∈ l) :
    ∃ b ∈ l', f a = some b := by
  obtain ⟨hl, hk⟩ := mapM_eq_some f l l' h
  obtain ⟨k, hk1, rfl⟩ := List.mem_iff_getElem.1 ha
  exact ⟨l'[k]'(hl ▸ hk1), List.getElem_mem _, hk k hk1 _⟩

theorem map_of_mapM_eq_some (f : α → Option β) (g : β → γ) (g' : α → γ) (hfg : ∀ a b, f a = some b → g b = g' a)
    (l : List α) (l' : List β) (h : l.mapM f = some l') : l'.map g = l.map g' := by
  obtain ⟨hl, hk⟩ := mapM_eq_some f l l' h
  refine List.ext_getElem (by rw [List.length_map, List.length_map, hl]) fun k h1 h2 => ?_
  rw [List.getElem_map, List.getElem_map]
  exact hfg _ _ (hk k _ _)

theorem mapM_isSome_iff (f : α → Option β) (l : List α) : (l.mapM f).isSome ↔ ∀ a ∈ l, (f a).isSome := by
  refine ⟨fun h a ha => ?_, fun h => ?_⟩
  · obtain ⟨out, ho⟩ := Option.isSome_iff_exists.1 h
    obtain ⟨b, -, hb⟩ := exists_mem_of_mapM_eq_some f l out ho ha
    exact Option.isSome_iff_exists.2 ⟨b, hb⟩
  · induction l with
    | nil => rfl
    | cons a l ih =>
      obtain ⟨b, hb⟩ := Option.isSome_iff_exists.1 (h a List.mem_cons_self)
      obtain ⟨bs, hbs⟩ := Option.isSome_iff_exists.1 (ih fun x hx => h x (List.mem_cons_of_mem _ hx))
      rw [List.mapM_cons, hb, hbs]; rfl

end Py
