import SwcVerif.Gen.AlgoImgIo2
import SwcVerif.Refine.ImgIo
import SwcVerif.Refine.Raster
/-! # C20 (image I/O, second part): the definitions GENERATED (on this run) from `swcgeom/transforms/image_stack.py` (`ToImageStack.__init__`,
`__call__`, `save_tif`, `transform_and_save`, `transform` with the frame conversion translated) and `swcgeom/images/io.py` (`NrrdImageStack` /
`V3d*ImageStack` constructors, `ImageStack.get_full`, `GrayImageStack.__init__ / get_full / __getitem__`, `NDArrayImageStack.__getitem__` on an
int, a pair or triple of ints and one to four slices) (`Gen/AlgoImgIo2.lean`) equal closed-form models, for EVERY input.  `answers` at the end
lists what the sampler answered, frame by frame: the frames of `transform` are their conversions (`runFrames_answers`). -/
set_option linter.unusedSimpArgs false
set_option linter.unusedSectionVars false
namespace RefineImgIo2
open Gen.Algo Py RefineImgIo

section generic
variable {K : Type} [Inhabited K] [Add K] [Sub K] [Mul K] [OfNat K 0] [OfNat K 1] [LT K] [DecidableLT K] [LE K] [DecidableLE K]

/-! ## `ToImageStack.__call__` -/

/-- **`ToImageStack.__call__` as translated**: `np.stack(frames, axis=0)` of the frames of `transform`, for every list of frames -/
theorem tostack_call_eq (frames : List (NdArr K)) : tostack_call frames = stack0 frames := finish_return ..

/-- `np.stack(·, axis=0)` of `n ≥ 1` arrays of one shape: shape `n :: shape`, element `[z, i…]` = element `[i…]` of the `z`-th array -/
theorem stack0_spec (a : NdArr K) (r : List (NdArr K)) (sh : List Nat) (h : ∀ b ∈ a :: r, b.shape = sh) :
    ∃ s, stack0 (a :: r) = some s ∧ s.shape = (r.length + 1) :: sh ∧ s.dtype = a.dtype ∧
      ∀ (z : Nat) (i : List Nat), z < r.length + 1 → s.get (z :: i) = ((a :: r)[z]?.getD a).get i := by
  have ha : a.shape = sh := h a List.mem_cons_self
  have hall : (r.all fun b => b.shape == a.shape) = true := by
    simp only [List.all_eq_true, beq_iff_eq]
    intro b hb
    rw [ha]; exact h b (List.mem_cons_of_mem _ hb)
  refine ⟨{ shape := (a :: r).length :: a.shape, get := fun i => ((a :: r).getD (i.headD 0) a).get i.tail, dtype := a.dtype },
    by simp only [stack0, hall, if_true], by simp [ha], rfl, ?_⟩
  intro z i _
  simp [List.getD_eq_getElem?_getD]

/-- `np.stack` of no array raises ValueError -/
theorem stack0_nil : stack0 ([] : List (NdArr K)) = none := rfl
/-- `np.stack` of arrays of different shapes raises ValueError -/
theorem stack0_ragged (a : NdArr K) (r : List (NdArr K)) (b : NdArr K) (hb : b ∈ r) (hne : b.shape ≠ a.shape) : stack0 (a :: r) = none := by
  have : (r.all fun b => b.shape == a.shape) = false := by
    rw [Bool.eq_false_iff]
    intro hall
    simp only [List.all_eq_true, beq_iff_eq] at hall
    exact hne (hall b hb)
  simp [stack0, this]

/-! ## `ToImageStack.save_tif`, `transform_and_save` -/

/-- the `write` call `save_tif` makes for one frame -/
def tifWriteOf (f : NdArr K) : TifWrite K := { frame := f, contiguous := true, photometric := "minisblack", axes := ['Z', 'X', 'Y'] }

/-- **`ToImageStack.save_tif` as translated**: one contiguous `minisblack` write with the axes string `ZXY` per frame, in order; never raises -/
theorem save_tif_eq (frames : List (NdArr K)) : tostack_save_tif frames = some (frames.map tifWriteOf, ()) := by
  obtain ⟨v', e, -, a⟩ := forEach_collect tostack_save_tif.for1 (·.written_) tifWriteOf (fun _ => True) frames
    (fun x _ v _ => ⟨_, rfl, trivial, by simp only [toList_ZXY]; rfl⟩) { (default : tostack_save_tif.V K) with frames := frames } trivial
  rw [tostack_save_tif, tostack_save_tif.body, e]
  exact congrArg (fun w => some (w, ())) a

/-- **`ToImageStack.transform_and_save` as translated**: the writes of `save_tif` on the frames of `transform` -/
theorem transform_and_save_eq (fname : String) (frames : List (NdArr K)) :
    tostack_transform_and_save fname frames = some (frames.map tifWriteOf, ()) := by
  simp only [tostack_transform_and_save, tostack_transform_and_save.body, save_tif_eq, bind_some]
  rfl

/-! ## the codec-backed constructors -/

/-- **`NrrdImageStack.__init__` as translated** = the model of `NDArrayImageStack.__init__` on the array the codec returns -/
theorem nrrd_init_eq (F : Py.Fld K) (cast : DType → K → K) (imgs : NdArr K) (dt : Option DType) :
    nrrd_init F cast imgs dt = ndModel F cast imgs dt := (finish_return ..).trans (ndarray_init_eq ..)

/-- **`V3dImageStack.__init__` as translated** -/
theorem v3d_init_eq (F : Py.Fld K) (cast : DType → K → K) (imgs : NdArr K) (dt : Option DType) :
    v3d_init F cast imgs dt = ndModel F cast imgs dt := (finish_return ..).trans (ndarray_init_eq ..)

/-- **`V3drawImageStack.__init__`, `V3dpbdImageStack.__init__` as translated** -/
theorem v3draw_init_eq (F : Py.Fld K) (cast : DType → K → K) (imgs : NdArr K) (dt : Option DType) :
    v3draw_init F cast imgs dt = ndModel F cast imgs dt := (finish_return ..).trans (v3d_init_eq ..)
theorem v3dpbd_init_eq (F : Py.Fld K) (cast : DType → K → K) (imgs : NdArr K) (dt : Option DType) :
    v3dpbd_init F cast imgs dt = ndModel F cast imgs dt := (finish_return ..).trans (v3d_init_eq ..)

/-! ## `get_full` -/

/-- **`ImageStack.get_full` (`self[:, :, :, :]`) as translated**, on an object that is its array: the array itself when it has at least four
axes, IndexError (too many indices) otherwise -/
theorem imagestack_get_full_eq (imgs : NdArr K) :
    imagestack_get_full imgs = if 4 ≤ imgs.shape.length then some imgs else none := by
  simp only [imagestack_get_full, imagestack_get_full.body, Py.bind, sliceThenInts]
  by_cases h : 4 ≤ imgs.shape.length <;> simp [h, Py.finish]

/-- **`GrayImageStack.get_full` as translated** -/
theorem gray_get_full_eq (imgs : NdArr K) : gray_get_full imgs = sliceThenInts imgs 3 [0] := by
  simp only [gray_get_full, gray_get_full.body, Py.bind, ndarray_get_full_eq]
  cases sliceThenInts imgs 3 [0] <;> rfl

/-- `a[:, :, :, 0]` of an `(X, Y, Z, C)` array: the `(X, Y, Z)` array of the first channel; IndexError exactly when `C = 0` -/
theorem gray_spec (imgs : NdArr K) (X Y Z C : Nat) (hs : imgs.shape = [X, Y, Z, C]) :
    (0 < C → ∃ g, gray_get_full imgs = some g ∧ g.shape = [X, Y, Z] ∧ g.dtype = imgs.dtype ∧
        ∀ x y z, g.get [x, y, z] = imgs.get [x, y, z, 0]) ∧ (C = 0 → gray_get_full imgs = none) := by
  rw [gray_get_full_eq]
  constructor
  · intro hC
    refine ⟨{ imgs with shape := [X, Y, Z], get := fun i => imgs.get (i.take 3 ++ [0] ++ i.drop 3) },
      by simp only [sliceThenInts, hs]; simp [hC], rfl, rfl, by intro x y z; simp⟩
  · intro hC
    simp [sliceThenInts, hs, hC]

/-! ## `GrayImageStack.__getitem__`, `__init__` -/

/-- **`GrayImageStack.__getitem__` as translated NEVER returns**: its first statement `v = self[key]` is a call of the method itself, so for every
key and every recursion depth allowed there is no result (Python: RecursionError for every key); `self.imgs[key]` was presumably meant. -/
theorem gray_getitem_never_returns : ∀ (fuel : Nat) (key : Int × Int × Int), gray_getitem (K := K) fuel key = none
  | 0, _ => rfl
  | fuel + 1, key => by
    unfold gray_getitem
    simp only [Py.seq, Py.bind, gray_getitem_never_returns fuel, Py.finish, Option.map_none]

theorem gray_init_eq (imgs : NdArr K) : gray_init imgs = some imgs := rfl

/-! ## `ToImageStack.__init__` -/

/-- **`ToImageStack.__init__` as translated, `resolution` a number**: the field is the float32 conversion of three copies; never raises -/
theorem tostack_init_scalar_eq (cast : DType → K → K) (a : K) :
    tostack_init_scalar cast a = some ([cast .f32 a, cast .f32 a, cast .f32 a], ()) := by
  simp [tostack_init_scalar, tostack_init_scalar.body, Py.seq, Py.finish, Py.len]

/-- **`ToImageStack.__init__` as translated, `resolution` a sequence**: its float32 conversion when it has exactly three entries, AssertionError
otherwise -/
theorem tostack_init_array_eq (cast : DType → K → K) (l : List K) :
    tostack_init_array cast l = if l.length = 3 then some (l.map (cast .f32), ()) else none := by
  have e3 : ((l.length : Int) = 3) ↔ l.length = 3 := by omega
  by_cases h : l.length = 3 <;> simp [tostack_init_array, tostack_init_array.body, Py.seq, Py.skip, Py.finish, Py.len, h, e3]

/-! ## `NDArrayImageStack.__getitem__`, the other key forms -/

theorem ndarray_getitem_int_eq (imgs : NdArr K) (k : Int) : ndarray_getitem_int imgs k = ndIndexPrefix imgs [k] := finish_return ..
theorem ndarray_getitem_int2_eq (imgs : NdArr K) (k : Int × Int) : ndarray_getitem_int2 imgs k = ndIndexPrefix imgs [k.1, k.2] := finish_return ..
theorem ndarray_getitem_int3_eq (imgs : NdArr K) (k : Int × Int × Int) :
    ndarray_getitem_int3 imgs k = ndIndexPrefix imgs [k.1, k.2.1, k.2.2] := finish_return ..
theorem ndarray_getitem_slice_eq (imgs : NdArr K) (k : Slice) : ndarray_getitem_slice imgs k = ndSlice imgs [k] := finish_return ..
theorem ndarray_getitem_slice2_eq (imgs : NdArr K) (k : Slice × Slice) : ndarray_getitem_slice2 imgs k = ndSlice imgs [k.1, k.2] := finish_return ..
theorem ndarray_getitem_slice3_eq (imgs : NdArr K) (k : Slice × Slice × Slice) :
    ndarray_getitem_slice3 imgs k = ndSlice imgs [k.1, k.2.1, k.2.2] := finish_return ..
theorem ndarray_getitem_slice4_eq (imgs : NdArr K) (k : Slice × Slice × Slice × Slice) :
    ndarray_getitem_slice4 imgs k = ndSlice imgs [k.1, k.2.1, k.2.2.1, k.2.2.2] := finish_return ..

/-- **`stack[x]` on an `(X, Y, Z, C)` stack**: for `0 ≤ x < X` the `(Y, Z, C)` array `g[y, z, c] = imgs[x, y, z, c]` -/
theorem getitem_int_spec (imgs : NdArr K) (X Y Z C : Nat) (hs : imgs.shape = [X, Y, Z, C]) (x : Nat) (hx : x < X) :
    ∃ g, ndarray_getitem_int imgs (x : Int) = some g ∧ g.shape = [Y, Z, C] ∧ ∀ y z c, g.get [y, z, c] = imgs.get [x, y, z, c] := by
  have hn : ndNormIdx X (x : Int) = some x := by
    have : (0 : Int) ≤ x ∧ (x : Int) < X := by omega
    simp [ndNormIdx, this]
  refine ⟨{ imgs with shape := [Y, Z, C], get := fun i => imgs.get ([x] ++ i) }, ?_, rfl, fun y z c => rfl⟩
  rw [ndarray_getitem_int_eq]
  simp [ndIndexPrefix, hs, hn]

/-- IndexError for `x < -X` and for `X ≤ x` -/
theorem getitem_int_out_of_range (imgs : NdArr K) (X Y Z C : Nat) (hs : imgs.shape = [X, Y, Z, C]) (x : Int) (hx : x < -(X : Int) ∨ (X : Int) ≤ x) :
    ndarray_getitem_int imgs x = none := by
  have hn : ndNormIdx X x = none := by
    have h1 : ¬ (0 ≤ x ∧ x < X) := by omega
    have h2 : ¬ (-(X : Int) ≤ x ∧ x < 0) := by omega
    simp [ndNormIdx, h1, h2]
  rw [ndarray_getitem_int_eq]
  simp [ndIndexPrefix, hs, hn]

theorem sliceSpan_full (n : Nat) : sliceSpan n (none, none, none) = some (0, 1, n) := by
  have h1 : ¬ ((1 : Int) = 0 ∨ (n : Int) < 0) := by omega
  have hl : rangeLen 0 n 1 = n := by
    rw [rangeLen, if_pos Int.one_pos, Int.sub_zero, Int.add_sub_cancel, Int.ediv_one, Int.toNat_natCast]
    split <;> omega
  simp only [sliceSpan, sliceIndices, Option.getD_none, sliceClamp, if_neg h1, Option.map_some, Int.reduceLT, if_false, hl]

/-- **the key `[:, :, :, :]`** (what `ImageStack.get_full` passes) through the slice overload: shape and every element of a 4-d stack unchanged -/
theorem getitem_full_slices (imgs : NdArr K) (X Y Z C : Nat) (hs : imgs.shape = [X, Y, Z, C]) :
    ∃ g, ndarray_getitem_slice4 imgs ((none, none, none), (none, none, none), (none, none, none), (none, none, none)) = some g ∧
      g.shape = [X, Y, Z, C] ∧ ∀ x y z c, g.get [x, y, z, c] = imgs.get [x, y, z, c] := by
  rw [ndarray_getitem_slice4_eq, ndSlice, hs, if_pos (by rfl)]
  simp only [List.zipWith_cons_cons, List.zipWith_nil_right, sliceSpan_full, List.mapM_cons, List.mapM_nil, id, Option.pure_def, Option.bind_eq_bind,
    Option.bind_some, Option.map_some]
  exact ⟨_, rfl, rfl, fun x y z c => by simp⟩
end generic

/-! ## `transform` with the frame conversion `(255 * voxel[..., 0, 0]).astype(np.uint8)` translated -/

section transform
open RefineRaster Img
variable {σ : Type} [Inhabited σ]
variable (sample : σ → Py.RangeSampler Rat → List (Py.Sdf Rat) → σ × NdArr Rat) (cast : DType → Rat → Rat)

/-- **the frame conversion as translated**: `(255 * voxel[..., 0, 0]).astype(np.uint8)` (`none` = IndexError of the subscript) -/
def frameOpt (v : NdArr Rat) : Option (NdArr Rat) :=
  (ellipsisThenInts v [0, 0]).map fun t => astype cast (mulScalarL (Py.ratFld.ofInt 255) t) .u8

/-- the conversion as a total function (the value where the subscript succeeds) -/
def frameOf (v : NdArr Rat) : NdArr Rat := (frameOpt cast v).getD default

/-- every answer of the sampler can be subscripted by `[..., 0, 0]`: at least two axes, the last two non-empty (sdflit answers `(x, y, 1, 3)`) -/
def VoxOk : Prop := ∀ st s sc, (ellipsisThenInts (sample st s sc).2 [0, 0]).isSome

theorem ellipsis00 {K : Type} (v : NdArr K) (X Y A B : Nat) (hs : v.shape = [X, Y, A, B]) (hA : 0 < A) (hB : 0 < B) :
    ellipsisThenInts v [0, 0] = some { v with shape := [X, Y], get := fun i => v.get (i.take 2 ++ [0, 0] ++ i.drop 2) } := by
  simp [ellipsisThenInts, sliceThenInts, hs, hA, hB]

/-- the frame of an `(X, Y, A, B)` answer with `A, B > 0`: the `(X, Y)` uint8 array of `cast u8 (255 · voxel[x, y, 0, 0])` -/
theorem frameOpt_spec (v : NdArr Rat) (X Y A B : Nat) (hs : v.shape = [X, Y, A, B]) (hA : 0 < A) (hB : 0 < B) :
    ∃ f, frameOpt cast v = some f ∧ f.shape = [X, Y] ∧ f.dtype = .u8 ∧ ∀ x y, f.get [x, y] = cast .u8 (255 * v.get [x, y, 0, 0]) := by
  refine ⟨_, by rw [frameOpt, ellipsis00 v X Y A B hs hA hB]; rfl, rfl, rfl, fun x y => ?_⟩
  have : (Py.ratFld.ofInt 255 : Rat) = 255 := by show ((255 : Int) : Rat) = 255; norm_num
  simp [astype, mulScalarL, this]

theorem frameOf_spec (v : NdArr Rat) (X Y A B : Nat) (hs : v.shape = [X, Y, A, B]) (hA : 0 < A) (hB : 0 < B) :
    (frameOf cast v).shape = [X, Y] ∧ (frameOf cast v).dtype = .u8 ∧ ∀ x y, (frameOf cast v).get [x, y] = cast .u8 (255 * v.get [x, y, 0, 0]) := by
  obtain ⟨f, hf, h⟩ := frameOpt_spec cast v X Y A B hs hA hB
  rw [frameOf, hf]
  exact h

theorem voxOk_of_shape (X Y A B : Nat) (hA : 0 < A) (hB : 0 < B) (h : ∀ st s sc, (sample st s sc).2.shape = [X, Y, A, B]) : VoxOk sample :=
  fun st s sc => by rw [ellipsis00 _ X Y A B (h st s sc) hA hB]; rfl

theorem nd_frames_finish (hv : VoxOk sample) (dist : Int → Int → Rat) (ss : List (Py.RangeSampler Rat)) (v : raster_transform_nd.V σ Rat) :
    (Py.finish (default : Unit) (Py.forEach (raster_transform_nd.for1 sample Py.ratFld Py.ratFlr dist cast) ss v)).map
        (fun r => (r.1.yielded_, r.1.cbs, r.2))
      = some ((runFrames sample (frameOf cast) v.scene ss (v.cbs, v.yielded_)).2,
              (runFrames sample (frameOf cast) v.scene ss (v.cbs, v.yielded_)).1, ()) := by
  obtain ⟨v', e, -, a⟩ := forEach_fold (raster_transform_nd.for1 sample Py.ratFld Py.ratFlr dist cast) (fun w => (w.cbs, w.yielded_))
    (frameStep sample (frameOf cast) v.scene) (fun w => w.scene = v.scene) ss
    (fun s _ w hw => by
      obtain ⟨t, ht⟩ := Option.isSome_iff_exists.mp (hv w.cbs s w.scene)
      exact ⟨_, by simp only [raster_transform_nd.for1, Py.seq, Py.bind, ht]; rfl, by exact hw,
        by simp only [← hw, frameStep, frameOf, frameOpt, ht]; rfl⟩) v rfl
  rw [e, runFrames_eq_foldl, ← a]
  rfl

/-- **`ToImageStack.transform` as translated with its frame conversion** (`verbose` falsy, no `ranges`, the sampler answering n-d arrays that can
be subscripted by `[..., 0, 0]`): exactly one frame per model sampler — the slices `Img.axisCentres` of the model's bounding box, in order of
increasing z —, the frame being `frameOf` = `(255 * voxel[..., 0, 0]).astype(np.uint8)` of the sampler's answer; fuel = slices + 1 suffices -/
theorem transform_nd_refines (hv : VoxOk sample) (dist : Int → Int → Rat) (pts : List Pt) (hne : pts ≠ []) (sx sy sz : Rat) (hsz : 0 < sz)
    (ids pids : List Int) (scene : List (Py.Sdf Rat)) (F : Nat) (s0 : σ)
    (hsc : raster_get_scene dist (nSlices pts sz + 1 + F) ids pids (rowsOf pts) (radii pts) = some scene) :
    raster_transform_nd sample Py.ratFld Py.ratFlr dist cast (nSlices pts sz + 1 + F) ids pids (rowsOf pts) (radii pts) [sx, sy, sz] s0
      = some ((runFrames sample (frameOf cast) scene (modelSamplers (boxLo pts) (boxHi pts) (sx, sy, sz)) (s0, [])).2,
              (runFrames sample (frameOf cast) scene (modelSamplers (boxLo pts) (boxHi pts) (sx, sy, sz)) (s0, [])).1, ()) := by
  obtain ⟨m, lo, M, hi, h1, h2, h3, h4, h5⟩ := box_samplers pts hne sx sy sz hsz F
  simp only [raster_transform_nd, raster_transform_nd.body, Py.seq, Py.bind, hsc, h1, h2, h3, h4, h5]
  exact nd_frames_finish sample cast hv dist _ _

/-- the generated `transform` of 18_raster.py (frame conversion a function parameter) instantiated at the translated conversion IS the
generated `transform` of 18c_imgio2.py: the glue entry `toFrame` is discharged -/
theorem transform_nd_eq_transform (hv : VoxOk sample) (dist : Int → Int → Rat) (pts : List Pt) (hne : pts ≠ []) (sx sy sz : Rat) (hsz : 0 < sz)
    (ids pids : List Int) (scene : List (Py.Sdf Rat)) (F : Nat) (s0 : σ)
    (hsc : raster_get_scene dist (nSlices pts sz + 1 + F) ids pids (rowsOf pts) (radii pts) = some scene) :
    raster_transform_nd sample Py.ratFld Py.ratFlr dist cast (nSlices pts sz + 1 + F) ids pids (rowsOf pts) (radii pts) [sx, sy, sz] s0
      = raster_transform sample Py.ratFld Py.ratFlr dist (frameOf cast) (nSlices pts sz + 1 + F) ids pids (rowsOf pts) (radii pts) [sx, sy, sz] s0 := by
  rw [transform_nd_refines sample cast hv dist pts hne sx sy sz hsz ids pids scene F s0 hsc,
    transform_refines sample (frameOf cast) dist pts hne sx sy sz hsz ids pids scene F s0 hsc]

/-- the answers of the sampler, in order (the state threaded through) -/
def answers (scene : List (Py.Sdf Rat)) : List (Py.RangeSampler Rat) → σ → List (NdArr Rat)
  | [], _ => []
  | s :: ss, st => (sample st s scene).2 :: answers scene ss (sample st s scene).1

theorem runFrames_answers {φ : Type} (toFrame : NdArr Rat → φ) (scene : List (Py.Sdf Rat)) :
    ∀ (ss : List (Py.RangeSampler Rat)) (st : σ) (acc : List φ),
      (runFrames sample toFrame scene ss (st, acc)).2 = acc ++ (answers sample scene ss st).map toFrame
  | [], st, acc => by simp [runFrames, answers]
  | s :: ss, st, acc => by
    simp only [runFrames, answers]
    rw [runFrames_answers toFrame scene ss]
    simp

theorem answers_length (scene : List (Py.Sdf Rat)) : ∀ (ss : List (Py.RangeSampler Rat)) (st : σ), (answers sample scene ss st).length = ss.length
  | [], _ => rfl
  | s :: ss, st => by simp [answers, answers_length scene ss]

theorem answers_shape (sh : List Nat) (h : ∀ st s sc, (sample st s sc).2.shape = sh) (scene : List (Py.Sdf Rat)) :
    ∀ (ss : List (Py.RangeSampler Rat)) (st : σ), ∀ v ∈ answers sample scene ss st, v.shape = sh
  | [], _, _, hv => by cases hv
  | s :: ss, st, v, hv => by
    rcases List.mem_cons.mp hv with rfl | hv
    · exact h _ _ _
    · exact answers_shape sh h scene ss _ v hv

end transform

end RefineImgIo2
