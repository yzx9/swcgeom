import SwcVerif.Model.AlgoRunReadFront
import SwcVerif.Refine.Parse
import SwcVerif.Refine.PyRun
import SwcVerif.Refine.Repair
/-! Refinement for the FRONT END of the SWC reader (C02 / C01): the definitions GENERATED from
`swcgeom/utils/file.py::detect_encoding`, `FileReader.__init__`, `FileReader.__enter__` and the `extras = …` statement of
`swcgeom/core/swc_utils/io.py::parse_swc` (Gen/AlgoReadFront.lean) equal closed-form specifications for EVERY input, and their composition
with the generated read loop (Gen/AlgoParse) and the generated tail of `read_swc` (Gen/AlgoRepair) - `ReadFront.readSwcFull` - is the
composition of the specifications. -/
namespace RefineReadFront
open Gen.Algo Py ReadFront

variable {F : Type} [Inhabited F] [Add F] [Sub F] [Mul F] [OfNat F 0] [OfNat F 1] [LT F] [DecidableLT F] [LE F] [DecidableLE F]

/-! ## specifications -/

/-- the encoding the reader finally uses: a text stream's own encoding (the argument is ignored: "skip detect"), else the argument, with
`"detect"` replaced by chardet's answer (`utf-8` when chardet has none / an empty one) -/
def effEncoding (src : Src) (encoding : String) (det : Option String) : String :=
  match src.encoding with
  | some e => e
  | none => if encoding = "detect" then strOr det "utf-8" else encoding

/-- the low-confidence warning (call site 0 of `detect_encoding`): only when detection really ran -/
def detectWarn (src : Src) (encoding : String) (lowc : F) (chardet : Option String × F) : List Int :=
  if src.encoding.isNone ∧ encoding = "detect" ∧ chardet.2 < lowc then [0] else []

/-- the object `FileReader(fname, encoding=…)` constructs: exactly one of the three slots holds the source -/
def initSpec (src : Src) (encoding : String) (det : Option String) : FileReaderFull :=
  { fname := if src.isText || src.isBytes then .path "" else src,
    fb := if !src.isText && src.isBytes then some src else none,
    f := if src.isText then some src else none,
    encoding := effEncoding src encoding det, kwargs := () }

/-- the text stream `__enter__` returns: the caller's own text stream, the `TextIOWrapper` of the caller's `BytesIO`, or the file opened by
name - the last two with the effective encoding -/
def streamOf (src : Src) (enc : String) : Src :=
  match src with
  | .bytes h => .wrapped h enc
  | .path n => .opened n enc
  | s => s

/-- `extras = list(extra_cols) if extra_cols else []` -/
def normExtras : Option (List String) → List String
  | some l => l
  | none => []

/-! ## the generated stages -/

theorem detect_encoding_eq (src : Src) (lowc : F) (chardet : Option String × F) (ws : List Int) :
    detect_encoding src lowc chardet ws =
      some (match src.encoding with
        | some e => (ws, e)
        | none => (if chardet.2 < lowc then ws ++ [0] else ws, strOr chardet.1 "utf-8")) := by
  by_cases hc : chardet.2 < lowc <;> cases src <;>
    simp [detect_encoding, detect_encoding.body, Py.seq, Py.bind, Py.skip, Py.finish, Src.isText, Src.isBytes, Src.encoding, hc]

theorem file_reader_init_eq (self0 : FileReaderFull) (src : Src) (encoding : String) (lowc : F) (chardet : Option String × F) (ws : List Int) :
    file_reader_init self0 src encoding lowc () chardet ws =
      some (initSpec src encoding chardet.1, ws ++ detectWarn src encoding lowc chardet, ()) := by
  by_cases hd : encoding = "detect" <;> cases src <;>
    simp [file_reader_init, file_reader_init.body, Py.seq, Py.bind, Py.skip, Py.finish, Src.isText, Src.isBytes, Src.encoding,
      detect_encoding_eq, initSpec, effEncoding, detectWarn, hd]
  all_goals by_cases hc : chardet.2 < lowc <;> simp [hc]

theorem file_reader_enter_init (src : Src) (encoding : String) (det : Option String) :
    file_reader_enter (initSpec src encoding det) =
      some ({ initSpec src encoding det with f := some (streamOf src (effEncoding src encoding det)) },
        some (streamOf src (effEncoding src encoding det))) := by
  cases src <;>
    simp [file_reader_enter, file_reader_enter.body, Py.seq, Py.bind, Py.skip, Py.finish, initSpec, Src.isText, Src.isBytes,
      Src.optIsBytes, Src.wrap, Src.openR, streamOf]

theorem parse_swc_extras_eq (xs : Option (List String)) : parse_swc_extras xs = some (normExtras xs, ()) := by
  rcases xs with _ | ⟨_ | ⟨a, l⟩⟩ <;>
    simp [parse_swc_extras, parse_swc_extras.body, Py.bind, Py.finish, Py.optListTruthy, Py.optList, normExtras]

/-- **`FileReader(fname, encoding=encoding).__enter__()` never fails** (on a codec name Python knows), whatever the source and the options;
it returns the stream `streamOf`, read with the effective encoding -/
theorem openReader_eq (src : Src) (encoding : String) (lowc : F) (chardet : Option String × F) :
    openReader src encoding lowc chardet =
      some (detectWarn src encoding lowc chardet,
        { initSpec src encoding chardet.1 with f := some (streamOf src (effEncoding src encoding chardet.1)) },
        streamOf src (effEncoding src encoding chardet.1)) := by
  simp [openReader, file_reader_init_eq, file_reader_enter_init]

/-! ## `SWCNames.cols`, `get_names`, the first half of `read_swc`, the prologue of `parse_swc` -/

/-- `names.cols()`: id, type, x, y, z, r, pid - in this order -/
def namesCols (nm : SWCNames7) : List String := [nm.id, nm.type, nm.x, nm.y, nm.z, nm.r, nm.pid]

/-- `swc_names = SWCNames()`: the defaults of the class (extracted from the source on every run) -/
def defaultNames : SWCNames7 :=
  ⟨Gen.Consts.name_id, Gen.Consts.name_type, Gen.Consts.name_x, Gen.Consts.name_y, Gen.Consts.name_z, Gen.Consts.name_r, Gen.Consts.name_pid⟩

theorem swc_names_cols_eq (nm : SWCNames7) : swc_names_cols nm = some (namesCols nm) := rfl

theorem namesCols_length (nm : SWCNames7) : (namesCols nm).length = 7 := rfl

theorem get_names_eq (names : Option SWCNames7) : get_names names = some (names.getD defaultNames) := rfl

/-- **the first half of `read_swc`**: the names are defaulted, and `parse_swc` receives the file, THESE names, `extra_cols` and `encoding` -/
theorem read_swc_front_eq {DF CM : Type} [Inhabited DF] [Inhabited CM]
    (P : Src → SWCNames7 → Option (List String) → String → Option (DF × CM)) (src : Src) (xs : Option (List String)) (encoding : String)
    (names : Option SWCNames7) :
    read_swc_front P src xs encoding names =
      (P src (names.getD defaultNames) xs encoding).map fun r => (names.getD defaultNames, r.1, r.2, ()) := by
  simp only [read_swc_front, read_swc_front.body, Py.seq, Py.bind, get_names_eq]
  cases P src (names.getD defaultNames) xs encoding <;> rfl

/-- the seven fixed groups of the regular expression -/
def reCols7 : List String :=
  ["([0-9]+)", "([0-9]+)", Gen.Consts.reFloat, Gen.Consts.reFloat, Gen.Consts.reFloat, Gen.Consts.reFloat, "(-?[0-9]+)"]

/-- the TEXT of `re_swc` for `k` extra columns: leading blanks, the `7 + k` groups separated by `\s+`, the optional tail, trailing blanks -/
def reSwcText (k : Nat) : String :=
  "^\\s*" ++ Py.strJoin "\\s+" (reCols7 ++ List.replicate k Gen.Consts.reFloat) ++ "((?:\\s+[+-.0-9eE]+)*)\\s*$"

theorem prologue_for1 : ∀ (xs : List String) (v : parse_swc_prologue.V),
    Py.forEach parse_swc_prologue.for1 xs v =
      .next { v with c0_ := v.c0_ ++ List.replicate xs.length 1, underscore_ := RefineParse.lastOr xs v.underscore_ } := by
  intro xs
  induction xs with
  | nil => intro v; simp [Py.forEach, RefineParse.lastOr]
  | cons x xs ih =>
    intro v
    simp [Py.forEach, parse_swc_prologue.for1, ih, List.replicate_succ, RefineParse.lastOr]

theorem prologue_for2 : ∀ (xs : List String) (v : parse_swc_prologue.V),
    Py.forEach parse_swc_prologue.for2 xs v =
      .next { v with c2_ := v.c2_ ++ List.replicate xs.length Gen.Consts.reFloat, underscore_ := RefineParse.lastOr xs v.underscore_ } := by
  intro xs
  induction xs with
  | nil => intro v; simp [Py.forEach, RefineParse.lastOr]
  | cons x xs ih =>
    intro v
    simp [Py.forEach, parse_swc_prologue.for2, ih, List.replicate_succ, RefineParse.lastOr]

/-- **the prologue of `parse_swc`**: `int, int, float ×4, int` then `float` per extra column (0 = int, 1 = float); the regular expression
text depends on the extras only through their NUMBER; the trailing group is group `7 + k + 1`; the header is `' '.join(names.cols())` -/
theorem parse_swc_prologue_eq (nm : SWCNames7) (extras : List String) :
    parse_swc_prologue nm extras =
      some ([0, 0, 1, 1, 1, 1, 0] ++ List.replicate extras.length 1, reSwcText extras.length, 7 + (extras.length : Int) + 1,
        Py.strJoin " " (namesCols nm), ()) := by
  simp [parse_swc_prologue, parse_swc_prologue.body, Py.seq, Py.bindS, Py.bind, prologue_for1, prologue_for2, swc_names_cols_eq,
    Py.finish, Py.len, reSwcText, reCols7]

/-! ## `Tree.from_swc`, the `extra_cols` of `Tree.from_eswc` -/

/-- the names of `eswc_cols` (core/swc.py), in order -/
def eswcNames : List String := ["level", "mode", "timestamp", "teraflyindex", "feature_value"]

/-- **`Tree.from_eswc` hands `from_swc` the caller's extra columns (none for `None`) FOLLOWED by the five eswc columns, in a NEW list** -/
theorem from_eswc_extras_eq (xs : Option (List String)) : from_eswc_extras xs = some (normExtras xs ++ eswcNames, ()) := by
  cases xs <;>
    simp [from_eswc_extras, from_eswc_extras.body, from_eswc_extras.for1, Py.seq, Py.bind, Py.bindS, Py.forEach, Py.optList, Py.finish,
      normExtras, eswcNames]

/-- the exception `Tree.from_swc` raises instead of whatever `read_swc` raised -/
def wrapExc : Py.Exc := ⟨"ValueError", "fails to read swc: {swc_file}", []⟩

/-- `source`: the absolute path of a `str` file name, `""` for a stream -/
def sourceOf (abspath : String → String) : Src → String
  | .path n => abspath n
  | _ => ""

/-- **`Tree.from_swc`**: every `Exception` of `read_swc` becomes `ValueError("fails to read swc: …")` (the table is never built from a failed
read); otherwise `from_data_frame` receives exactly the table and the comments `read_swc` returned and `source`, and its own exceptions
propagate unwrapped -/
theorem tree_from_swc_eq {KW DF CM T : Type} [Inhabited KW] [Inhabited DF] [Inhabited CM] [Inhabited T]
    (R : Src → KW → Except Py.Exc (DF × CM)) (Fd : DF → String → CM → Except Py.Exc T) (abspath : String → String) (src : Src) (kw : KW) :
    tree_from_swc R Fd abspath src kw =
      some (match R src kw with
        | .error e => if e.isA "Exception" then .error wrapExc else .error e
        | .ok r => Fd r.1 (sourceOf abspath src) r.2) := by
  have hsrc : (if src.isStr then src.strName.bind fun t0 => some (abspath t0) else some "") = some (sourceOf abspath src) := by
    cases src <;> rfl
  simp only [tree_from_swc, tree_from_swc.body, tree_from_swc.try1_body, tree_from_swc.try1_handler, Py.seq, Py.tryExcept, Py.raise, Py.bind]
  cases hR : R src kw with
  | error e => by_cases hi : e.isA "Exception" <;> simp [hi, Py.finishX, wrapExc]
  | ok r =>
    simp only [hsrc]
    cases Fd r.1 _ r.2 <;> rfl

/-! ## the composition -/
section compose
variable {L Val C σ : Type} [Inhabited L] [Inhabited Val] [Inhabited C] [Inhabited σ]
variable (linesOf : Src → Py.Stream L) (rowOf : L → Option (List Val × Bool)) (commentOf : L → Option C) (isHeader : C → Bool)
  (blank : L → Bool)

/-- the stream the read loop iterates: the lines of what `__enter__` returned -/
def linesRead (src : Src) (encoding : String) (det : Option String) : Py.Stream L :=
  linesOf (streamOf src (effEncoding src encoding det))

/-- **`parse_swc` front to back is the generated read loop on the keys `names.cols()`, the normalised extra columns, an OPEN reader and the
lines of the stream `__enter__` returned** - for every source kind and every option; the only further effect of the front end is the
low-confidence warning -/
theorem parseSwcFull_eq (nm : SWCNames7) (xs : Option (List String)) (src : Src) (encoding : String) (lowc : F)
    (chardet : Option String × F) :
    parseSwcFull linesOf rowOf commentOf isHeader blank nm xs src encoding lowc chardet =
      (parse_swc rowOf commentOf isHeader blank (namesCols nm) (normExtras xs) ⟨some (), false⟩ (linesRead linesOf src encoding chardet.1)).map
        fun p => (detectWarn src encoding lowc chardet, p) := by
  simp [parseSwcFull, parse_swc_extras_eq, swc_names_cols_eq, openReader_eq, toParseReader, linesRead]

/-- the tail of `read_swc` on the columns of a parsed table -/
def backStages (intOf : Val → Int) (norm : σ → Int → σ × List Int) (fuel : Nat) (nm : SWCNames7) (mode : Option String) (srt rst : Bool)
    (cbs : σ) (wd : List Int) (wp : List Py.Exc) (df : Py.Dict String (List Val)) (cs : List C) : Option (Except Py.Exc (Out Val C σ)) :=
  (colInt intOf df nm.id).bind fun ids => (colInt intOf df nm.pid).bind fun pids =>
  (colInt intOf df nm.type).bind fun types => (colInt intOf df nm.r).bind fun rs =>
  (RefineRepair.fixStage norm fuel ids pids types mode cbs).bind fun f =>
    (RefineRepair.normStage fuel ids f.1 f.2.1 rs srt rst).bind fun g =>
      (RefineRepair.checkStage fuel g.1 g.2.1 g.2.2.2).map fun w =>
        .ok ⟨df, cs, g.1, g.2.1, g.2.2.1, g.2.2.2, wd, wp, w, f.2.2⟩

/-- **`read_swc` is: the generated read loop (as above, under the defaulted names); an exception of the loop is the exception of the call,
whatever the options; otherwise repair → normalisation → checks of the translated callees on the columns `df[names.id]`, `df[names.pid]`,
`df[names.type]`, `df[names.r]`** -/
theorem readSwcFull_eq (intOf : Val → Int) (norm : σ → Int → σ × List Int) (fuel : Nat) (src : Src)
    (xs : Option (List String)) (mode : Option String) (srt rst : Bool) (encoding : String) (names : Option SWCNames7) (lowc : F)
    (chardet : Option String × F) (cbs : σ) :
    readSwcFull linesOf rowOf commentOf isHeader blank intOf norm fuel src xs mode srt rst encoding names lowc chardet cbs =
      (parse_swc rowOf commentOf isHeader blank (namesCols (names.getD defaultNames)) (normExtras xs) ⟨some (), false⟩
          (linesRead linesOf src encoding chardet.1)).bind
        fun p => match p.2.2 with
          | .error e => some (.error e)
          | .ok (df, cs) =>
            backStages intOf norm fuel (names.getD defaultNames) mode srt rst cbs (detectWarn src encoding lowc chardet) p.1 df cs := by
  simp only [readSwcFull, read_swc_front_eq, parseSwcFull_eq, Option.bind_map, Option.map_map]
  refine congrArg _ (funext fun p => ?_)
  rcases p with ⟨ws, rd, (e | ⟨df, cs⟩)⟩
  · rfl
  · simp only [Function.comp, backStages, RefineRepair.readFix_stages, Py.map_bind, Option.map_map]
    rfl

end compose

end RefineReadFront
