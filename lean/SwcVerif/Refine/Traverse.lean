import SwcVerif.Gen.AlgoTraverse
import SwcVerif.Refine.PyLemmas
import SwcVerif.Proofs.Traverse
/-! Refinement for C04: the definition GENERATED from `swcgeom/core/swc_utils/base.py::_traverse_dfs`
(`Gen.Algo.traverse_dfs`, regenerated from the current source on every run: the children map built by the
`for … zip(*topology)` loop, the explicit stack as a Python list with `append` / `pop` at the END, the two
dictionaries `params` / `vals` with `pop`) computes the structural recursion `Trav.spec` on every tree the table
represents — directly, by induction over the rose tree, without going through the hand-written step machine. -/
namespace RefineTrav
open Gen.Algo Trav Py

variable {σ T K : Type} [Inhabited σ] [Inhabited T] [Inhabited K]
variable (enter : σ → Int → Option T → σ × T) (leave : σ → Int → List K → σ × K)

/-- the children map of `v` is the table's: `children_map.get(k, []) = tableKids ids pids k` -/
def CM (kidsOf : Int → List Int) (v : traverse_dfs.V σ T K) : Prop :=
  ∀ k, Dict.getD v.children_map k [] = kidsOf k

/-- what no step of the loop changes -/
def Same (v v' : traverse_dfs.V σ T K) : Prop := v'.children_map = v.children_map ∧ v'.root = v.root

theorem Same.refl (v : traverse_dfs.V σ T K) : Same v v := ⟨rfl, rfl⟩
theorem Same.trans {a b c : traverse_dfs.V σ T K} (h1 : Same a b) (h2 : Same b c) : Same a c :=
  ⟨h2.1.trans h1.1, h2.2.trans h1.2⟩
theorem CM.of_same {kidsOf : Int → List Int} {v v' : traverse_dfs.V σ T K} (h : CM kidsOf v) (s : Same v v') :
    CM kidsOf v' := by
  intro k; rw [s.1]; exact h k

/-! ### the two inner loops -/

theorem for2_loop : ∀ (cs : List Int) (v : traverse_dfs.V σ T K),
    ∃ v', forEach (traverse_dfs.for2 enter leave) cs v = .next v' ∧
      v'.stack = v.stack ++ cs.map (fun c => (c, true)) ∧
      (∀ k, Dict.get? v'.params k = if k ∈ cs then some (some v.cur) else Dict.get? v.params k) ∧
      v'.vals = v.vals ∧ v'.cbs = v.cbs ∧ v'.cur = v.cur ∧ Same v v' := by
  intro cs
  induction cs with
  | nil => intro v; exact ⟨v, rfl, by simp, by simp, rfl, rfl, rfl, Same.refl v⟩
  | cons c cs ih =>
    intro v
    obtain ⟨v', e, h1, h2, h3, h4, h5, h6⟩ := ih
      { v with child := c, stack := v.stack ++ [(c, true)], params := Dict.set v.params c (some v.cur) }
    refine ⟨v', e, by rw [h1, List.append_assoc]; rfl, fun k => ?_, h3, h4, h5, h6⟩
    rw [h2 k, Dict.get?_set]
    by_cases hk : k ∈ cs <;> by_cases hc : k = c <;> simp [hk, hc]

theorem for3_loop : ∀ (cs : List Int) (v : traverse_dfs.V σ T K) (vs : List K), cs.Nodup →
    cs.map (fun c => Dict.get? v.vals c) = vs.map some →
    ∃ v', forEach (traverse_dfs.for3 enter leave) cs v = .next v' ∧
      v'.c6_ = v.c6_ ++ vs ∧
      (∀ k, Dict.get? v'.vals k = if k ∈ cs then none else Dict.get? v.vals k) ∧
      v'.stack = v.stack ∧ v'.params = v.params ∧ v'.cbs = v.cbs ∧ v'.idx = v.idx ∧ Same v v' := by
  intro cs
  induction cs with
  | nil =>
    intro v vs _ h
    have : vs = [] := by cases vs <;> simp_all
    subst this
    exact ⟨v, rfl, by simp, by simp, rfl, rfl, rfl, rfl, Same.refl v⟩
  | cons c cs ih =>
    intro v vs hnd h
    cases vs with
    | nil => simp at h
    | cons x vs =>
      obtain ⟨hx, hrest⟩ := List.cons.inj h
      obtain ⟨hc, hnd⟩ := List.nodup_cons.1 hnd
      obtain ⟨v', e, h1, h2, h3, h4, h5, h6, h7⟩ := ih
        { v with i := c, vals := v.vals.filter (fun p => p.1 ≠ c), c6_ := v.c6_ ++ [x] } vs hnd
        (hrest ▸ List.map_congr_left fun c' hc' => by rw [Dict.get?_filter_ne, if_neg fun e : c' = c => hc (e ▸ hc')])
      refine ⟨v', ?_, by rw [h1, List.append_assoc]; rfl, fun k => ?_, h3, h4, h5, h6, h7⟩
      · simp only [forEach, traverse_dfs.for3, Py.bind, Dict.pop_of_get? v.vals c x hx]
        exact e
      · rw [h2 k, Dict.get?_filter_ne]
        by_cases hk : k ∈ cs <;> by_cases hc : k = c <;> simp [hk, hc]

/-! ### one iteration of the `while` loop -/

theorem cond_eq (v : traverse_dfs.V σ T K) :
    traverse_dfs.while4_cond enter leave v = some (decide (v.stack ≠ [])) := by
  simp only [traverse_dfs.while4_cond, len_eq, ne_eq, Int.natCast_eq_zero, List.length_eq_zero_iff]

/-- an `enter` iteration -/
theorem enter_step (kidsOf : Int → List Int) (v : traverse_dfs.V σ T K) (S : List (Int × Bool)) (i : Int)
    (pv : Option T) (hcm : CM kidsOf v) (hs : v.stack = S ++ [(i, true)]) (hp : Dict.get? v.params i = some pv) :
    ∃ v', traverse_dfs.while4_body enter leave v = .next v' ∧
      v'.stack = S ++ (i, false) :: (kidsOf i).map (fun c => (c, true)) ∧
      (∀ k, Dict.get? v'.params k = if k ∈ kidsOf i then some (some (enter v.cbs i pv).2)
          else if k = i then none else Dict.get? v.params k) ∧
      v'.vals = v.vals ∧ v'.cbs = (enter v.cbs i pv).1 ∧ Same v v' := by
  obtain ⟨v', e, h1, h2, h3, h4, -, h6⟩ := for2_loop enter leave (kidsOf i)
    { v with stack := S ++ [(i, false)], idx := i, is_enter := true, params := v.params.filter (fun p => p.1 ≠ i),
             pre := pv, cbs := (enter v.cbs i pv).1, cur := (enter v.cbs i pv).2 }
  refine ⟨v', ?_, by rw [h1, List.append_assoc]; rfl, fun k => by rw [h2 k, Dict.get?_filter_ne], h3, h4, h6⟩
  simp only [traverse_dfs.while4_body, seq, Py.bind, hs, pop_append, if_true, Dict.pop_of_get? v.params i pv hp]
  rw [hcm i]
  exact e

/-- a `leave` iteration -/
theorem leave_step (kidsOf : Int → List Int) (v : traverse_dfs.V σ T K) (S : List (Int × Bool)) (i : Int)
    (vs : List K) (hcm : CM kidsOf v) (hs : v.stack = S ++ [(i, false)]) (hnd : (kidsOf i).Nodup)
    (hv : (kidsOf i).map (fun c => Dict.get? v.vals c) = vs.map some) :
    ∃ v', traverse_dfs.while4_body enter leave v = .next v' ∧
      v'.stack = S ∧
      (∀ k, Dict.get? v'.vals k = if k = i then some (leave v.cbs i vs).2
          else if k ∈ kidsOf i then none else Dict.get? v.vals k) ∧
      v'.params = v.params ∧ v'.cbs = (leave v.cbs i vs).1 ∧ Same v v' := by
  obtain ⟨v', e, h1, h2, h3, h4, h5, h6, h7⟩ := for3_loop enter leave (kidsOf i)
    { v with stack := S, idx := i, is_enter := false, c6_ := [] } vs hnd hv
  refine ⟨{ v' with children := v'.c6_, cbs := (leave v'.cbs v'.idx v'.c6_).1,
                    vals := Dict.set v'.vals v'.idx (leave v'.cbs v'.idx v'.c6_).2 }, ?_, h3, fun k => ?_, h4, ?_, h7⟩
  · simp only [traverse_dfs.while4_body, seq, Py.bind, bindS, hs, pop_append, Bool.false_eq_true, if_false]
    rw [hcm i, e]
  · simp only [Dict.get?_set, h6, h5, h1, List.nil_append, h2 k]
  · simp only [h5, h6, h1, List.nil_append]

/-! ### the whole loop, by induction over the tree -/

section main
variable (kidsOf : Int → List Int)

local notation "LOOP" => whileF (traverse_dfs.while4_cond enter leave) (traverse_dfs.while4_body enter leave)

theorem step_loop (F : Nat) (v v' : traverse_dfs.V σ T K) (hne : v.stack ≠ [])
    (hb : traverse_dfs.while4_body enter leave v = .next v') : LOOP (F + 1) v = LOOP F v' :=
  whileF_next _ _ F v v' (by simp [cond_eq, hne]) hb

mutual
theorem gmain (r : Rose) (hA : Agrees kidsOf r) (hD : r.ids.Nodup) :
    ∀ (v : traverse_dfs.V σ T K) (S : List (Int × Bool)) (pv : Option T) (F : Nat), CM kidsOf v →
      v.stack = S ++ [(r.id, true)] → Dict.get? v.params r.id = some pv →
      ∃ v', LOOP (2 * r.size + F) v = LOOP F v' ∧ v'.stack = S ∧
        v'.cbs = (spec enter leave r pv v.cbs).1 ∧
        Dict.get? v'.vals r.id = some (spec enter leave r pv v.cbs).2 ∧
        (∀ j, j ∉ r.ids → Dict.get? v'.vals j = Dict.get? v.vals j) ∧
        (∀ j, j ∉ r.ids → Dict.get? v'.params j = Dict.get? v.params j) ∧ Same v v' := by
  match r, hA, hD with
  | .node i ks, ⟨hk, hAL⟩, hD =>
    intro v S pv F hcm hs hp
    obtain ⟨-, hDL⟩ := List.nodup_cons.1 hD
    -- enter
    obtain ⟨v1, e1, s1, p1, vl1, c1, sm1⟩ := enter_step enter leave kidsOf v S i pv hcm hs hp
    rw [show 2 * (Rose.node i ks).size + F = (2 * sizeL ks + (F + 1)) + 1 by simp only [Rose.size]; omega,
      step_loop enter leave _ v v1 (by simp [hs]) e1]
    -- the children
    obtain ⟨v2, e2, s2, c2, vl2, fv2, fp2, sm2⟩ :=
      gmainL ks hAL hDL v1 (S ++ [(i, false)]) (enter v.cbs i pv).2 (F + 1) (hcm.of_same sm1)
        (by rw [s1, hk, List.map_map, List.append_assoc]; rfl)
        (fun k hkm => by rw [p1, if_pos (hk ▸ List.mem_map_of_mem hkm)])
    rw [e2]
    rw [c1] at c2 vl2
    -- leave
    obtain ⟨v3, e3, s3, vl3, p3, c3, sm3⟩ := leave_step enter leave kidsOf v2 S i _
      ((hcm.of_same sm1).of_same sm2) s2 (hk ▸ hDL.sublist (kidIds_sublist ks))
      (by rw [hk, List.map_map]; exact vl2)
    rw [step_loop enter leave F v2 v3 (by simp [s2]) e3]
    have out : ∀ j, j ∉ (Rose.node i ks).ids → j ≠ i ∧ j ∉ kidsOf i ∧ j ∉ idsL ks := fun j hj =>
      ⟨fun e => hj (e ▸ List.mem_cons_self), hk ▸ not_mem_kids (mt (List.mem_cons_of_mem _) hj), mt (List.mem_cons_of_mem _) hj⟩
    refine ⟨v3, rfl, s3, ?_, ?_, fun j hj => ?_, fun j hj => ?_, (sm1.trans sm2).trans sm3⟩
    · rw [c3, c2]; rfl
    · rw [show (Rose.node i ks).id = i from rfl, vl3 i, if_pos rfl, c2]; rfl
    · obtain ⟨h1, h2, h3⟩ := out j hj
      rw [vl3 j, if_neg h1, if_neg h2, fv2 j h3, vl1]
    · obtain ⟨h1, h2, h3⟩ := out j hj
      rw [p3, fp2 j h3, p1 j, if_neg h2, if_neg h1]

theorem gmainL (ks : List Rose) (hA : AgreesL kidsOf ks) (hD : (idsL ks).Nodup) :
    ∀ (v : traverse_dfs.V σ T K) (S : List (Int × Bool)) (cur : T) (F : Nat), CM kidsOf v →
      v.stack = S ++ ks.map (fun k => (k.id, true)) →
      (∀ k ∈ ks, Dict.get? v.params k.id = some (some cur)) →
      ∃ v', LOOP (2 * sizeL ks + F) v = LOOP F v' ∧ v'.stack = S ∧
        v'.cbs = (specRev enter leave ks cur v.cbs).1 ∧
        ks.map (fun k => Dict.get? v'.vals k.id) = (specRev enter leave ks cur v.cbs).2.map some ∧
        (∀ j, j ∉ idsL ks → Dict.get? v'.vals j = Dict.get? v.vals j) ∧
        (∀ j, j ∉ idsL ks → Dict.get? v'.params j = Dict.get? v.params j) ∧ Same v v' := by
  match ks, hA, hD with
  | [], _, _ =>
    intro v S cur F _ hs _
    exact ⟨v, by simp [sizeL], by simpa using hs, rfl, rfl, fun _ _ => rfl, fun _ _ => rfl, Same.refl v⟩
  | r :: rs, ⟨hAr, hArs⟩, hD =>
    intro v S cur F hcm hs hp
    obtain ⟨hDr, hDrs, hdisj⟩ := List.nodup_append.1 hD
    -- the later siblings are on top of the stack: they run first
    obtain ⟨v1, e1, s1, c1, vl1, fv1, fp1, sm1⟩ := gmainL rs hArs hDrs v (S ++ [(r.id, true)]) cur (2 * r.size + F) hcm
      (by rw [hs]; simp) (fun k hk => hp k (List.mem_cons_of_mem _ hk))
    rw [show 2 * sizeL (r :: rs) + F = 2 * sizeL rs + (2 * r.size + F) by simp only [sizeL]; omega, e1]
    have hrid : r.id ∉ idsL rs := fun hm => hdisj r.id (ids_head r) r.id hm rfl
    obtain ⟨v2, e2, s2, c2, vl2, fv2, fp2, sm2⟩ := gmain r hAr hDr v1 S (some cur) F (hcm.of_same sm1) s1
      ((fp1 r.id hrid).trans (hp r List.mem_cons_self))
    refine ⟨v2, e2, s2, ?_, ?_, fun j hj => ?_, fun j hj => ?_, sm1.trans sm2⟩
    · rw [c2, c1]; rfl
    · simp only [List.map_cons, specRev, vl2, c1, ← vl1]
      exact congrArg (_ :: ·) (List.map_congr_left fun k hk => fv2 _ fun hm => hdisj _ hm _ (mem_idsL_of_mem hk) rfl)
    · obtain ⟨hj1, hj2⟩ := not_or.1 (mt List.mem_append.2 hj)
      rw [fv2 j hj1, fv1 j hj2]
    · obtain ⟨hj1, hj2⟩ := not_or.1 (mt List.mem_append.2 hj)
      rw [fp2 j hj1, fp1 j hj2]
end
end main

/-! ### the children map -/

/-- `children_map.setdefault(pid, []); children_map[pid].append(idx)` over the rows appends `tableKids` to every entry -/
theorem for1_loop : ∀ (ids pids : List Int) (v : traverse_dfs.V σ T K),
    ∃ v', forEach (traverse_dfs.for1 enter leave) (Py.zip ids pids) v = .next v' ∧
      (∀ k, Dict.getD v'.children_map k [] = Dict.getD v.children_map k [] ++ tableKids ids pids k) ∧
      v'.stack = v.stack ∧ v'.params = v.params ∧ v'.vals = v.vals ∧ v'.cbs = v.cbs ∧ v'.root = v.root
  | [], _, v | _ :: _, [], v => ⟨v, by simp [Py.zip, forEach], by simp [tableKids], rfl, rfl, rfl, rfl, rfl⟩
  | i :: is, p :: ps, v => by
    obtain ⟨v', e, h1, h⟩ := for1_loop is ps
      { v with idx := i, pid := p,
               children_map := Dict.set (Dict.setdefault v.children_map p []) p (Dict.getD v.children_map p [] ++ [i]) }
    refine ⟨v', ?_, fun k => ?_, h⟩
    · simp only [Py.zip, List.zip_cons_cons, forEach, traverse_dfs.for1, seq, Py.bind, Dict.get?_setdefault_self]
      exact e
    · rw [h1 k, Dict.getD_eq, Dict.get?_set]
      show _ = _ ++ if p = k then i :: tableKids is ps k else tableKids is ps k
      by_cases hk : k = p
      · subst hk; rw [if_pos rfl, if_pos rfl, Option.getD_some, List.append_assoc]; rfl
      · rw [if_neg hk, if_neg (Ne.symm hk), ← Dict.getD_eq, Dict.getD_setdefault]

/-- **`_traverse_dfs` as translated on this run is structural recursion**: for every table that represents a tree
`r` (any shape, any numbering, any depth), every pair of (stateful) callbacks and every sufficient fuel, the generated
function returns exactly `Trav.spec` at the root: each node entered once after its parent with the parent's value,
left once after all its children with exactly their values; no exception is raised. -/
theorem traverse_refines (ids pids : List Int) (r : Rose) (hR : Represents r ids pids) (s : σ) (F : Nat) :
    traverse_dfs enter leave (2 * r.size + F + 1) (ids, pids) r.id s = some (spec enter leave r none s) := by
  obtain ⟨hA, hD⟩ := hR
  obtain ⟨v1, e1, cm1, -, -, -, c1, r1⟩ := for1_loop enter leave ids pids
    { (default : traverse_dfs.V σ T K) with topology := (ids, pids), root := r.id, cbs := s, children_map := [] }
  obtain ⟨v3, e3, s3, c3, vl3, -, -, sm3⟩ := gmain enter leave (tableKids ids pids) r hA hD
    { v1 with stack := [(v1.root, true)], params := Dict.set ([] : Py.Dict Int (Option T)) v1.root none, vals := [] }
    [] none (F + 1) (fun k => by simpa [Dict.getD_eq] using cm1 k) (by simp [r1]) (by simp [r1, Dict.get?_set])
  rw [whileF_done _ _ F v3 (by simp [cond_eq, s3])] at e3
  simp only [traverse_dfs, traverse_dfs.body, seq, e1]
  rw [show 2 * r.size + F + 1 = 2 * r.size + (F + 1) from rfl, e3]
  simp only [Py.bind, sm3.2, r1, vl3, finish, Option.map, c3, c1]

end RefineTrav
