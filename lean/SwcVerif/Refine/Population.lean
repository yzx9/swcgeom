import SwcVerif.Gen.AlgoPopulation
import SwcVerif.Refine.PyRun
import SwcVerif.Props.C19
/-! Refinement for C19: the definitions GENERATED from `swcgeom/core/population.py` (`_get_idx`, `NestTrees.__getitem__`,
the binary-search loop of `ChainTrees.__getitem__` — the method as a whole, `__init__` and `__len__` are in `Props/C19Gen.lean` —,
`LazyLoadingTrees.load / __getitem__` with the file reads as a state-passing callback) compute what the models of `Model/Population.lean`
compute. -/
namespace RefinePop
open Gen.Algo Pop Py

def castL (l : List Nat) : List Int := l.map (fun (k : Nat) => (k : Int))
@[simp] theorem castL_length (l : List Nat) : (castL l).length = l.length := by simp [castL]
theorem castL_getElem? (l : List Nat) (i : Nat) : (castL l)[i]? = (l[i]?).map (fun (k : Nat) => (k : Int)) := by
  simp [castL]

theorem castL_nodup (l : List Nat) (h : l.Nodup) : (castL l).Nodup :=
  List.Pairwise.map _ (fun _ _ hab c => hab (Int.ofNat.inj c)) h

theorem idx_castL (l : List Nat) (i : Nat) (hi : i < l.length) : Py.idx (castL l) (i : Int) = some ((l.getD i 0 : Nat) : Int) := by
  rw [idx_nat _ _ (by simpa using hi), castL_getElem?]
  simp [List.getD, hi]

/-- `_get_idx(key, length)` -/
theorem getIdx_refines (key : Int) (n : Nat) :
    pop_get_idx key (n : Int) = (getIdx key n).map (fun (k : Nat) => (k : Int)) := by
  unfold getIdx
  by_cases hc : (decide (key < -(n : Int)) || decide (key ≥ (n : Int))) = true
  · simp only [pop_get_idx, pop_get_idx.body, seq, hc, if_true]; rfl
  · have h0 : 0 ≤ (if key < 0 then key + n else key) := by
      simp only [Bool.or_eq_true, decide_eq_true_eq, not_or] at hc
      split <;> omega
    simp only [pop_get_idx, pop_get_idx.body, seq_eq_bindS, hc, Bool.false_eq_true, if_false, skip_apply, bindS_next, decide_eq_true_eq,
      Option.map_some, Int.toNat_of_nonneg h0]
    split <;> rfl

theorem normIdx_eq_getIdx (n : Nat) (key : Int) : normIdx n key = getIdx key n := by
  obtain ⟨-, s2, s3, -⟩ := C19.getIdx_spec key n
  cases key with
  | ofNat k =>
    by_cases hk : k < n
    · exact (normIdx_nat n k hk).trans (C19.getIdx_nat hk).symm
    · exact (normIdx_nat_none n k hk).trans (s3 (Or.inr (Int.ofNat_le.2 (Nat.le_of_not_lt hk)))).symm
  | negSucc k =>
    have e : (-(Int.negSucc k)).toNat = k + 1 := rfl
    rw [normIdx, if_neg (Int.negSucc_not_nonneg k).1, e]
    split
    · rw [s2 (by omega) (Int.negSucc_lt_zero k)]; congr 1; omega
    · rw [s3 (Or.inl (by omega))]

/-- `NestTrees(trees, idx)[key]` on a valid key reads `trees[idx[key]]` (plain Python list indexing, negative keys wrap) -/
theorem nest_refines (trees idx : List Int) (key : Int) (k : Nat) (h : getIdx key idx.length = some k) :
    nest_getitem ⟨trees, idx⟩ key = (idx[k]?).bind (fun j => Py.idx trees j) := by
  have hk : Py.idx idx key = idx[k]? := by simp only [Py.idx, normIdx_eq_getIdx, h]
  simp only [nest_getitem, nest_getitem.body, Py.bind, hk]
  cases idx[k]? with
  | none => rfl
  | some j => simp only [Option.bind_some]; cases Py.idx trees j <;> rfl

/-! ### ChainTrees -/

theorem bsearch_body (trees : List (List Int)) (cum : List Nat) (idx i j : Nat) (v : chain_getitem.V)
    (hmid : (i + j) / 2 < cum.length) (hs : v.self = ⟨trees, castL cum⟩) (hi : v.i = (i : Int)) (hj : v.j = (j : Int))
    (hidx : v.idx = (idx : Int)) :
    chain_getitem.while1_body v = .next (if cum.getD ((i + j) / 2) 0 ≤ idx
      then { v with mid := (((i + j) / 2 : Nat) : Int), i := (((i + j) / 2 : Nat) : Int) + 1 }
      else { v with mid := (((i + j) / 2 : Nat) : Int), j := (((i + j) / 2 : Nat) : Int) }) := by
  have hmid' : Int.fdiv ((i : Int) + (j : Int)) 2 = (((i + j) / 2 : Nat) : Int) := by
    rw [Int.fdiv_eq_ediv_of_nonneg _ (by decide)]; exact (Int.natCast_ediv (i + j) 2).symm
  simp only [chain_getitem.while1_body, seq, Py.bind, hi, hj, hmid', hs, idx_castL cum _ hmid, hidx, Int.ofNat_le, decide_eq_true_eq]
  split <;> rfl

/-- the bound `j < len(cumsum)` keeps every probe inside the array; `F` passes suffice for an interval of length below `F` -/
theorem bsearch_refines (trees : List (List Int)) (cum : List Nat) (idx : Nat) :
    ∀ (F i j : Nat) (v : chain_getitem.V), j < cum.length → i ≤ j → j < i + F →
      v.self = ⟨trees, castL cum⟩ → v.i = (i : Int) → v.j = (j : Int) → v.idx = (idx : Int) →
      ∃ v', whileF chain_getitem.while1_cond chain_getitem.while1_body F v = .next v' ∧
        v'.i = ((bsearch cum idx F i j : Nat) : Int) ∧ v'.idx = v.idx ∧ v'.self = v.self := by
  intro F
  induction F with
  | zero => intro i j v _ hij hF; exact absurd hF (Nat.not_lt_of_le hij)
  | succ F ih =>
    intro i j v hjm hij hF hs hi hj hidx
    have hc : chain_getitem.while1_cond v = some (decide (i < j)) := by
      simp only [chain_getitem.while1_cond, hi, hj, Int.ofNat_lt]
    rw [C19.bsearch_succ]
    by_cases hlt : i < j
    · obtain ⟨m1, m2⟩ := C19.mid_mem hlt
      have hb := bsearch_body trees cum idx i j v (Nat.lt_trans m2 hjm) hs hi hj hidx
      rw [if_pos hlt, whileF_next _ _ F v _ (hc.trans (congrArg some (decide_eq_true hlt))) hb]
      generalize (i + j) / 2 = mid at m1 m2 ⊢
      split
      · exact ih (mid + 1) j _ hjm m2 (by omega) hs (by simp) hj hidx
      · exact ih i mid _ (Nat.lt_trans m2 hjm) m1 (by omega) hs hi rfl hidx
    · rw [if_neg hlt]
      exact ⟨v, whileF_done _ _ F v (by rw [hc, decide_eq_false hlt]), hi, rfl, rfl⟩

/-! ### LazyLoadingTrees: the file reads are a state-passing callback whose state is the read log -/

/-- the generated object represents the model state: file `i` is `swcs[i]`, slot `i` holds its tree iff it is cached -/
structure LRep (g : LazyLoadingTrees) (l : Lazy) : Prop where
  hs : g.swcs = castL (List.range l.cache.length)
  ht : g.trees.length = l.cache.length
  hc : ∀ i, i < l.cache.length → g.trees[i]? = some (if l.cache[i]?.getD true = true then some (i : Int) else none)

def rep (l : Lazy) : LazyLoadingTrees :=
  ⟨castL (List.range l.cache.length),
    (List.range l.cache.length).map fun (i : Nat) => if l.cache[i]?.getD true = true then some (i : Int) else none⟩

theorem rep_spec (l : Lazy) : LRep (rep l) l :=
  ⟨rfl, by simp [rep], fun i hi => by simp [rep, hi]⟩

theorem LRep.eq_rep {g : LazyLoadingTrees} {l : Lazy} (h : LRep g l) : g = rep l := by
  obtain ⟨swcs, trees⟩ := g
  have ht : trees = (rep l).trees := List.ext_getElem? fun i => by
    by_cases hi : i < l.cache.length
    · rw [h.hc i hi, (rep_spec l).hc i hi]
    · rw [List.getElem?_eq_none (by rw [h.ht]; omega), List.getElem?_eq_none (by rw [(rep_spec l).ht]; omega)]
  rw [ht, show swcs = _ from h.hs]; rfl

theorem LRep.swcs_len {g : LazyLoadingTrees} {l : Lazy} (h : LRep g l) : g.swcs.length = l.len := by
  rw [h.hs, castL_length, List.length_range]; rfl

theorem lazy_len_eq (g : LazyLoadingTrees) : lazy_len g = some (g.swcs.length : Int) := rfl

theorem load_eq (l : Lazy) (k : Nat) :
    l.load k = if l.cache[k]?.getD true = true then l else ⟨l.cache.set k true, l.log ++ [k]⟩ := by
  simp [Lazy.load]

theorem load_refines {g : LazyLoadingTrees} {l : Lazy} (h : LRep g l) (k : Nat) (hk : k < l.cache.length) :
    ∃ g', lazy_load readLog g (k : Int) (castL l.log) = some (g', castL (l.load k).log, ()) ∧ LRep g' (l.load k) := by
  have hkt : k < g.trees.length := by rw [h.ht]; exact hk
  have hget : Py.idx g.trees (k : Int) = some (if l.cache[k]?.getD true = true then some (k : Int) else none) := by
    rw [idx_nat _ _ hkt]; exact h.hc k hk
  rw [load_eq]
  by_cases hcached : l.cache[k]?.getD true = true
  · refine ⟨g, ?_, ?_⟩
    · simp only [lazy_load, lazy_load.body, Py.bind, hget, hcached, if_true, Option.isNone_some, Bool.false_eq_true, if_false, skip,
        finish, Option.map_some]
    · rw [if_pos hcached]; exact h
  · have hks : k < g.swcs.length := by rw [h.hs]; simpa using hk
    have hsw : Py.idx g.swcs (k : Int) = some (k : Int) := by
      rw [idx_nat _ _ hks, h.hs, castL_getElem?]; simp [hk]
    refine ⟨{ g with trees := g.trees.set k (some (k : Int)) }, ?_, ?_⟩
    · simp only [lazy_load, lazy_load.body, Py.bind, hget, hcached, hsw, readLog, setIdx_nat _ _ _ hkt, finish]
      simp [castL]
    · rw [if_neg hcached]
      refine ⟨by simpa using h.hs, by simpa using h.ht, ?_⟩
      intro i hi
      simp only [List.length_set] at hi
      by_cases e : i = k
      · subst e; simp [hkt, hi]
      · have e' : k ≠ i := fun c => e c.symm
        simp only [List.getElem?_set_ne e']
        exact h.hc i hi

/-- **`LazyLoadingTrees.__getitem__` as translated**: it normalises the key, reads the file ONLY if the slot is empty
(the read log grows by exactly that file), and returns the tree of that file — exactly `Lazy.get` -/
theorem getitem_refines {g : LazyLoadingTrees} {l : Lazy} (h : LRep g l) (key : Int) :
    (match l.get key with
     | none => lazy_getitem readLog g key (castL l.log) = none
     | some (l', k) => ∃ g', lazy_getitem readLog g key (castL l.log) = some (g', castL l'.log, some (k : Int)) ∧ LRep g' l') := by
  have hlen : lazy_len g = some ((l.cache.length : Nat) : Int) := by rw [lazy_len_eq, h.swcs_len]; rfl
  have hg := getIdx_refines key l.cache.length
  simp only [Lazy.get, Lazy.len]
  cases hk : getIdx key l.cache.length with
  | none =>
    rw [hk] at hg
    simp [lazy_getitem, lazy_getitem.body, seq, Py.bind, hlen, hg, finish]
  | some k =>
    rw [hk] at hg
    have hklt := (C19.getIdx_spec key _).2.2.2 k hk
    obtain ⟨g', e, r⟩ := load_refines h k hklt
    have hlk : (l.load k).cache.length = l.cache.length := C19.load_len l k
    have hkt : k < g'.trees.length := by rw [r.ht, hlk]; exact hklt
    have hcached : (l.load k).cache[k]?.getD true = true := by rw [C19.load_cached l hklt]; rfl
    have hread : Py.idx g'.trees (k : Int) = some (some (k : Int)) := by
      rw [idx_nat _ _ hkt, r.hc k (by rw [hlk]; exact hklt), hcached]; simp
    refine ⟨g', ?_, r⟩
    simp [lazy_getitem, lazy_getitem.body, seq, Py.bind, hlen, hg, e, hread, finish]

theorem getitem_rep (l : Lazy) (key : Int) :
    lazy_getitem readLog (rep l) key (castL l.log) = (l.get key).map fun r => (rep r.1, castL r.1.log, some (r.2 : Int)) := by
  have hr := getitem_refines (rep_spec l) key
  cases hk : l.get key with
  | none => rw [hk] at hr; exact hr
  | some r =>
    rw [hk] at hr
    obtain ⟨g', e, r'⟩ := hr
    rw [e, r'.eq_rep]; rfl

theorem LRep.of_rep {α : Type} {g : LazyLoadingTrees} {l : Lazy} (h : LRep g l) (key : Int)
    (X : LazyLoadingTrees → Option (α × List Int × Option Int)) (F : LazyLoadingTrees → α)
    (e : X (rep l) = (l.get key).map fun r => (F (rep r.1), castL r.1.log, some (r.2 : Int))) :
    (match l.get key with
     | none => X g = none
     | some (l', k) => ∃ g', X g = some (F g', castL l'.log, some (k : Int)) ∧ LRep g' l') := by
  rw [h.eq_rep, e]
  cases l.get key with
  | none => rfl
  | some r => exact ⟨rep r.1, rfl, rep_spec r.1⟩

end RefinePop
