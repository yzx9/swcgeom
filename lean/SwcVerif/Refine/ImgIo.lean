import SwcVerif.Gen.AlgoImgIo
import SwcVerif.Refine.PyRun
/-! # C20 (image I/O): the definitions GENERATED (on this run) from `swcgeom/images/io.py` (`Gen/AlgoImgIo.lean`) equal closed-form models, for
EVERY array (any rank, any shape, any element type `K`), every dtype argument and every axes string: `ndarray_init_eq` (`ndModel`), `save_tiff_eq`
(`saveModel`), `tiff_init_eq` (`loadModel`), `ndarray_getitem_eq` (`Py.ndGet`), `ndarray_get_full_eq`, `read_imgs_eq` (`readModel`).
The consequences (round trip, element access, dtype table, dispatch) are in `Props/C20Io.lean`. -/
set_option linter.unusedSimpArgs false

namespace RefineImgIo
open Gen.Algo Py

/-- `UINT_MAX[np.dtype(d)]` (KeyError = `none` for anything but the four unsigned types) -/
def uintMax : DType → Option Int
  | .u8 => some 255 | .u16 => some 65535 | .u32 => some 4294967295 | .u64 => some 18446744073709551615
  | _ => none

theorem uintMax_dict (d : DType) :
    Py.Dict.get? ([(Py.DType.u8, (255 : Int)), (Py.DType.u16, (65535 : Int)), (Py.DType.u32, (4294967295 : Int)),
      (Py.DType.u64, (18446744073709551615 : Int))] : Py.Dict Py.DType Int) d = uintMax d := by
  cases d <;> rfl

theorem uintMax_isSome (d : DType) : (uintMax d).isSome = d.isUnsigned := by cases d <;> rfl

theorem uintMax_of_unsigned (d : DType) (h : d.isUnsigned = true) : ∃ m, uintMax d = some m :=
  Option.isSome_iff_exists.mp ((uintMax_isSome d).trans h)

variable {K : Type} [Inhabited K] [Add K] [Sub K] [Mul K] [OfNat K 0] [OfNat K 1] [LT K] [DecidableLT K] [LE K] [DecidableLE K]

/-- the 3-d → 4-d promotion and the rank assertion shared by `NDArrayImageStack.__init__` and `save_tiff` -/
def promote (a : NdArr K) : Option (NdArr K) :=
  if a.shape.length = 3 then some (expandLast a) else if a.shape.length = 4 then some a else none

theorem promote_3d (a : NdArr K) (h : a.shape.length = 3) : promote a = some (expandLast a) := if_pos h
theorem promote_4d (a : NdArr K) (h : a.shape.length = 4) : promote a = some a := by rw [promote, if_neg (by omega), if_pos h]

/-- **the dtype rule of `NDArrayImageStack.__init__`**: unsigned → floating: cast, then multiply by `1 / UINT_MAX[raw]`;
floating → unsigned: multiply by `UINT_MAX[dtype]`, then cast; anything else: plain cast; no dtype: unchanged -/
def ndConv (F : Py.Fld K) (cast : DType → K → K) (a : NdArr K) : Option DType → Option (NdArr K)
  | none => some a
  | some d =>
    if d.isFloating && a.dtype.isUnsigned then (uintMax a.dtype).map fun m => mulScalarL (F.div 1 (F.ofInt m)) (astype cast a d)
    else if d.isUnsigned && a.dtype.isFloating then (uintMax d).map fun m => astype cast (mulScalarL (F.ofInt m) a) d
    else some (astype cast a d)

/-- the model of `NDArrayImageStack.__init__` -/
def ndModel (F : Py.Fld K) (cast : DType → K → K) (imgs : NdArr K) (to : Option DType) : Option (NdArr K) :=
  (promote imgs).bind fun a => ndConv F cast a to

theorem ndarray_init_rank4 (F : Py.Fld K) (cast : DType → K → K) (a : NdArr K) (h : a.shape.length = 4) (to : Option DType) :
    ndarray_init F cast a to = ndConv F cast a to := by
  have r4 : a.ndim = 4 := congrArg Int.ofNat h
  simp only [ndarray_init, ndarray_init.body, seq_eq_bindS, bindS_next, Py.skip, r4, Int.reduceEq, decide_true, decide_false, if_true, if_false,
    Bool.false_eq_true]
  cases to with
  | none => rfl
  | some d =>
    -- the rest of the body, pushed into the branches of the dtype rule
    simp only [Option.isSome_some, if_true, bindS_next, bind_some, bind_and, uintMax_dict, ndConv, bindS_ite, bindS_bind,
      map_finish_ite, map_finish_bind, finish_ret, Option.map_some, bind_some_eq_map]

theorem ndarray_init_eq (F : Py.Fld K) (cast : DType → K → K) (imgs : NdArr K) (to : Option DType) :
    ndarray_init F cast imgs to = ndModel F cast imgs to := by
  rcases imgs with ⟨sh, g, dt⟩
  rcases sh with _ | ⟨X, _ | ⟨Y, _ | ⟨Z, _ | ⟨C, _ | ⟨W, rest⟩⟩⟩⟩⟩
  · rfl
  · rfl
  · rfl
  -- three axes: the first statement replaces the array by its promotion
  · exact ndarray_init_rank4 F cast (expandLast ⟨[X, Y, Z], g, dt⟩) rfl to
  · exact ndarray_init_rank4 F cast _ rfl to
  · rfl

/-! ## `save_tiff` -/

/-- **the dtype rule of `save_tiff`**: the factor (`UINT_MAX[dtype]` floating → unsigned, `1 / UINT_MAX[data.dtype]` unsigned → floating, else 1),
multiply, then cast; no dtype: unchanged -/
def saveFactor (F : Py.Fld K) (src d : DType) : Option K :=
  if src.isFloating && d.isUnsigned then (uintMax d).map F.ofInt
  else if src.isUnsigned && d.isFloating then (uintMax src).map fun m => F.div 1 (F.ofInt m)
  else some 1

def saveConv (F : Py.Fld K) (cast : DType → K → K) (a : NdArr K) : Option DType → Option (NdArr K)
  | none => some a
  | some d => (saveFactor F a.dtype d).map fun f => astype cast (mulScalarR a f) d

/-- `np.moveaxis(b, 2, 0)` of a 4-d array: shape `(Z, X, Y, C)`, element `[z, x, y, c]` = element `[x, y, z, c]` of `b` -/
def zFirst (b : NdArr K) (X Y Z C : Nat) : NdArr K :=
  { b with shape := [Z, X, Y, C], get := fun i => b.get (unperm [2, 0, 1, 3] i) }

/-- the model of `save_tiff` (what the codec is handed: array, axes string, photometric) -/
def saveModel (F : Py.Fld K) (cast : DType → K → K) (data : NdArr K) (to : Option DType) : Option (NdArr K × List Char × String) :=
  (promote data).bind fun a =>
    match a.shape with
    | [X, Y, Z, C] =>
      if C = 1 ∨ C = 3 then
        (saveConv F cast a to).map fun b => (zFirst b X Y Z C, ['Z', 'X', 'Y', 'C'], if C = 3 then "rgb" else "minisblack")
      else none
    | _ => none

theorem toList_ZXYC : "ZXYC".toList = ['Z', 'X', 'Y', 'C'] := by decide
theorem toList_ZXY : "ZXY".toList = ['Z', 'X', 'Y'] := by decide
theorem moveaxisPerm_420 : moveaxisPerm 4 2 0 = [2, 0, 1, 3] := by decide
theorem isPerm_2013 : isPerm 4 [2, 0, 1, 3] = true := by decide

theorem moveaxis_zFirst (b : NdArr K) (X Y Z C : Nat) (h : b.shape = [X, Y, Z, C]) : moveaxis b 2 0 = some (zFirst b X Y Z C) := by
  simp [moveaxis, transpose, moveaxisPerm_420, isPerm_2013, zFirst, NdArr.ndim, h]

theorem save_tiff_rank4 (F : Py.Fld K) (cast : DType → K → K) (X Y Z C : Nat) (g : List Nat → K) (dt : DType) (to : Option DType) :
    save_tiff F cast ⟨[X, Y, Z, C], g, dt⟩ to =
      if C = 1 ∨ C = 3 then
        (saveConv F cast ⟨[X, Y, Z, C], g, dt⟩ to).map fun b => (zFirst b X Y Z C, ['Z', 'X', 'Y', 'C'], if C = 3 then "rgb" else "minisblack")
      else none := by
  have r4 : NdArr.ndim (⟨[X, Y, Z, C], g, dt⟩ : NdArr K) = 4 := rfl
  have hl : Py.idx (NdArr.shapeI (⟨[X, Y, Z, C], g, dt⟩ : NdArr K)) (-1) = some (C : Int) := rfl
  have hl' : ∀ b : NdArr K, Py.idx (zFirst b X Y Z C).shapeI (-1) = some (C : Int) := fun _ => rfl
  have hmv : ∀ (g : List Nat → K) (dt : DType), moveaxis ⟨[X, Y, Z, C], g, dt⟩ 2 0 = some (zFirst ⟨[X, Y, Z, C], g, dt⟩ X Y Z C) :=
    fun _ _ => moveaxis_zFirst _ X Y Z C rfl
  have hc : ([1, 3] : List Int).contains (C : Int) = decide (C = 1 ∨ C = 3) := by
    rw [Bool.eq_iff_iff]; simp only [List.contains_cons, List.contains_nil, Bool.or_false, Bool.or_eq_true, beq_iff_eq, decide_eq_true_eq]; omega
  have hp : ((C : Int) = 3) ↔ C = 3 := by omega
  simp only [save_tiff, save_tiff.body, seq_eq_bindS, bindS_next, Py.skip, r4, Int.reduceEq, toList_ZXYC, hl, hc, bind_some, if_false, if_true,
    decide_eq_true_eq]
  by_cases hC : C = 1 ∨ C = 3
  · rw [if_pos hC, if_pos hC]
    cases to with
    | none =>
      simp only [seq_eq_bindS, bindS_next, bind_some, hmv, hl', hp, Bool.false_eq_true, if_false, Option.isSome_none]
      rfl
    | some d =>
      -- the rest of the body, pushed into the branches of the dtype rule: both sides become the same case distinction
      simp only [seq_eq_bindS, bindS_next, bind_some, Option.isSome_some, if_true, bind_and, uintMax_dict, saveConv, saveFactor,
        bindS_ite, bindS_bind, map_finish_ite, map_finish_bind, finish_ret, hmv, hl', hp, astype, mulScalarR, apply_ite (Option.map _),
        Option.map_map, Option.map_some, bind_some_eq_map]
      rfl
  · rw [if_neg hC, if_neg hC]
    rfl

theorem save_tiff_eq (F : Py.Fld K) (cast : DType → K → K) (data : NdArr K) (to : Option DType) :
    save_tiff F cast data to = saveModel F cast data to := by
  rcases data with ⟨sh, g, dt⟩
  rcases sh with _ | ⟨X, _ | ⟨Y, _ | ⟨Z, _ | ⟨C, _ | ⟨W, rest⟩⟩⟩⟩⟩
  · rfl
  · rfl
  · rfl
  -- three axes: the first statement replaces the array by its promotion
  · exact save_tiff_rank4 F cast X Y Z 1 (expandLast ⟨[X, Y, Z], g, dt⟩).get dt to
  · exact save_tiff_rank4 F cast X Y Z C g dt to
  · rfl

/-! ## `TiffImageStack.__init__` -/

/-- `AXES_ORDER` -/
def axesOrder : Py.Dict Char Int := [('X', 0), ('Y', 1), ('Z', 2), ('C', 3), ('I', 2)]

/-- `[AXES_ORDER[c] for c in axes]` (KeyError = `none`) -/
def ordersOf : List Char → Option (List Int)
  | [] => some []
  | c :: cs => (Py.Dict.get? axesOrder c).bind fun o => (ordersOf cs).map (o :: ·)

/-- the axes string read from the file is usable: one known letter per axis -/
def axesValid (ndim : Nat) (axes : List Char) : Bool := axes.length == ndim && axes.all fun c => Py.Dict.contains axesOrder c

/-- the axes string used: the file's if usable, else `ZXYC` (4-d) / `ZXY` -/
def effAxes (ndim : Nat) (axes : List Char) : List Char :=
  if axesValid ndim axes then axes else if ndim = 4 then ['Z', 'X', 'Y', 'C'] else ['Z', 'X', 'Y']

/-- the model of `TiffImageStack.__init__`: (warning sites, the stack's array) -/
def loadModel (F : Py.Fld K) (cast : DType → K → K) (imgs : NdArr K) (axes : List Char) (to : Option DType) : Option (List Int × NdArr K) :=
  (ordersOf (effAxes imgs.shape.length axes)).bind fun orders =>
    (transpose imgs (argsort orders)).bind fun t =>
      (ndModel F cast t to).map fun r => (if axesValid imgs.shape.length axes then [] else [0], r)

/-- the loop `[AXES_ORDER[c] for c in axes]`: the ranks are appended, a letter that is no key raises -/
theorem for1_loop (F : Py.Fld K) (cast : DType → K → K) : ∀ (l : List Char) (v : tiff_init.V K),
    Py.forEach (tiff_init.for1 F cast) l v =
      Py.bind (ordersOf l) fun os => .next { v with c0_ := v.c0_ ++ os, c := l.getLast?.getD v.c }
  | [], v => by simp only [Py.forEach, ordersOf, bind_some, List.append_nil, List.getLast?_nil, Option.getD_none]
  | a :: l, v => by
    have ha : Py.Dict.get? [('X', (0 : Int)), ('Y', 1), ('Z', 2), ('C', 3), ('I', 2)] a = Py.Dict.get? axesOrder a := rfl
    simp only [Py.forEach, tiff_init.for1, ordersOf, ha]
    cases Py.Dict.get? axesOrder a with
    | none => rfl
    | some o =>
      simp only [bind_some, for1_loop F cast l, Option.bind_some, List.getLast?_cons]
      cases ordersOf l <;> simp [Py.bind]

theorem tiff_init_eq (F : Py.Fld K) (cast : DType → K → K) (imgs : NdArr K) (axes : List Char) (to : Option DType) :
    tiff_init F cast imgs axes to = loadModel F cast imgs axes to := by
  have hcond : (decide ((Py.len axes) ≠ (Py.NdArr.ndim imgs)) || (axes.any fun x_ =>
      !(Py.Dict.contains ([('X', (0 : Int)), ('Y', (1 : Int)), ('Z', (2 : Int)), ('C', (3 : Int)), ('I', (2 : Int))] : Py.Dict Char Int) x_)))
      = !axesValid imgs.shape.length axes := by
    simp only [axesValid, Py.len, NdArr.ndim, axesOrder, Bool.not_and, List.any_eq_not_all_not, Bool.not_not, ne_eq, Int.natCast_inj, decide_not]
    rfl
  have e4 : imgs.ndim = 4 ↔ imgs.shape.length = 4 := Int.ofNat_inj
  simp only [tiff_init, tiff_init.body, seq_eq_bindS, hcond, loadModel, effAxes, decide_eq_true_eq, toList_ZXYC, toList_ZXY]
  -- either way only fallible expressions are left: the loop, the transposition, the constructor of the base class
  cases axesValid imgs.shape.length axes <;>
    simp only [Bool.not_false, Bool.not_true, Bool.false_eq_true, if_true, if_false, Py.skip, seq_eq_bindS, bindS_next, for1_loop, e4, bindS_bind,
      map_finish_bind, finish_ret, Option.map_some, bind_some_eq_map, ndarray_init_eq, List.nil_append] <;>
    rfl

/-! ## element access -/

theorem ndarray_getitem_eq (imgs : NdArr K) (i j k l : Int) : ndarray_getitem imgs (i, j, k, l) = ndGet imgs [i, j, k, l] :=
  finish_return ..

theorem ndarray_get_full_eq (imgs : NdArr K) : ndarray_get_full imgs = some imgs := rfl

/-! ## the index arithmetic of the two transpositions

`save_tiff` moves the axes by `[2, 0, 1, 3]` (`zFirst`); the ranks of the letters of `ZXYC` are `[2, 0, 1, 3]` too, and the reader transposes by
their argsort `[1, 2, 0, 3]` (`[1, 2, 0]` for `ZXY`). -/

theorem unperm_save (x y z c : Nat) : unperm [2, 0, 1, 3] [z, x, y, c] = [x, y, z, c] := rfl
theorem argsort_zxyc : argsort [2, 0, 1, 3] = [1, 2, 0, 3] := by decide
theorem argsort_zxy : argsort [2, 0, 1] = [1, 2, 0] := by decide
theorem unperm_load (x y z c : Nat) : unperm [1, 2, 0, 3] [x, y, z, c] = [z, x, y, c] := rfl
theorem unperm_load3 (x y z : Nat) : unperm [1, 2, 0] [x, y, z] = [z, x, y] := rfl

/-! ## `read_imgs`: the extension dispatch -/

/-- the reader class of a file extension -/
def readerOf (ext : String) : Option String :=
  if ext = ".tif" ∨ ext = ".tiff" then some "TiffImageStack"
  else if ext = ".nrrd" then some "NrrdImageStack"
  else if ext = ".v3dpbd" then some "V3dpbdImageStack"
  else if ext = ".v3draw" then some "V3drawImageStack"
  else if ext = ".npy" then some "NDArrayImageStack"
  else none

/-- the model of `read_imgs`: a missing file is a ValueError; the class is chosen by the extension, else TeraFly if the path is a TeraFly root, else
ValueError; the keyword arguments are forwarded with `dtype` defaulting to `np.float32` -/
def readModel (fname : String) (found isRoot : Bool) (kwargs : Py.Dict String DType) : Option (String × Py.Dict String DType) :=
  if !found then none
  else
    let kw := Py.Dict.setdefault kwargs "dtype" DType.f32
    match readerOf (splitExt fname) with
    | some c => some (c, kw)
    | none => if isRoot then some ("TeraflyImageStack", kw) else none

theorem read_imgs_eq (fname : String) (found isRoot : Bool) (kwargs : Py.Dict String DType) :
    read_imgs fname found isRoot kwargs = readModel fname found isRoot kwargs := by
  cases found
  · rfl
  simp only [read_imgs, read_imgs.body, seq_eq_bindS, bindS_next, Py.skip, readModel, readerOf, Bool.not_true, Bool.false_eq_true, if_false,
    Bool.or_eq_true, decide_eq_true_eq]
  generalize splitExt fname = e
  -- the two chains of tests run in step
  by_cases h1 : e = ".tif" ∨ e = ".tiff"
  · rw [if_pos h1, if_pos h1]; rfl
  rw [if_neg h1, if_neg h1]
  by_cases h2 : e = ".nrrd"
  · rw [if_pos h2, if_pos h2]; rfl
  rw [if_neg h2, if_neg h2]
  by_cases h3 : e = ".v3dpbd"
  · rw [if_pos h3, if_pos h3]; rfl
  rw [if_neg h3, if_neg h3]
  by_cases h4 : e = ".v3draw"
  · rw [if_pos h4, if_pos h4]; rfl
  rw [if_neg h4, if_neg h4]
  by_cases h5 : e = ".npy"
  · rw [if_pos h5, if_pos h5]; rfl
  rw [if_neg h5, if_neg h5]
  cases isRoot <;> rfl

end RefineImgIo
