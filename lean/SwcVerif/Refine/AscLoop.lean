import SwcVerif.Refine.AscHeap
import SwcVerif.Refine.AscModel
/-! Refinement for C15: the loop and the mutual recursion of the parser AS TRANSLATED (`_parse_subtree` ↔ `_parse_split`), with
`_parse_color` and `_parse_comment`, against the hand-written model `Model/Asc.lean` (`parseSubtree`, `parseColor`), with the heap
invariant of `Refine/AscHeap.lean`.  (`_skip_comments`, `_parse_tree`, `_parse`: `Refine/AscTop.lean`.) -/
namespace RefineAscLoop
open Gen.Algo Py Asc RefineAsc RefineAscParse RefineAscHeap RefineAscModel

variable (encF : SwcText.Sci → Int)

abbrev LV := parser_parse_subtree.V

/-- the body of the `while` loop of `_parse_subtree` as translated (`fuel` = the fuel handed to the nested `_parse_split`): a COPY of the
generated term; `parse_subtree_unfold` below checks (by `rfl`) that it IS the generated term, so a change of the source breaks here -/
def loopBody (fuel : Nat) : LV → Res LV Unit :=
  (Py.seq (fun (v : parser_parse_subtree.V) =>
    .next { v with token := v.self.next_token })
  (Py.seq (fun (v : parser_parse_subtree.V) =>
    if (!(v.token).isSome) then (fun (v : parser_parse_subtree.V) => .brk v) v else Py.skip v)
  (fun (v : parser_parse_subtree.V) =>
    Py.bind (v.token) fun t0 =>
    let t1 := (t0).type;
    if (decide (t1 = (1 : Int))) then (Py.seq (fun (v : parser_parse_subtree.V) =>
      Py.bind (parser_read_token v.self) fun t11 => let v := { v with self := t11.1 };
      .next v)
    (fun (v : parser_parse_subtree.V) =>
      if v.flag then (fun (v : parser_parse_subtree.V) =>
        .next { v with flag := false }) v else (Py.seq (fun (v : parser_parse_subtree.V) =>
        Py.bind (parser_parse_split fuel v.self v.current false) fun t12 => let v := { v with self := t12.1 };
        .next v)
      (fun (v : parser_parse_subtree.V) =>
        .next { v with flag := true })) v)) v else if (decide (t1 = (2 : Int))) then (Py.seq (fun (v : parser_parse_subtree.V) =>
      if v.flag then (fun (v : parser_parse_subtree.V) => .brk v) v else Py.skip v)
    (Py.seq (fun (v : parser_parse_subtree.V) =>
      Py.bind (parser_read_token v.self) fun t10 => let v := { v with self := t10.1 };
      .next v)
    (fun (v : parser_parse_subtree.V) =>
      .next { v with flag := true }))) v else if (decide (t1 = (5 : Int))) then (Py.seq (fun (v : parser_parse_subtree.V) =>
      if v.flag then (fun (v : parser_parse_subtree.V) => .err) v else Py.skip v)
    (Py.seq (fun (v : parser_parse_subtree.V) =>
      Py.bind (parser_parse_node v.self v.current) fun t9 => let v := { v with self := t9.1 };
      .next { v with current := t9.2 })
    (fun (v : parser_parse_subtree.V) =>
      .next { v with flag := true }))) v else if (decide (t1 = (6 : Int))) then (Py.seq (fun (v : parser_parse_subtree.V) =>
      Py.bind (v.token) fun t5 =>
      Py.bind (Py.Atom.str? (t5).value) fun t6 =>
      let t7 := (Py.strUpper t6);
      if (decide (t7 = "COLOR")) then (fun (v : parser_parse_subtree.V) =>
        Py.bind (parser_parse_color v.self v.current) fun t8 => let v := { v with self := t8.1 };
        .next v) v else (fun (v : parser_parse_subtree.V) => .err) v)
    (fun (v : parser_parse_subtree.V) =>
      .next { v with flag := true })) v else if (decide (t1 = (4 : Int))) then (Py.seq (fun (v : parser_parse_subtree.V) =>
      if v.flag then (Py.seq (fun (v : parser_parse_subtree.V) =>
        .next { v with current := v.root })
      (fun (v : parser_parse_subtree.V) =>
        Py.bind (parser_read_token v.self) fun t3 => let v := { v with self := t3.1 };
        .next v)) v else (fun (v : parser_parse_subtree.V) =>
        Py.bind (parser_parse_split fuel v.self v.current true) fun t4 => let v := { v with self := t4.1 };
        .next v) v)
    (fun (v : parser_parse_subtree.V) =>
      .next { v with flag := true })) v else if (decide (t1 = (3 : Int))) then (fun (v : parser_parse_subtree.V) =>
      Py.bind (parser_parse_comment v.self v.current) fun t2 => let v := { v with self := t2.1 };
      .next v) v else (Py.seq (fun (v : parser_parse_subtree.V) =>
      .next { v with excepted := "BRACKET_LEFT, BRACKET_RIGHT, LITERAL, FLOAT, OR, COMMENT" })
    (fun (v : parser_parse_subtree.V) => .err)) v)))

/-- the `while` loop of `_parse_subtree` -/
abbrev L (G n : Nat) (v : LV) : Res LV Unit := whileF (fun (_ : LV) => some true) (loopBody G) n v

theorem parse_subtree_unfold (G : Nat) (self : Parser) (root : Int) (flag : Bool) :
    parser_parse_subtree (G + 1) self root flag =
      (Py.finish default (L G G { (default : LV) with self := self, root := root, flag := flag, current := root })).map
        fun r => (r.1.self, r.2) := by
  rw [parser_parse_subtree]
  rfl

theorem parse_split_unfold (G : Nat) (self : Parser) (root : Int) (flag : Bool) :
    parser_parse_split (G + 1) self root flag =
      (parser_parse_subtree G self root flag).bind fun r => (parser_assert_and_cunsume r.1 2).bind fun q => some (q.1, ()) := by
  rw [parser_parse_split]
  simp -implicitDefEqProofs only [seq_eq_bindS, bindS_bind, bindS_next, finish_bind, map_bind]
  rfl

/-- `ASTNode.add_child` as translated, on references in range: the heap keeps its length, `self` gains the child (the child's `parent`
field is set, which nothing reads) -/
theorem add_child_step (n : List ASTNode) (ρ τ : Nat) (hρ : ρ < n.length) (hτ : τ < n.length) :
    ∃ n', ast_add_child n (ρ : Int) (τ : Int) = some (n', ()) ∧ n'.length = n.length ∧
      Step n n' (fun i => if i = ρ then [(τ : Int)] else []) := by
  have hτ' : τ < (n.set ρ { n[ρ] with children := n[ρ].children ++ [(τ : Int)] }).length := by simpa using hτ
  simp only [ast_add_child, ast_add_child.body, Py.seq, Py.bind, Py.finish, idx_nat _ _ hρ, List.getElem?_eq_getElem hρ,
    setIdx_nat _ _ _ hρ, idx_nat _ _ hτ', List.getElem?_eq_getElem hτ', setIdx_nat _ _ _ hτ']
  refine ⟨_, rfl, by simp, ?_⟩
  refine ((Step.set n ρ hρ _ [(τ : Int)] ?_ ?_ ?_).trans (Step.set _ τ hτ' _ [] ?_ ?_ ?_)).congr fun i _ => ?_
  iterate 5 rfl
  · simp
  · by_cases h : i = τ <;> simp [h]

/-- allocation of a record followed by `add_child` under `ρ` -/
theorem attach (nodes : List ASTNode) (rec : ASTNode) (ρ : Nat) (hρ : ρ < nodes.length) :
    ∃ n1, ast_add_child (nodes ++ [rec]) (ρ : Int) (nodes.length : Int) = some (n1, ()) ∧ n1.length = nodes.length + 1 ∧
      Step (nodes ++ [rec]) n1 (fun i => if i = ρ then [(nodes.length : Int)] else []) := by
  obtain ⟨n1, h1, h2, h3⟩ := add_child_step (nodes ++ [rec]) ρ nodes.length (by simp; omega) (by simp)
  exact ⟨n1, h1, by simpa using h2, h3⟩

theorem ofList_eq_iff (l : List Char) (s : String) : String.ofList l = s ↔ l = s.toList := by
  constructor
  · intro h; rw [← h]; simp
  · intro h; rw [h]; simp

/-- `str.upper` of the translation on an encoded word = the model's `upper` -/
theorem strUpper_ofList (w : SwcText.Str) : Py.strUpper (String.ofList w) = String.ofList (upper w) := by
  simp [Py.strUpper, upper]

theorem upper_decide (w : SwcText.Str) (s : String) : decide (Py.strUpper (String.ofList w) = s) = decide (upper w = s.toList) := by
  rw [strUpper_ofList, decide_eq_decide, ofList_eq_iff]

theorem noBad_head {t : Tok} {toks : List Tok} (h : NoBad (t :: toks)) : t ≠ .bad := h t (by simp)

/-! ### `_parse_color`, `_parse_comment` as translated -/

/-- the COLOR record `_parse_color` allocates (its value is the second word) -/
def colorRec (toks : List Tok) : ASTNode :=
  { type := 4, value := .tup [match toks with | _ :: t :: _ => (enc encF t).value | _ => .none], children := [], parent := none }

/-- **`_parse_color` as translated = the model's `parseColor`**, success and every failure alike; on success the heap has gained one COLOR
record attached to `root` -/
theorem parse_color_refines (toks : List Tok) (nodes : List ASTNode) (root : Int) (h : NoBad toks) :
    parser_parse_color (st encF toks nodes) root =
      match parseColor toks with
      | .error _ => none
      | .ok rest =>
        (ast_add_child (nodes ++ [colorRec encF toks]) root (nodes.length : Int)).map fun r => (st encF rest r.1, (nodes.length : Int)) := by
  have core : Sim (fun rest => (ast_add_child (nodes ++ [colorRec encF toks]) root (nodes.length : Int)).map
      fun r => (st encF rest r.1, (nodes.length : Int))) (parser_parse_color (st encF toks nodes) root) (parseColor toks) := by
    simp -implicitDefEqProofs only [parser_parse_color, parser_parse_color.body, seq_eq_bindS, bindS_bind, bindS_next, finish_bind, map_bind]
    unfold parseColor
    refine literal_step encF (fun _ => rfl) toks nodes h _ _ fun w1 t1 e1 h1 => ?_
    refine literal_step encF (fun _ => rfl) t1 nodes h1 _ _ fun w2 t2 e2 h2 => ?_
    rw [← bind_pure (expectRp t2)]
    refine rp_step encF (fun _ => rfl) t2 nodes h2 _ _ fun rest _ => ?_
    subst e1 e2
    show Option.bind (ast_add_child (nodes ++ [colorRec encF (.literal w1 :: .literal w2 :: t2)]) root (nodes.length : Int)) _ =
      Option.map _ _
    cases ast_add_child (nodes ++ [colorRec encF (.literal w1 :: .literal w2 :: t2)]) root (nodes.length : Int) <;> rfl
  revert core
  cases parseColor toks <;> exact id

/-- the COMMENT record `_parse_comment` allocates -/
def commentRec (c : SwcText.Str) : ASTNode :=
  { type := 5, value := .tup [.str (String.ofList c)], children := [], parent := none }

/-- **`_parse_comment` as translated**: the comment token is consumed, a COMMENT record is attached to `root` -/
theorem parse_comment_refines (c : SwcText.Str) (t : List Tok) (nodes : List ASTNode) (root : Int) :
    parser_parse_comment (st encF (.comment c :: t) nodes) root =
      (ast_add_child (nodes ++ [commentRec c]) root (nodes.length : Int)).map fun r => (st encF t r.1, (nodes.length : Int)) := by
  simp -implicitDefEqProofs only [parser_parse_comment, parser_parse_comment.body, seq_eq_bindS, bindS_bind, bindS_next, finish_bind, map_bind, assert_and_cunsume_st]
  show Option.bind (ast_add_child (nodes ++ [commentRec c]) root (nodes.length : Int)) _ = _
  cases ast_add_child (nodes ++ [commentRec c]) root (nodes.length : Int) <;> rfl

/-! ### one iteration of the `_parse_subtree` loop as translated, per token kind -/

theorem L_next (G n : Nat) (v v' : LV) (h : loopBody G v = .next v') : L G (n + 1) v = L G n v' := by
  simp only [L, whileF, h]
theorem L_brk (G n : Nat) (v v' : LV) (h : loopBody G v = .brk v') : L G (n + 1) v = .next v' := by
  simp only [L, whileF, h]
theorem L_err (G n : Nat) (v : LV) (h : loopBody G v = .err) : L G (n + 1) v = .err := by
  simp only [L, whileF, h]

theorem step_nil (G : Nat) (v : LV) (nodes : List ASTNode) (hs : v.self = st encF [] nodes) :
    loopBody G v = .brk { v with token := none } := by
  simp [loopBody, Py.seq, hs]

theorem step_lp_flag (G : Nat) (v : LV) (t : List Tok) (nodes : List ASTNode) (hs : v.self = st encF (.lp :: t) nodes) (hf : v.flag = true) :
    loopBody G v = .next { v with token := some (enc encF .lp), self := st encF t nodes, flag := false } := by
  simp [loopBody, Py.seq, Py.bind, Py.skip, hs, hf, enc, read_token_st]

theorem step_lp_noflag (G : Nat) (v : LV) (t : List Tok) (nodes : List ASTNode) (hs : v.self = st encF (.lp :: t) nodes) (hf : v.flag = false) :
    loopBody G v = match parser_parse_split G (st encF t nodes) v.current false with
      | none => .err
      | some r => .next { v with token := some (enc encF .lp), self := r.1, flag := true } := by
  cases h : parser_parse_split G (st encF t nodes) v.current false <;>
    simp [loopBody, Py.seq, Py.bind, Py.skip, hs, hf, enc, read_token_st, h]

theorem step_rp_flag (G : Nat) (v : LV) (t : List Tok) (nodes : List ASTNode) (hs : v.self = st encF (.rp :: t) nodes) (hf : v.flag = true) :
    loopBody G v = .brk { v with token := some (enc encF .rp) } := by
  simp [loopBody, Py.seq, Py.bind, Py.skip, hs, hf, enc]

theorem step_rp_noflag (G : Nat) (v : LV) (t : List Tok) (nodes : List ASTNode) (hs : v.self = st encF (.rp :: t) nodes) (hf : v.flag = false) :
    loopBody G v = .next { v with token := some (enc encF .rp), self := st encF t nodes, flag := true } := by
  simp [loopBody, Py.seq, Py.bind, Py.skip, hs, hf, enc, read_token_st]

theorem step_float_flag (G : Nat) (v : LV) (a : SwcText.Sci) (t : List Tok) (nodes : List ASTNode)
    (hs : v.self = st encF (.float a :: t) nodes) (hf : v.flag = true) : loopBody G v = .err := by
  simp [loopBody, Py.seq, Py.bind, Py.skip, hs, hf, enc]

theorem step_float_noflag (G : Nat) (v : LV) (a : SwcText.Sci) (t : List Tok) (nodes : List ASTNode)
    (hs : v.self = st encF (.float a :: t) nodes) (hf : v.flag = false) :
    loopBody G v = match parser_parse_node (st encF (.float a :: t) nodes) v.current with
      | none => .err
      | some r => .next { v with token := some (enc encF (.float a)), self := r.1, current := r.2, flag := true } := by
  cases h : parser_parse_node (st encF (.float a :: t) nodes) v.current <;>
    simp [loopBody, Py.seq, Py.bind, Py.skip, hs, hf, enc, h]

theorem step_lit_color (G : Nat) (v : LV) (w : SwcText.Str) (t : List Tok) (nodes : List ASTNode)
    (hs : v.self = st encF (.literal w :: t) nodes) (hw : upper w = "COLOR".toList) :
    loopBody G v = match parser_parse_color (st encF (.literal w :: t) nodes) v.current with
      | none => .err
      | some r => .next { v with token := some (enc encF (.literal w)), self := r.1, flag := true } := by
  cases h : parser_parse_color (st encF (.literal w :: t) nodes) v.current <;>
    simp [loopBody, Py.seq, Py.bind, Py.skip, hs, enc, h, Py.Atom.str?, upper_decide, hw]

theorem step_lit_other (G : Nat) (v : LV) (w : SwcText.Str) (t : List Tok) (nodes : List ASTNode)
    (hs : v.self = st encF (.literal w :: t) nodes) (hw : upper w ≠ "COLOR".toList) : loopBody G v = .err := by
  have hw' : ¬ upper w = ['C', 'O', 'L', 'O', 'R'] := hw
  simp [loopBody, Py.seq, Py.bind, Py.skip, hs, enc, Py.Atom.str?, upper_decide, hw']

theorem step_bar_flag (G : Nat) (v : LV) (t : List Tok) (nodes : List ASTNode) (hs : v.self = st encF (.bar :: t) nodes) (hf : v.flag = true) :
    loopBody G v = .next { v with token := some (enc encF .bar), current := v.root, self := st encF t nodes, flag := true } := by
  simp [loopBody, Py.seq, Py.bind, Py.skip, hs, hf, enc, read_token_st]

theorem step_bar_noflag (G : Nat) (v : LV) (t : List Tok) (nodes : List ASTNode) (hs : v.self = st encF (.bar :: t) nodes) (hf : v.flag = false) :
    loopBody G v = match parser_parse_split G (st encF (.bar :: t) nodes) v.current true with
      | none => .err
      | some r => .next { v with token := some (enc encF .bar), self := r.1, flag := true } := by
  cases h : parser_parse_split G (st encF (.bar :: t) nodes) v.current true <;>
    simp [loopBody, Py.seq, Py.bind, Py.skip, hs, hf, enc, h]

theorem step_comment (G : Nat) (v : LV) (c : SwcText.Str) (t : List Tok) (nodes : List ASTNode)
    (hs : v.self = st encF (.comment c :: t) nodes) :
    loopBody G v = match parser_parse_comment (st encF (.comment c :: t) nodes) v.current with
      | none => .err
      | some r => .next { v with token := some (enc encF (.comment c)), self := r.1 } := by
  cases h : parser_parse_comment (st encF (.comment c :: t) nodes) v.current <;>
    simp [loopBody, Py.seq, Py.bind, Py.skip, hs, enc, h]

/-! ### the simulation: `_parse_subtree` ↔ `_parse_split` as translated against `Asc.parseSubtree` -/
open C15 (ok_bind)

/-- what the rest of the loop (result `out`) must be, given the model's result: an error ↦ an exception; the model's remaining tokens and
rows ↦ the same remaining tokens in the parser object, and a heap related to the rows by `Built` -/
def Post (ty : Int) (rows : List Asc.Row) (nodes : List ASTNode) (γ ρ : Nat) (γid ρid : Int) (out : Res LV Unit) :
    Except Err (List Tok × List Asc.Row) → Prop
  | .error _ => out = .err
  | .ok (t', rows') => ∃ v' nodes' new, out = .next v' ∧ v'.self = st encF t' nodes' ∧ rows' = rows ++ new ∧ NoBad t' ∧
      Built encF ty nodes nodes' γ ρ γid ρid rows.length new

/-- the statement proved by induction on the model's fuel `f`: the translated loop with at least `f` iterations of its own fuel, calling
`_parse_split` with fuel `G ≥ 2 f` (two levels of the translated recursion per level of the model's), does what the model does -/
def LoopSpec (ty : Int) (f : Nat) : Prop :=
  ∀ (toks : List Tok) (flag : Bool) (ρid γid : Int) (rows : List Asc.Row), NoBad toks →
    parseSubtree ty f toks flag ρid γid rows ≠ .error .fuel →
    ∀ (G n : Nat) (v : LV) (nodes : List ASTNode) (ρ γ : Nat), f ≤ n → 2 * f ≤ G → v.self = st encF toks nodes → v.root = (ρ : Int) →
      v.current = (γ : Int) → v.flag = flag → ρ < nodes.length → γ < nodes.length →
      Post encF ty rows nodes γ ρ γid ρid (L G n v) (parseSubtree ty f toks flag ρid γid rows)

variable {encF}

theorem Post.imp {ty : Int} {rows rows1 new1 : List Asc.Row} {nodes n1 : List ASTNode} {γ ρ γ1 ρ1 : Nat} {γid ρid γid1 ρid1 : Int}
    {out : Res LV Unit} {res : Except Err (List Tok × List Asc.Row)} (hr : rows1 = rows ++ new1)
    (hB : ∀ nodes' new, Built encF ty n1 nodes' γ1 ρ1 γid1 ρid1 rows1.length new →
      Built encF ty nodes nodes' γ ρ γid ρid rows.length (new1 ++ new))
    (h : Post encF ty rows1 n1 γ1 ρ1 γid1 ρid1 out res) : Post encF ty rows nodes γ ρ γid ρid out res := by
  cases res with
  | error e => exact h
  | ok r =>
    obtain ⟨v', nodes', new, g1, g2, g3, g4, g5⟩ := h
    exact ⟨v', nodes', new1 ++ new, g1, g2, by rw [g3, hr, List.append_assoc], g4, hB _ _ g5⟩

/-- result of a whole `_parse_subtree(root, flag)` / `_parse_split(root, flag)` call (nothing is said when the model runs out of fuel) -/
def SubPost (encF : SwcText.Sci → Int) (ty : Int) (rows : List Asc.Row) (nodes : List ASTNode) (ρ : Nat) (ρid : Int) (out : Option (Parser × Unit)) :
    Except Err (List Tok × List Asc.Row) → Prop
  | .error e => e ≠ .fuel → out = none
  | .ok (t', rows') => ∃ nodes' new, out = some (st encF t' nodes', ()) ∧ rows' = rows ++ new ∧ NoBad t' ∧
      Built encF ty nodes nodes' ρ ρ ρid ρid rows.length new

theorem subtree_of_loop {ty : Int} {f : Nat} (hP : LoopSpec encF ty f) (toks : List Tok) (flag : Bool) (ρid : Int) (rows : List Asc.Row)
    (hnb : NoBad toks) (G : Nat) (hG : 2 * f + 1 ≤ G) (nodes : List ASTNode) (ρ : Nat) (hρ : ρ < nodes.length) :
    SubPost encF ty rows nodes ρ ρid (parser_parse_subtree G (st encF toks nodes) (ρ : Int) flag) (parseSubtree ty f toks flag ρid ρid rows) := by
  obtain ⟨G', rfl⟩ := Nat.exists_eq_add_one.2 (Nat.zero_lt_of_lt hG)
  rw [parse_subtree_unfold]
  have h := fun hne => hP toks flag ρid ρid rows hnb hne G' G'
    { (default : LV) with self := st encF toks nodes, root := (ρ : Int), flag := flag, current := (ρ : Int) } nodes ρ ρ (by omega) (by omega)
    rfl rfl rfl rfl hρ hρ
  revert h
  cases parseSubtree ty f toks flag ρid ρid rows with
  | error e => intro h he; rw [h (fun c => he (by cases c; rfl))]; rfl
  | ok r =>
    intro h
    obtain ⟨v', nodes', new, g1, g2, g3, g4, g5⟩ := h nofun
    exact ⟨nodes', new, by rw [g1, ← g2]; rfl, g3, g4, g5⟩

theorem split_of_loop {ty : Int} {f : Nat} (hP : LoopSpec encF ty f) (toks : List Tok) (flag : Bool) (γid : Int) (rows : List Asc.Row)
    (hnb : NoBad toks) (G : Nat) (hG : 2 * f + 2 ≤ G) (nodes : List ASTNode) (γ : Nat) (hγ : γ < nodes.length) :
    SubPost encF ty rows nodes γ γid (parser_parse_split G (st encF toks nodes) (γ : Int) flag)
      (parseSubtree ty f toks flag γid γid rows >>= fun r => expectRp r.1 >>= fun t2 => .ok (t2, r.2)) := by
  obtain ⟨G', rfl⟩ := Nat.exists_eq_add_one.2 (Nat.zero_lt_of_lt hG)
  rw [parse_split_unfold]
  have h := subtree_of_loop hP toks flag γid rows hnb G' (by omega) nodes γ hγ
  revert h
  rcases parseSubtree ty f toks flag γid γid rows with e | ⟨tr, rowsr⟩
  · intro h he; rw [h he]; rfl
  · rintro ⟨n1, new1, g1, g2, g3, g4⟩
    rw [g1]
    exact rp_step encF (fun _ _ => rfl) tr n1 g3 _ _ fun t2 h2 => ⟨n1, new1, rfl, g2, h2, g4⟩

/-- an iteration that calls `_parse_split` (`( (` and `( |`), then the rest of the loop -/
theorem split_case {ty : Int} {f : Nat} (hP : LoopSpec encF ty f) (toksN : List Tok) (flagN : Bool) (ρid γid : Int) (rows : List Asc.Row)
    (hnb : NoBad toksN) (G n' : Nat) (v : LV) (nodes : List ASTNode) (ρ γ : Nat) (hn : f ≤ n') (hG : 2 * f + 2 ≤ G)
    (hρ : ρ < nodes.length) (hγ : γ < nodes.length) (mk : Parser × Unit → LV)
    (hmk : ∀ r, (mk r).self = r.1 ∧ (mk r).root = (ρ : Int) ∧ (mk r).current = (γ : Int) ∧ (mk r).flag = true)
    (hbody : loopBody G v = match parser_parse_split G (st encF toksN nodes) (γ : Int) flagN with | none => .err | some r => .next (mk r))
    (hne : nest ty f ρid γid rows flagN toksN ≠ .error .fuel) :
    Post encF ty rows nodes γ ρ γid ρid (L G (n' + 1) v) (nest ty f ρid γid rows flagN toksN) := by
  have hnest : nest ty f ρid γid rows flagN toksN =
      (parseSubtree ty f toksN flagN γid γid rows >>= fun r => expectRp r.1 >>= fun t2 => .ok (t2, r.2)) >>=
        fun q => parseSubtree ty f q.1 true ρid γid q.2 := by
    simp only [nest, bind_assoc, ok_bind]
  have hsp := split_of_loop hP toksN flagN γid rows hnb G hG nodes γ hγ
  rw [hnest] at hne ⊢
  revert hsp hne
  rcases (parseSubtree ty f toksN flagN γid γid rows >>= fun r => expectRp r.1 >>= fun t2 => Except.ok (t2, r.2)) with e | ⟨t2, rows2⟩
  · intro hne hsp
    rw [hsp fun c => hne (by cases c; rfl)] at hbody
    exact L_err _ _ _ hbody
  · rintro hne ⟨n1, new1, g1, rfl, g3, g4⟩
    rw [g1] at hbody
    rw [L_next _ _ _ _ hbody]
    obtain ⟨m1, m2, m3, m4⟩ := hmk (st encF t2 n1, ())
    have hlen := g4.len
    exact Post.imp rfl (fun _ _ h => Built.split encF hγ hρ g4 (by simpa using h))
      (hP t2 true ρid γid _ g3 hne G n' _ n1 ρ γ hn (by omega) m1 m2 m3 m4 (by omega) (by omega))

theorem loop_step {ty : Int} {f : Nat} (hP : LoopSpec encF ty f) : LoopSpec encF ty (f + 1) := by
  intro toks flag ρid γid rows hnb hne G n v nodes ρ γ hn hG hs hr hc hf hρ hγ
  obtain ⟨n', rfl⟩ := Nat.exists_eq_add_one.2 (Nat.zero_lt_of_lt hn)
  have hn' : f ≤ n' := Nat.le_of_succ_le_succ hn
  have hG' : 2 * f ≤ G := by omega
  have hG2 : 2 * f + 2 ≤ G := hG
  cases toks with
  | nil =>
    rw [parseSubtree_nil, L_brk _ _ _ _ (step_nil encF G v nodes hs)]
    exact ⟨_, nodes, [], rfl, hs, by simp, hnb, Built.nil encF ty nodes γ ρ γid ρid _⟩
  | cons tk t =>
    have hnt := hnb.tail
    cases tk with
    | lp =>
      cases flag with
      | true =>
        rw [parseSubtree_lp_true, adv_noBad _ _ hnb, ok_bind] at hne ⊢
        rw [L_next _ _ _ _ (step_lp_flag encF G v t nodes hs hf)]
        exact hP t false ρid γid rows hnt hne G n' _ nodes ρ γ hn' hG' rfl hr hc rfl hρ hγ
      | false =>
        rw [parseSubtree_lp_false, adv_noBad _ _ hnb, ok_bind] at hne ⊢
        have hb := step_lp_noflag encF G v t nodes hs hf
        rw [hc] at hb
        exact split_case hP t false ρid γid rows hnt G n' v nodes ρ γ hn' hG2 hρ hγ
          (fun r => { v with token := some (enc encF .lp), self := r.1, flag := true, current := (γ : Int) }) (fun r => ⟨rfl, hr, rfl, rfl⟩) hb hne
    | rp =>
      cases flag with
      | true =>
        rw [parseSubtree_rp_true, L_brk _ _ _ _ (step_rp_flag encF G v t nodes hs hf)]
        exact ⟨_, nodes, [], rfl, hs, by simp, hnb, Built.nil encF ty nodes γ ρ γid ρid _⟩
      | false =>
        rw [parseSubtree_rp_false, adv_noBad _ _ hnb, ok_bind] at hne ⊢
        rw [L_next _ _ _ _ (step_rp_noflag encF G v t nodes hs hf)]
        exact hP t true ρid γid rows hnt hne G n' _ nodes ρ γ hn' hG' rfl hr hc rfl hρ hγ
    | bar =>
      cases flag with
      | true =>
        rw [parseSubtree_bar_true, adv_noBad _ _ hnb, ok_bind] at hne ⊢
        rw [L_next _ _ _ _ (step_bar_flag encF G v t nodes hs hf)]
        exact Post.imp (List.append_nil _).symm (fun _ _ h => h.bar)
          (hP t true ρid ρid rows hnt hne G n' _ nodes ρ ρ hn' hG' rfl hr hr rfl hρ hρ)
      | false =>
        rw [parseSubtree_bar_false] at hne ⊢
        have hb := step_bar_noflag encF G v t nodes hs hf
        rw [hc] at hb
        exact split_case hP (.bar :: t) true ρid γid rows hnb G n' v nodes ρ γ hn' hG2 hρ hγ
          (fun r => { v with token := some (enc encF .bar), self := r.1, flag := true, current := (γ : Int) }) (fun r => ⟨rfl, hr, rfl, rfl⟩) hb hne
    | comment c =>
      rw [parseSubtree_comment, adv_noBad _ _ hnb, ok_bind] at hne ⊢
      have hb := step_comment encF G v c t nodes hs
      rw [hc, parse_comment_refines] at hb
      obtain ⟨n1, a1, a2, a3⟩ := attach nodes (commentRec c) γ hγ
      rw [a1] at hb
      rw [L_next _ _ _ _ hb]
      exact Post.imp (List.append_nil _).symm (fun _ _ h => Built.leaf encF (commentRec c) hγ hρ (by decide : (3 : Int) < 5) rfl a3 a2 h)
        (hP t flag ρid γid rows hnt hne G n' _ n1 ρ γ hn' hG' rfl hr rfl hf (by omega) (by omega))
    | float a =>
      cases flag with
      | true =>
        rw [C15.unbracketed_point_rejected]
        exact L_err _ _ _ (step_float_flag encF G v a t nodes hs hf)
      | false =>
        rw [parseSubtree_float_false] at hne ⊢
        have hb := step_float_noflag encF G v a t nodes hs hf
        rw [hc, parse_node_refines encF _ _ _ hnb] at hb
        revert hb hne
        cases hpn : parseNode (.float a :: t) with
        | error er =>
          intro hne hb
          exact L_err _ _ _ hb
        | ok nr =>
          obtain ⟨⟨x, y, z, r⟩, rest⟩ := nr
          intro hne hb
          simp only [ok_bind] at hne ⊢
          obtain ⟨n1, a1, a2, a3⟩ := attach nodes (nodeRec encF x y z r) γ hγ
          simp only [a1, Option.map_some] at hb
          rw [L_next _ _ _ _ hb]
          exact Post.imp rfl (fun _ _ h => Built.node encF x y z r hγ hρ a3 a2 (by simpa using h))
            (hP rest true ρid _ _ (NoBad.of_suffix hnb (parseNode_suffix hpn).1) hne G n' _ n1 ρ nodes.length hn' hG' rfl hr rfl rfl
              (by omega) (by omega))
    | literal w =>
      rw [parseSubtree_literal] at hne ⊢
      by_cases hw : upper w = "COLOR".toList
      · rw [if_pos hw] at hne ⊢
        have hb := step_lit_color encF G v w t nodes hs hw
        rw [hc, parse_color_refines encF _ _ _ hnb] at hb
        revert hb hne
        cases hpc : parseColor (.literal w :: t) with
        | error er =>
          intro hne hb
          exact L_err _ _ _ hb
        | ok rest =>
          intro hne hb
          simp only [ok_bind] at hne ⊢
          obtain ⟨n1, a1, a2, a3⟩ := attach nodes (colorRec encF (.literal w :: t)) γ hγ
          simp only [a1, Option.map_some] at hb
          rw [L_next _ _ _ _ hb]
          exact Post.imp (List.append_nil _).symm
            (fun _ _ h => Built.leaf encF (colorRec encF (.literal w :: t)) hγ hρ (by decide : (3 : Int) < 4) rfl a3 a2 h)
            (hP rest true ρid γid rows (NoBad.of_suffix hnb (parseColor_suffix hpc).1) hne G n' _ n1 ρ γ hn' hG' rfl hr rfl rfl (by omega) (by omega))
      · rw [if_neg hw]
        exact L_err _ _ _ (step_lit_other encF G v w t nodes hs hw)
    | bad => exact absurd rfl (noBad_head hnb)

/-- **`_parse_subtree` ↔ `_parse_split` as translated do what `Asc.parseSubtree` does**, for every fuel of the model (induction), every
token list without a lexer failure, every state of the `flag` protocol and every heap: see `LoopSpec` -/
theorem loop_sim (ty : Int) : ∀ f : Nat, LoopSpec encF ty f
  | 0 => fun _ _ _ _ _ _ hne => absurd rfl hne
  | f + 1 => loop_step (loop_sim ty f)

end RefineAscLoop
