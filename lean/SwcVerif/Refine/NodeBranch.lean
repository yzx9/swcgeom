import SwcVerif.Gen.AlgoNodeBranch
import SwcVerif.Refine.Node
import SwcVerif.Model.Branches
import SwcVerif.Proofs.Represent
import SwcVerif.Refine.PyRun
import SwcVerif.Proofs.NodeChain
/-! Refinement for C08's node-level methods, generated from `swcgeom/core/tree.py` on every run (`Gen/AlgoNodeBranch.lean`):
`Tree.get_tips` and `Tree.Node.branch` (on the node methods of `Gen/AlgoNode.lean`, specified in `Refine/Node.lean`). -/
namespace RefineNodeBranch
open Gen.Algo Py Sub Branches

/-! ### `Tree.get_tips` -/

/-- **`Tree.get_tips` as translated** never raises and returns `np.setdiff1d(ids, pids, assume_unique=True)` = the model `getTips`
(the ids that never occur in the parent column, in table order) — for any two columns with distinct ids (what numpy returns when
the FIRST array repeats a value depends on the algorithm it picks: no claim is made there, `Py.setdiff1dUnique`) -/
theorem getTips_refines (ids pids : List Int) (hd : ids.Nodup) : get_tips ids pids = some (getTips ids pids) := by
  obtain ⟨v', e1, _, e3⟩ := Py.forEach_collect get_tips.for1 (·.c1_) id (fun _ => True) (ids.filter fun x => !pids.contains x)
    (fun x _ v _ => ⟨_, rfl, trivial, rfl⟩)
    { (default : get_tips.V) with ids := ids, pids := pids, tip_ids := ids.filter fun x => !pids.contains x, c1_ := [] } trivial
  simp only [get_tips, get_tips.body, Py.seq, Py.bind, Py.bindS, Py.setdiff1dUnique, (distinct_iff ids).2 hd, if_true]
  rw [e1]
  simp [Py.finish, getTips, e3]

/-! ### `Tree.Node.branch`

The method walks UP from the node while the last node is not a furcation and has a parent, reverses, then walks DOWN through first
children while the last node is neither a furcation nor a tip.  `upC` / `downC` are the two chains as recursions with fuel. -/

/-- the chain the first loop collects (bottom-up): stop at a furcation or at a node without parent -/
def upC (K : Int → List Int) (pids : List Int) : Nat → Int → List Int
  | 0, c => [c]
  | f+1, c => if 2 ≤ (K c).length then [c] else
      if pids.getD c.toNat (-1) = -1 then [c] else c :: upC K pids f (pids.getD c.toNat (-1))

/-- the nodes the second loop appends below `c`: the only child, as long as there is exactly one -/
def downC (K : Int → List Int) : Nat → Int → List Int
  | 0, _ => []
  | f+1, c => match K c with
    | [j] => j :: downC K f j
    | _ => []

/-- children lists of a `Tree` object with parent column `pids` -/
abbrev KK (pids : List Int) : Int → List Int := tableKids (rangeI pids.length) pids

/-- **model of `Tree.Node.branch`** on a `Tree` object with parent column `pids` -/
def nodeBranch (pids : List Int) (F : Nat) (k : Int) : List Int :=
  (upC (KK pids) pids F k).reverse ++ downC (KK pids) F k

theorem node_parent_getD (pids : List Int) (c : Int) (h0 : 0 ≤ c) (hc : c < pids.length) :
    node_parent pids c = some (if pids.getD c.toNat (-1) = -1 then none else some (pids.getD c.toNat (-1))) := by
  rw [RefineNode.node_parent_spec pids c h0 hc, Py.getD_eq_getElem _ _ (by omega)]

/-! Every fact about `upC` / `downC` (what the loops compute, validity of the handles, shape) is an induction on the fuel with the same
case analysis of one round; `upC_succ` / `downC_succ` do it once, with the facts about the next node that the cases need. -/

theorem upC_succ {pids : List Int} (hw : C07.WF pids) (f : Nat) (c : Int) (h0 : 0 ≤ c) (hc : c < pids.length) :
    (upC (KK pids) pids (f + 1) c = [c] ∧ (2 ≤ (KK pids c).length ∨ pids.getD c.toNat (-1) = -1)) ∨
    (upC (KK pids) pids (f + 1) c = c :: upC (KK pids) pids f (pids.getD c.toNat (-1)) ∧ ¬ 2 ≤ (KK pids c).length ∧
      pids.getD c.toNat (-1) ≠ -1 ∧ 0 ≤ pids.getD c.toNat (-1) ∧ pids.getD c.toNat (-1) < pids.length ∧
      Represent.D pids c = Represent.D pids (pids.getD c.toNat (-1)) + 1 ∧ c ∈ KK pids (pids.getD c.toNat (-1))) := by
  rw [upC]
  by_cases hF : 2 ≤ (KK pids c).length
  · exact Or.inl ⟨if_pos hF, Or.inl hF⟩
  by_cases hP : pids.getD c.toNat (-1) = -1
  · exact Or.inl ⟨by rw [if_neg hF, if_pos hP], Or.inr hP⟩
  have hpos : 0 < c := Int.lt_iff_le_and_ne.2 ⟨h0, fun h => hP (h ▸ hw.par_root)⟩
  have hv := hw.par_valid' c hpos hc
  refine Or.inr ⟨by rw [if_neg hF, if_neg hP], hF, hP, hv.1, hv.2, ?_, ?_⟩
  · unfold Represent.D; rw [hw.path_cons c hpos hc, List.length_cons]
  · rw [C06.mem_tableKids]
    exact ⟨h0, by omega, by rw [Py.getD_eq_getElem _ _ (by omega)]⟩

theorem downC_succ {pids : List Int} (hw : C07.WF pids) (f : Nat) (c : Int) (h0 : 0 ≤ c) :
    (downC (KK pids) (f + 1) c = [] ∧ ((KK pids c).length = 0 ∨ 2 ≤ (KK pids c).length)) ∨
    ∃ j, downC (KK pids) (f + 1) c = j :: downC (KK pids) f j ∧ KK pids c = [j] ∧ 0 ≤ j ∧ j < pids.length ∧
      Represent.D pids j = Represent.D pids c + 1 ∧ Represent.D pids j ≤ pids.length := by
  rw [downC]
  match hK : KK pids c with
  | [] => exact Or.inl ⟨rfl, Or.inl rfl⟩
  | [j] =>
    have hj : j ∈ KK pids c := hK ▸ List.mem_cons_self
    obtain ⟨hj0, hjl, _, _⟩ := Represent.kid_facts hw c j h0 hj
    exact Or.inr ⟨j, rfl, rfl, Int.le_of_lt hj0, hjl, Represent.kid_D hw c j h0 hj⟩
  | a :: b :: t => exact Or.inl ⟨rfl, Or.inr (by simp)⟩

theorem upC_cons {pids : List Int} (hw : C07.WF pids) : ∀ (f : Nat) (c : Int), 0 ≤ c → c < pids.length →
    ∃ t, upC (KK pids) pids f c = c :: t
  | 0, c, _, _ => ⟨[], rfl⟩
  | f + 1, c, h0, hc => by rcases upC_succ hw f c h0 hc with ⟨e, -⟩ | ⟨e, -⟩ <;> exact ⟨_, e⟩

theorem upC_valid {pids : List Int} (hw : C07.WF pids) : ∀ (f : Nat) (c : Int), 0 ≤ c → c < pids.length →
    ∀ x ∈ upC (KK pids) pids f c, 0 ≤ x ∧ x < pids.length := by
  intro f
  induction f with
  | zero => exact fun c h0 hc => List.forall_mem_singleton.2 ⟨h0, hc⟩
  | succ f ih =>
    intro c h0 hc
    rcases upC_succ hw f c h0 hc with ⟨e, -⟩ | ⟨e, -, -, p0, pl, -, -⟩ <;> rw [e]
    · exact List.forall_mem_singleton.2 ⟨h0, hc⟩
    · exact List.forall_mem_cons.2 ⟨⟨h0, hc⟩, ih _ p0 pl⟩

theorem downC_valid {pids : List Int} (hw : C07.WF pids) : ∀ (f : Nat) (c : Int), 0 ≤ c →
    ∀ x ∈ downC (KK pids) f c, 0 ≤ x ∧ x < pids.length := by
  intro f
  induction f with
  | zero => exact fun c _ x hx => nomatch hx
  | succ f ih =>
    intro c h0
    rcases downC_succ hw f c h0 with ⟨e, -⟩ | ⟨j, e, -, hj0, hjl, -, -⟩ <;> rw [e]
    · exact fun x hx => nomatch hx
    · exact List.forall_mem_cons.2 ⟨⟨hj0, hjl⟩, ih j hj0⟩

theorem nodeBranch_valid {pids : List Int} (hw : C07.WF pids) (F : Nat) (k : Int) (h0 : 0 ≤ k) (hk : k < pids.length) :
    ∀ x ∈ nodeBranch pids F k, 0 ≤ x ∧ x < pids.length := fun x hx =>
  (List.mem_append.1 hx).elim (fun h => upC_valid hw F k h0 hk x (List.mem_reverse.1 h)) (downC_valid hw F k h0 x)

abbrev vars (pids : List Int) (v : node_branch.V) (ns : List Int) (p : Option Int) : node_branch.V :=
  { v with ids := rangeI pids.length, pids := pids, ns := ns, p := p }

theorem body1_eq (pids : List Int) (v : node_branch.V) (pre : List Int) (c : Int) (p : Option Int) (h0 : 0 ≤ c) (hc : c < pids.length) :
    node_branch.while1_body (vars pids v (pre ++ [c]) p) =
      if 2 ≤ (KK pids c).length then .brk (vars pids v (pre ++ [c]) p)
      else if pids.getD c.toNat (-1) = -1 then .brk (vars pids v (pre ++ [c]) none)
      else .next (vars pids v (pre ++ [c] ++ [pids.getD c.toNat (-1)]) (some (pids.getD c.toNat (-1)))) := by
  simp only [node_branch.while1_body, Py.seq, Py.bind, idx_last, List.getLast?_concat,
    RefineNode.node_is_furcation_spec pids.length pids (Nat.le_refl _) c h0 hc, node_parent_getD pids c h0 hc]
  by_cases hF : 2 ≤ (KK pids c).length
  · simp [hF]
  · by_cases hP : pids.getD c.toNat (-1) = -1 <;>
      simp [-List.getD_eq_getElem?_getD, hF, hP, Py.skip, idx_last, node_parent_getD pids c h0 hc]

theorem up_loop {pids : List Int} (hw : C07.WF pids) (v : node_branch.V) :
    ∀ (f : Nat) (c : Int) (pre : List Int) (p : Option Int), 0 ≤ c → c < pids.length → Represent.D pids c ≤ f →
      ∃ p', whileF node_branch.while1_cond node_branch.while1_body f (vars pids v (pre ++ [c]) p) =
        .next (vars pids v (pre ++ upC (KK pids) pids f c) p') := by
  intro f
  induction f with
  | zero => intro c _ _ _ _ hD; exact absurd hD (Nat.not_le.2 (Represent.D_pos pids c))
  | succ f ih =>
    intro c pre p h0 hc hD
    simp only [whileF, node_branch.while1_cond, body1_eq pids v pre c p h0 hc]
    rcases upC_succ hw f c h0 hc with ⟨e, htop⟩ | ⟨e, hF, hP, p0, pl, hDc, -⟩ <;> rw [e]
    · by_cases hF : 2 ≤ (KK pids c).length
      · rw [if_pos hF]; exact ⟨p, rfl⟩
      · rw [if_neg hF, if_pos (htop.resolve_left hF)]; exact ⟨none, rfl⟩
    · obtain ⟨p', e⟩ := ih _ (pre ++ [c]) (some (pids.getD c.toNat (-1))) p0 pl (by omega)
      simp only [if_neg hF, if_neg hP]
      exact ⟨p', by rw [e, List.append_assoc]; rfl⟩

theorem cond2_eq (pids : List Int) (v : node_branch.V) (pre : List Int) (c : Int) (p : Option Int) (h0 : 0 ≤ c) (hc : c < pids.length) :
    node_branch.while2_cond (vars pids v (pre ++ [c]) p) =
      some (!(decide (2 ≤ (KK pids c).length) || decide ((KK pids c).length = 0))) := by
  simp only [node_branch.while2_cond, idx_last, List.getLast?_concat, Option.bind_some,
    RefineNode.node_is_furcation_spec pids.length pids (Nat.le_refl _) c h0 hc,
    RefineNode.node_is_tip_spec pids.length pids (Nat.le_refl _) c h0 hc]
  by_cases hF : 2 ≤ (KK pids c).length <;> simp [hF]

theorem body2_eq (pids : List Int) (v : node_branch.V) (pre : List Int) (c j : Int) (p : Option Int) (h0 : 0 ≤ c) (hc : c < pids.length)
    (hK : KK pids c = [j]) :
    node_branch.while2_body (vars pids v (pre ++ [c]) p) = .next (vars pids v (pre ++ [c] ++ [j]) p) := by
  simp only [node_branch.while2_body, Py.bind, idx_last, List.getLast?_concat, RefineNode.node_children_spec pids.length pids c h0 hc]
  rw [show tableKids (rangeI pids.length) pids c = [j] from hK]
  simp [Py.idx, Py.normIdx]

theorem down_loop {pids : List Int} (hw : C07.WF pids) (v : node_branch.V) (p : Option Int) :
    ∀ (f : Nat) (c : Int) (pre : List Int), 0 ≤ c → c < pids.length → pids.length - Represent.D pids c < f →
      whileF node_branch.while2_cond node_branch.while2_body f (vars pids v (pre ++ [c]) p) =
        .next (vars pids v (pre ++ [c] ++ downC (KK pids) f c) p) := by
  intro f
  induction f with
  | zero => intro c _ _ _ hD; exact absurd hD (Nat.not_lt_zero _)
  | succ f ih =>
    intro c pre h0 hc hD
    rw [whileF, cond2_eq pids v pre c p h0 hc]
    rcases downC_succ hw f c h0 with ⟨e, hstop⟩ | ⟨j, e, hK, hj0, hjl, hDj, hDl⟩ <;> rw [e]
    · have hb : (decide (2 ≤ (KK pids c).length) || decide ((KK pids c).length = 0)) = true := by
        rcases hstop with h | h <;> simp [h]
      rw [hb, List.append_nil]; rfl
    · rw [hK, body2_eq pids v pre c j p h0 hc hK]
      exact (ih j (pre ++ [c]) hj0 hjl (by omega)).trans (by simp)

/-- the fuel `n + 1` suffices for both loops, from every valid node -/
theorem fuel_ok {pids : List Int} (hw : C07.WF pids) (k : Int) (h0 : 0 ≤ k) (hk : k < pids.length) (F : Nat) (hF : pids.length + 1 ≤ F) :
    Represent.D pids k ≤ F ∧ pids.length - Represent.D pids k < F :=
  ⟨Nat.le_trans (Represent.D_le hw k h0 hk) (Nat.le_of_succ_le hF), Nat.lt_of_lt_of_le (Nat.lt_succ_of_le (Nat.sub_le _ _)) hF⟩

/-- **`Tree.Node.branch` as translated equals the model** on every well-formed `Tree` object (ids = positions), for every valid node
handle and every fuel `F ≥ n + 1` (fuel sufficiency included: neither loop runs out, no handle is invalid, nothing raises) -/
theorem nodeBranch_refines {pids : List Int} (hw : C07.WF pids) (k : Int) (h0 : 0 ≤ k) (hk : k < pids.length) (F : Nat)
    (hF : pids.length + 1 ≤ F) :
    node_branch F (rangeI pids.length) pids k = some (nodeBranch pids F k) := by
  obtain ⟨f1, f2⟩ := fuel_ok hw k h0 hk F hF
  -- the chain starts with the node itself: after `reverse` the node is the last element
  obtain ⟨t, ht⟩ := upC_cons hw F k h0 hk
  obtain ⟨p', e1⟩ := up_loop hw { (default : node_branch.V) with self := k } F k [] (default : node_branch.V).p h0 hk f1
  have e2 := down_loop hw { (default : node_branch.V) with self := k } p' F k t.reverse h0 hk f2
  have hval := nodeBranch_valid hw F k h0 hk
  obtain ⟨v', e3, _, e4⟩ := Py.forEach_collect node_branch.for3 (·.c13_) id (·.ids = rangeI pids.length) (nodeBranch pids F k)
    (fun x hx v hv =>
      ⟨{ v with n := x, c13_ := v.c13_ ++ [x] },
        by simp only [node_branch.for3, hv, RefineNode.idx_rangeI _ x (hval x hx).1 (hval x hx).2, Py.bind], hv, rfl⟩)
    { vars pids { (default : node_branch.V) with self := k } (nodeBranch pids F k) p' with c13_ := [] } rfl
  simp only [vars, nodeBranch, ht, List.reverse_cons, List.nil_append] at e1 e2 e3
  simp -implicitDefEqProofs only [node_branch, node_branch.body, seq_eq_bindS, bindS_next, e1, e2, e3, finish_ret, Option.map_some, e4,
    List.nil_append, List.map_id, nodeBranch, ht, List.reverse_cons]

/-! ### what the model chain is (`UpOK`, `DownOK`: `Proofs/NodeChain.lean`) -/

theorem upC_ok {pids : List Int} (hw : C07.WF pids) : ∀ (f : Nat) (c : Int), 0 ≤ c → c < pids.length → Represent.D pids c ≤ f →
    UpOK (KK pids) pids (upC (KK pids) pids f c) ∧ (upC (KK pids) pids f c).head? = some c := by
  intro f c h0 hc hD
  refine ⟨?_, by obtain ⟨t, e⟩ := upC_cons hw f c h0 hc; rw [e]; rfl⟩
  induction f generalizing c with
  | zero => exact absurd hD (Nat.not_le.2 (Represent.D_pos pids c))
  | succ f ih =>
    rcases upC_succ hw f c h0 hc with ⟨e, htop⟩ | ⟨e, hF, hP, p0, pl, hDc, hm⟩ <;> rw [e]
    · exact .top c htop
    · obtain ⟨rest, hu⟩ := upC_cons hw f _ p0 pl
      have := ih _ p0 pl (by omega)
      rw [hu] at this ⊢
      exact .step c _ rest hF rfl hP hm this

theorem downC_ok {pids : List Int} (hw : C07.WF pids) : ∀ (f : Nat) (c : Int), 0 ≤ c → c < pids.length →
    pids.length - Represent.D pids c < f → DownOK (KK pids) c (downC (KK pids) f c) := by
  intro f
  induction f with
  | zero => intro c _ _ hD; exact absurd hD (Nat.not_lt_zero _)
  | succ f ih =>
    intro c h0 hc hD
    rcases downC_succ hw f c h0 with ⟨e, hstop⟩ | ⟨j, e, hK, hj0, hjl, hDj, hDl⟩ <;> rw [e]
    · exact .stop c hstop
    · exact .step c j _ hK (ih j hj0 hjl (by omega))

/-- **shape of `Tree.Node.branch`** (model level): the node's chain up to the nearest furcation / the root, reversed, followed by the chain
of only children down to the next furcation / tip -/
theorem nodeBranch_shape {pids : List Int} (hw : C07.WF pids) (k : Int) (h0 : 0 ≤ k) (hk : k < pids.length) (F : Nat)
    (hF : pids.length + 1 ≤ F) :
    ∃ up down, nodeBranch pids F k = up.reverse ++ down ∧ up.head? = some k ∧ UpOK (KK pids) pids up ∧ DownOK (KK pids) k down := by
  obtain ⟨f1, f2⟩ := fuel_ok hw k h0 hk F hF
  obtain ⟨h1, h2⟩ := upC_ok hw F k h0 hk f1
  exact ⟨_, _, rfl, h2, h1, downC_ok hw F k h0 hk f2⟩

/-- the quirk recorded in DESIGN.md §6: the branch of a furcation is the one-node branch -/
theorem nodeBranch_furcation (pids : List Int) (k : Int) (F : Nat) (hF : 2 ≤ (KK pids k).length) :
    nodeBranch pids (F + 1) k = [k] := by
  have h1 : upC (KK pids) pids (F + 1) k = [k] := by rw [upC, if_pos hF]
  have h2 : downC (KK pids) (F + 1) k = [] := by
    rw [downC]
    split
    · rename_i j hj; rw [hj] at hF; simp at hF
    · rfl
  rw [nodeBranch, h1, h2]; rfl

end RefineNodeBranch
