import SwcVerif.Gen.AlgoCat
import SwcVerif.Refine.PyLemmas
import SwcVerif.Refine.PyRun
import SwcVerif.Refine.Redirect
import SwcVerif.Refine.Node
import SwcVerif.Model.Redirect
import SwcVerif.Proofs.Redirect
/-! Refinement for C07 (concatenation): the definition GENERATED from `swcgeom/core/tree_utils.py::cat_tree` (with the generated
node-handle methods, the generated `redirect_tree` and the generated six-column `_sort_tree`; `Gen/AlgoCat.lean`, regenerated on
every run) rewrites the columns exactly as the hand-written model `Redir.catPre` says and then applies the generated `_sort_tree`
to exactly those columns; whenever the model's renumbering succeeds the result as a whole is `Redir.catTree`. -/
namespace RefineCat
open Gen.Algo Redir Py SortM RefineRedirect

/-! ### the numpy idioms -/

theorem is_root_spec (pids : List Int) (k : Nat) (hk : k < pids.length) :
    node_is_root pids (k : Int) = some (decide (pids.getD k (-1) = -1)) := by
  rw [RefineNode.node_is_root_eq, idx_nat pids k hk, List.getD_eq_getElem?_getD, List.getElem?_eq_getElem hk]
  rfl

theorem dropAt_single {α : Type} (k : Nat) (l : List α) : ∀ j : Nat,
    dropAt l j [k] = if k < j then l else l.eraseIdx (k - j) := by
  induction l with
  | nil => intro j; simp [dropAt]
  | cons x xs ih =>
    intro j
    rw [dropAt, ih (j + 1)]
    by_cases e : j = k
    · subst e; simp
    · by_cases h : k < j
      · simp [e, h, Nat.lt_succ_of_lt h]
      · rw [show k - j = k - (j + 1) + 1 by omega]
        simp [e, h, show ¬ k < j + 1 by omega]

/-- `np.delete(a, [k])` for a row `k`: the array without that row -/
theorem delete_single {α : Type} (l : List α) (k : Nat) (h : k < l.length) : Py.delete l [(k : Int)] = some (eraseAt l k) := by
  simp [Py.delete, normIdx_nat _ _ h, dropAt_single, eraseAt_eq_eraseIdx]

/-! ### the loops -/

/-- `[n.id + ns for n in …children()]`: the ids of the listed rows, shifted -/
theorem for1_loop : ∀ (L : List Int) (v : cat_tree.V), (∀ k ∈ L, idx v.ids2 k = some k) →
    forEach cat_tree.for1 L v = .next { v with c16_ := v.c16_ ++ L.map (· + v.ns), n_c15 := L.getLast?.getD v.n_c15 } := by
  intro L
  induction L with
  | nil => intro v _; simp [forEach]
  | cons a L ih =>
    intro v h
    have ha := h a (by simp)
    have := ih { v with n_c15 := a, c16_ := v.c16_ ++ [a + v.ns] } (fun k hk => h k (List.mem_cons_of_mem _ hk))
    simp only [forEach, cat_tree.for1, Py.bind, ha]
    rw [this]
    simp [List.getLast?_cons]

/-- `for n in link_to_root: tree.node(n).pid = node1` -/
theorem for2_loop : ∀ (L : List Int) (v : cat_tree.V), (∀ k ∈ L, 0 ≤ k ∧ k < v.pids.length) →
    forEach cat_tree.for2 L v =
      .next { v with pids := L.foldl (fun ps n => setAt ps n v.node1) v.pids, n := L.getLast?.getD v.n } := by
  intro L
  induction L with
  | nil => intro v _; simp [forEach]
  | cons a L ih =>
    intro v h
    have ha := h a (by simp)
    have e := setIdx_nonneg v.pids a v.node1 ha.1 ha.2
    have := ih { v with n := a, pids := setAt v.pids a v.node1 }
      (fun k hk => by simpa [setAt_length] using h k (List.mem_cons_of_mem _ hk))
    simp only [forEach, cat_tree.for2, Py.bind, e]
    rw [this]
    simp [List.getLast?_cons]

/-! ### `_sort_tree` on six columns -/

/-- **`_sort_tree` as translated for a tree with the columns id, pid, type, x, y, z**: whenever the model's renumbering succeeds on a
table with distinct ids, every column is gathered by the row permutation and the two topology columns are replaced -/
theorem sortTree6_refines (ids pids types xs ys zs : List Int) (hnd : ids.Nodup) (hlp : pids.length = ids.length)
    (hlt : types.length = ids.length) (hlx : xs.length = ids.length) (hly : ys.length = ids.length) (hlz : zs.length = ids.length)
    (r : Result) (h : sortNodesImpl ids pids = .ok r) (F : Nat) :
    sort_tree6_ (ids.length + 1 + F) ids pids types xs ys zs =
      some (range (ids.length : Int), r.newPids, permute types r.indices, permute xs r.indices, permute ys r.indices,
        permute zs r.indices, ()) := by
  have hs := RefineSort.sort_refines ids pids hnd r h F
  have hlt' := indices_lt ids pids r h
  have t1 := take_of_lt ids r.indices hlt'
  have t2 := take_of_lt pids r.indices (by rw [hlp]; exact hlt')
  have t3 := take_of_lt types r.indices (by rw [hlt]; exact hlt')
  have t4 := take_of_lt xs r.indices (by rw [hlx]; exact hlt')
  have t5 := take_of_lt ys r.indices (by rw [hly]; exact hlt')
  have t6 := take_of_lt zs r.indices (by rw [hlz]; exact hlt')
  simp only [sort_tree6_, sort_tree6_.body, seq, Py.bind, hs, t1, t2, t3, t4, t5, t6, finish]
  simp

/-! ### the whole function -/

/-- a `Tree` object's id column: ids = positions -/
abbrev rng (n : Nat) : List Int := (List.range n).map (fun (j : Nat) => (j : Int))

theorem rng_idx (n k : Nat) (h : k < n) : idx (rng n) (k : Int) = some (k : Int) :=
  ids_idx n k (Int.natCast_nonneg k) (Int.ofNat_lt.2 h)

theorem rows_shift {a b M : List Int} (h : ∀ j ∈ M, 0 ≤ j ∧ j < (b.length : Int)) :
    ∀ k ∈ M.map (· + (a.length : Int)), 0 ≤ k ∧ k < ((a ++ b.map (· + (a.length : Int))).length : Int) := by
  intro k hk
  obtain ⟨j, hj, rfl⟩ := List.mem_map.1 hk
  have := h j hj
  rw [List.length_append, List.length_map]
  omega

section core
variable (p1 t1 x1 y1 z1 p2 t2 x2 y2 z2 : List Int) (node1 node2 : Nat) (translate : Bool)

theorem rng_eq (n : Nat) : (List.range n).map Int.ofNat = rng n := rfl

theorem rng_shift (n : Nat) (d : Int) : (List.range n).map (fun k => Int.ofNat k + d) = (rng n).map (fun x => x + d) := by
  simp [rng, List.map_map, Function.comp_def]

theorem map_sub_zero (l : List Int) : l.map (fun x => x - 0) = l := by simp

/-- the model when `node2` already is the root of the second tree and no translation is requested, in the form the generated code computes it -/
theorem catPre_false (hr : p2.getD node2 (-1) = -1) :
    catPre p1 t1 x1 y1 z1 p2 t2 x2 y2 z2 (node1 : Int) (node2 : Int) false =
      if (x2.getD node2 0 - x1.getD node1 0) * (x2.getD node2 0 - x1.getD node1 0) +
          (y2.getD node2 0 - y1.getD node1 0) * (y2.getD node2 0 - y1.getD node1 0) +
          (z2.getD node2 0 - z1.getD node1 0) * (z2.getD node2 0 - z1.getD node1 0) = 0 then
        ⟨eraseAt (rng p1.length ++ (rng p2.length).map (fun x => x + (p1.length : Int))) (node2 + p1.length),
         eraseAt (((tableKids (rng p2.length) p2 (node2 : Int)).map (fun x => x + (p1.length : Int))).foldl
            (fun ps n => setAt ps n (node1 : Int)) (p1 ++ p2.map (fun x => x + (p1.length : Int)))) (node2 + p1.length),
         eraseAt (x1 ++ x2) (node2 + p1.length), eraseAt (y1 ++ y2) (node2 + p1.length), eraseAt (z1 ++ z2) (node2 + p1.length),
         eraseAt (t1 ++ t2) (node2 + p1.length)⟩
      else
        ⟨rng p1.length ++ (rng p2.length).map (fun x => x + (p1.length : Int)),
         setAt (p1 ++ p2.map (fun x => x + (p1.length : Int))) ((node2 : Int) + (p1.length : Int)) (node1 : Int),
         x1 ++ x2, y1 ++ y2, z1 ++ z2, t1 ++ t2⟩ := by
  have hk : ((node2 : Int) + (p1.length : Int)).toNat = node2 + p1.length := by omega
  simp only [catPre, Int.toNat_natCast, hr, if_true, hk, Bool.false_eq_true, if_false, map_sub_zero, rng_eq, rng_shift]
  split <;> simp

theorem map_sub_neg (l : List Int) (d : Int) : l.map (fun x => x - d) = l.map (fun x => x + -d) := by
  apply List.map_congr_left; intro x _; omega

theorem catPre_translate :
    catPre p1 t1 x1 y1 z1 p2 t2 x2 y2 z2 (node1 : Int) (node2 : Int) true =
      catPre p1 t1 x1 y1 z1 p2 t2 (x2.map (fun x => x + -(x2.getD node2 0 - x1.getD node1 0)))
        (y2.map (fun x => x + -(y2.getD node2 0 - y1.getD node1 0))) (z2.map (fun x => x + -(z2.getD node2 0 - z1.getD node1 0)))
        (node1 : Int) (node2 : Int) false := by
  simp only [catPre, Int.toNat_natCast, if_true, Bool.false_eq_true, if_false, map_sub_zero, map_sub_neg]

theorem cat_core_root (h1 : t1.length = p1.length ∧ x1.length = p1.length ∧ y1.length = p1.length ∧ z1.length = p1.length)
    (h2 : t2.length = p2.length ∧ x2.length = p2.length ∧ y2.length = p2.length ∧ z2.length = p2.length)
    (hn1 : node1 < p1.length) (hn2 : node2 < p2.length) (hr : p2.getD node2 (-1) = -1) (fuel : Nat) :
    cat_tree fuel (rng p1.length) p1 t1 x1 y1 z1 (rng p2.length) p2 t2 x2 y2 z2 node1 node2 translate =
      sort_tree6_ fuel (catPre p1 t1 x1 y1 z1 p2 t2 x2 y2 z2 node1 node2 translate).ids
        (catPre p1 t1 x1 y1 z1 p2 t2 x2 y2 z2 node1 node2 translate).pids
        (catPre p1 t1 x1 y1 z1 p2 t2 x2 y2 z2 node1 node2 translate).types
        (catPre p1 t1 x1 y1 z1 p2 t2 x2 y2 z2 node1 node2 translate).x
        (catPre p1 t1 x1 y1 z1 p2 t2 x2 y2 z2 node1 node2 translate).y
        (catPre p1 t1 x1 y1 z1 p2 t2 x2 y2 z2 node1 node2 translate).z := by
  obtain ⟨ht1, hx1, hy1, hz1⟩ := h1
  obtain ⟨ht2, hx2, hy2, hz2⟩ := h2
  have hroot : node_is_root p2 (node2 : Int) = some true := by rw [is_root_spec p2 node2 hn2, decide_eq_true hr]
  have ex1 := idx_nat_getD x1 node1 0 (hx1 ▸ hn1)
  have ey1 := idx_nat_getD y1 node1 0 (hy1 ▸ hn1)
  have ez1 := idx_nat_getD z1 node1 0 (hz1 ▸ hn1)
  have hkids : node_children (rng p2.length) p2 (node2 : Int) = some (tableKids (rng p2.length) p2 (node2 : Int)) := by
    rw [RefineNode.node_children_eq, rng_idx _ _ hn2]; rfl
  have hkm : ∀ k ∈ tableKids (rng p2.length) p2 (node2 : Int), idx (rng p2.length) k = some k ∧ 0 ≤ k ∧ k < (p2.length : Int) := by
    intro k hk
    obtain ⟨j, hj, rfl, _⟩ := (mem_tableKids_range _ _ _ _).1 hk
    exact ⟨rng_idx _ _ hj, Int.natCast_nonneg j, Int.ofNat_lt.2 hj⟩
  have hlen1 : (rng p1.length).length = p1.length := by simp
  have hcast : (node2 : Int) + (p1.length : Int) = ((node2 + p1.length : Nat) : Int) := (Int.natCast_add _ _).symm
  have hdel : ∀ l : List Int, l.length = p1.length + p2.length →
      Py.delete l [((node2 + p1.length : Nat) : Int)] = some (eraseAt l (node2 + p1.length)) :=
    fun l h => delete_single l _ (by rw [h, Nat.add_comm]; exact Nat.add_lt_add_left hn2 _)
  have hlink := rows_shift (a := p1) fun j hj => (hkm j hj).2
  have hone := rows_shift (a := p1) (b := p2) (M := [(node2 : Int)]) fun j hj => by
    rw [List.mem_singleton.1 hj]
    exact ⟨Int.natCast_nonneg _, Int.ofNat_lt.2 hn2⟩
  simp only [cat_tree, cat_tree.body]
  -- the body from `ns = len(tree1)` on does not read `translate`: it is run once, on the columns as they are by then
  generalize hK : Py.seq (fun (v : cat_tree.V) => Res.next { v with ns := Py.len v.ids }) _ = K
  have tail : ∀ (b : Bool) (X2 Y2 Z2 : List Int), X2.length = p2.length → Y2.length = p2.length → Z2.length = p2.length →
      (Py.finish default (K { (default : cat_tree.V) with
          ids := rng p1.length, pids := p1, types := t1, xs := x1, ys := y1, zs := z1,
          ids2 := rng p2.length, pids2 := p2, types2 := t2, xs2 := X2, ys2 := Y2, zs2 := Z2,
          node1 := node1, node2 := node2, translate := b, c := node1 })).map
          (fun r => (r.1.ids, r.1.pids, r.1.types, r.1.xs, r.1.ys, r.1.zs, r.2)) =
        sort_tree6_ fuel (catPre p1 t1 x1 y1 z1 p2 t2 X2 Y2 Z2 node1 node2 false).ids
          (catPre p1 t1 x1 y1 z1 p2 t2 X2 Y2 Z2 node1 node2 false).pids
          (catPre p1 t1 x1 y1 z1 p2 t2 X2 Y2 Z2 node1 node2 false).types
          (catPre p1 t1 x1 y1 z1 p2 t2 X2 Y2 Z2 node1 node2 false).x
          (catPre p1 t1 x1 y1 z1 p2 t2 X2 Y2 Z2 node1 node2 false).y
          (catPre p1 t1 x1 y1 z1 p2 t2 X2 Y2 Z2 node1 node2 false).z := by
    intro b X2 Y2 Z2 hX hY hZ
    subst hK
    have eX := idx_nat_getD X2 node2 0 (hX ▸ hn2)
    have eY := idx_nat_getD Y2 node2 0 (hY ▸ hn2)
    have eZ := idx_nat_getD Z2 node2 0 (hZ ▸ hn2)
    rw [catPre_false _ _ _ _ _ _ _ _ _ _ _ _ hr]
    simp -implicitDefEqProofs only [seq_eq_bindS, bindS_next, bind_some, Py.len, ex1, ey1, ez1, eX, eY, eZ, hlen1]
    by_cases hc : (X2.getD node2 0 - x1.getD node1 0) * (X2.getD node2 0 - x1.getD node1 0) +
                        (Y2.getD node2 0 - y1.getD node1 0) * (Y2.getD node2 0 - y1.getD node1 0) +
                      (Z2.getD node2 0 - z1.getD node1 0) * (Z2.getD node2 0 - z1.getD node1 0) = 0
    · simp -implicitDefEqProofs only [hc, decide_true, if_true, hkids, bind_some]
      rw [for1_loop]
      rotate_left
      · exact fun k hk => (hkm k hk).1
      simp -implicitDefEqProofs only [bindS_next, seq_eq_bindS, List.nil_append]
      rw [for2_loop _ _ hlink]
      simp -implicitDefEqProofs (disch := simp [foldl_setAt_length, ht1, ht2, hx1, hX, hy1, hY, hz1, hZ]) only
        [bindS_next, seq_eq_bindS, Option.isSome_some, if_true, bind_some, hcast, hdel]
      generalize sort_tree6_ fuel _ _ _ _ _ _ = o
      cases o <;> rfl
    · simp -implicitDefEqProofs only [hc, decide_false, Bool.false_eq_true, if_false, seq_eq_bindS, bindS_next]
      rw [for2_loop _ _ hone]
      simp -implicitDefEqProofs only [bindS_next, seq_eq_bindS, Option.isSome_none, Bool.false_eq_true, if_false, skip_apply,
        List.foldl_cons, List.foldl_nil]
      generalize sort_tree6_ fuel _ _ _ _ _ _ = o
      cases o <;> rfl
  cases translate
  · simp -implicitDefEqProofs only [seq_eq_bindS, bindS_next, bind_some, skip_apply, hroot, Bool.not_true, Bool.false_eq_true,
      if_false]
    exact tail false x2 y2 z2 hx2 hy2 hz2
  · simp -implicitDefEqProofs only [seq_eq_bindS, bindS_next, bind_some, skip_apply, hroot, Bool.not_true, Bool.false_eq_true,
      if_false, if_true, ex1, ey1, ez1, idx_nat_getD x2 node2 0 (hx2 ▸ hn2), idx_nat_getD y2 node2 0 (hy2 ▸ hn2), idx_nat_getD z2 node2 0 (hz2 ▸ hn2)]
    rw [catPre_translate]
    exact tail true _ _ _ (by rw [List.length_map, hx2]) (by rw [List.length_map, hy2]) (by rw [List.length_map, hz2])

/-- the model does not distinguish "re-root the second tree at `node2`" from "start from the re-rooted second tree" -/
theorem catPre_redirected (hnr : ¬ p2.getD node2 (-1) = -1)
    (hq : (redirect p2 t2 (node2 : Int)).pids.getD node2 (-1) = -1) :
    catPre p1 t1 x1 y1 z1 p2 t2 x2 y2 z2 (node1 : Int) (node2 : Int) translate =
      catPre p1 t1 x1 y1 z1 (redirect p2 t2 (node2 : Int)).pids (redirect p2 t2 (node2 : Int)).types x2 y2 z2 (node1 : Int) (node2 : Int)
        translate := by
  have hl := (redirect_lengths p2 t2 (node2 : Int)).1
  simp only [catPre, Int.toNat_natCast, if_neg hnr, hq, if_true, hl]

/-- when `node2` is not the root of the second tree, the generated function first re-roots it (the generated `redirect_tree`, which
is the model `Redir.redirect`) and then does what it does on the re-rooted tree -/
theorem cat_redirected (ht2 : t2.length = p2.length) (hn2 : node2 < p2.length) (hnr : ¬ p2.getD node2 (-1) = -1)
    (hval : ∀ w ∈ rootPath p2 p2.length (node2 : Int), 0 ≤ w ∧ w < p2.length)
    (hlast : ∀ z, (rootPath p2 p2.length (node2 : Int)).getLast? = some z → p2.getD z.toNat (-1) = -1)
    (hq : (redirect p2 t2 (node2 : Int)).pids.getD node2 (-1) = -1) (F : Nat) :
    cat_tree (p2.length + 1 + F) (rng p1.length) p1 t1 x1 y1 z1 (rng p2.length) p2 t2 x2 y2 z2 node1 node2 translate =
      cat_tree (p2.length + 1 + F) (rng p1.length) p1 t1 x1 y1 z1 (rng (redirect p2 t2 (node2 : Int)).pids.length)
        (redirect p2 t2 (node2 : Int)).pids (redirect p2 t2 (node2 : Int)).types x2 y2 z2 node1 node2 translate := by
  have hl := (redirect_lengths p2 t2 (node2 : Int)).1
  have hred := redirect_nosort p2 t2 (node2 : Int) ht2 hval hlast F
  have hroot : node_is_root p2 (node2 : Int) = some false := by rw [is_root_spec p2 node2 hn2, decide_eq_false hnr]
  have hroot' : node_is_root (redirect p2 t2 (node2 : Int)).pids (node2 : Int) = some true := by
    rw [is_root_spec _ node2 (hl ▸ hn2), decide_eq_true hq]
  rw [hl]
  simp -implicitDefEqProofs only [cat_tree, cat_tree.body, seq_eq_bindS, bindS_next, bind_some, skip_apply, hroot, hroot', hred,
    Bool.not_true, Bool.not_false, Bool.false_eq_true, if_false, if_true]

/-- **`cat_tree` as translated, up to the final `_sort_tree`, IS the model `Redir.catPre`**: on two tree objects (ids = positions) with
equally long columns, a node of each, and a second tree whose walk from `node2` to its root behaves (it does in every well-formed
tree), nothing raises before the final sort, and the generated `_sort_tree` (six columns) is applied to exactly the columns of
`catPre` — tree 1's rows, tree 2's rows re-rooted, shifted and translated, the junction link or the merge -/
theorem cat_core (h1 : t1.length = p1.length ∧ x1.length = p1.length ∧ y1.length = p1.length ∧ z1.length = p1.length)
    (h2 : t2.length = p2.length ∧ x2.length = p2.length ∧ y2.length = p2.length ∧ z2.length = p2.length)
    (hn1 : node1 < p1.length) (hn2 : node2 < p2.length)
    (hval : ∀ w ∈ rootPath p2 p2.length (node2 : Int), 0 ≤ w ∧ w < p2.length)
    (hlast : ∀ z, (rootPath p2 p2.length (node2 : Int)).getLast? = some z → p2.getD z.toNat (-1) = -1)
    (hq : (redirect p2 t2 (node2 : Int)).pids.getD node2 (-1) = -1) (F : Nat) :
    cat_tree (p2.length + 1 + F) (rng p1.length) p1 t1 x1 y1 z1 (rng p2.length) p2 t2 x2 y2 z2 node1 node2 translate =
      sort_tree6_ (p2.length + 1 + F) (catPre p1 t1 x1 y1 z1 p2 t2 x2 y2 z2 node1 node2 translate).ids
        (catPre p1 t1 x1 y1 z1 p2 t2 x2 y2 z2 node1 node2 translate).pids
        (catPre p1 t1 x1 y1 z1 p2 t2 x2 y2 z2 node1 node2 translate).types
        (catPre p1 t1 x1 y1 z1 p2 t2 x2 y2 z2 node1 node2 translate).x
        (catPre p1 t1 x1 y1 z1 p2 t2 x2 y2 z2 node1 node2 translate).y
        (catPre p1 t1 x1 y1 z1 p2 t2 x2 y2 z2 node1 node2 translate).z := by
  by_cases hr : p2.getD node2 (-1) = -1
  · exact cat_core_root p1 t1 x1 y1 z1 p2 t2 x2 y2 z2 node1 node2 translate h1 h2 hn1 hn2 hr _
  · obtain ⟨hl, hlt⟩ := redirect_lengths p2 t2 (node2 : Int)
    rw [cat_redirected p1 t1 x1 y1 z1 p2 t2 x2 y2 z2 node1 node2 translate h2.1 hn2 hr hval hlast hq F,
      catPre_redirected p1 t1 x1 y1 z1 p2 t2 x2 y2 z2 node1 node2 translate hr hq]
    exact cat_core_root p1 t1 x1 y1 z1 _ _ x2 y2 z2 node1 node2 translate h1
      ⟨by rw [hlt, hl]; exact h2.1, by rw [hl]; exact h2.2.1, by rw [hl]; exact h2.2.2.1, by rw [hl]; exact h2.2.2.2⟩ hn1
      (by rw [hl]; exact hn2) hq _

/-- the fuel of `cat_tree` serves its re-rooting loop and then the final sort of a table with `m ≤ a + b` rows -/
theorem fuel_split (a b m F : Nat) (h : m ≤ a + b) :
    a + b + 1 + F = b + 1 + (a + F) ∧ b + 1 + (a + F) = m + 1 + (a + b - m + F) := by
  omega

/-- **`cat_tree` as translated, as a whole, IS the model `Redir.catTree`** whenever the model's final renumbering succeeds on the
concatenated table (it does for well-formed trees: `C07.cat_separate_sorted`, `C07.cat_merged_sorted`): ids `arange`, the new
parents, and the type / x / y / z columns carried along by the row permutation -/
theorem cat_refines (h1 : t1.length = p1.length ∧ x1.length = p1.length ∧ y1.length = p1.length ∧ z1.length = p1.length)
    (h2 : t2.length = p2.length ∧ x2.length = p2.length ∧ y2.length = p2.length ∧ z2.length = p2.length)
    (hn1 : node1 < p1.length) (hn2 : node2 < p2.length)
    (hval : ∀ w ∈ rootPath p2 p2.length (node2 : Int), 0 ≤ w ∧ w < p2.length)
    (hlast : ∀ z, (rootPath p2 p2.length (node2 : Int)).getLast? = some z → p2.getD z.toNat (-1) = -1)
    (hq : (redirect p2 t2 (node2 : Int)).pids.getD node2 (-1) = -1)
    (c : Cat) (hc : c = catPre p1 t1 x1 y1 z1 p2 t2 x2 y2 z2 node1 node2 translate)
    (hnd : c.ids.Nodup) (hle : c.ids.length ≤ p1.length + p2.length)
    (hl : c.pids.length = c.ids.length ∧ c.types.length = c.ids.length ∧ c.x.length = c.ids.length ∧ c.y.length = c.ids.length ∧
      c.z.length = c.ids.length)
    (r : Result) (h : sortNodesImpl c.ids c.pids = .ok r) (F : Nat) :
    cat_tree (p1.length + p2.length + 1 + F) (rng p1.length) p1 t1 x1 y1 z1 (rng p2.length) p2 t2 x2 y2 z2 node1 node2 translate =
        some (range (c.ids.length : Int), r.newPids, permute c.types r.indices, permute c.x r.indices, permute c.y r.indices,
          permute c.z r.indices, ()) ∧
      catTree p1 t1 x1 y1 z1 p2 t2 x2 y2 z2 node1 node2 translate =
        some (r.newPids, r.idMap, ⟨r.idMap, r.newPids, permute c.x r.indices, permute c.y r.indices, permute c.z r.indices,
          permute c.types r.indices⟩) := by
  constructor
  · obtain ⟨e1, e2⟩ := fuel_split p1.length p2.length c.ids.length F hle
    rw [e1, cat_core p1 t1 x1 y1 z1 p2 t2 x2 y2 z2 node1 node2 translate h1 h2 hn1 hn2 hval hlast hq, ← hc, e2]
    exact sortTree6_refines c.ids c.pids c.types c.x c.y c.z hnd hl.1 hl.2.1 hl.2.2.1 hl.2.2.2.1 hl.2.2.2.2 r h _
  · simp only [catTree, ← hc, h]

end core

end RefineCat
