import SwcVerif.Gen.AlgoBranchTree
import SwcVerif.Refine.PyRun
import SwcVerif.Refine.Subtree
import SwcVerif.Refine.Node
import SwcVerif.Model.BranchTree
/-! Refinement for C08: the definition GENERATED from `swcgeom/core/branch_tree.py::BranchTree.from_tree` (on the generated
`Tree.get_branches` and `to_sub_topology`) equals the model `Branches.branchTree` of `Model/BranchTree.lean`. -/
namespace RefineBranchTree
open Gen.Algo Branches Sub Py

/-- the branches handed to the loops: non-empty lists of valid rows whose id is the row number (a `Tree` object) -/
def GoodBrs (ids : List Int) (brs : List (List Int)) : Prop := ∀ b ∈ brs, b ≠ [] ∧ ∀ x ∈ b, Py.idx ids x = some x

section
variable {ids b : List Int} {brs : List (List Int)}

theorem GoodBrs.tail (hg : GoodBrs ids (b :: brs)) : GoodBrs ids brs :=
  fun b' hb' => hg b' (List.mem_cons_of_mem _ hb')

/-- `br[-1]` and `ids[br[-1]]` (whatever default `getLastD` is given: the branch is not empty) -/
theorem GoodBrs.last (hg : GoodBrs ids (b :: brs)) (d : Int) :
    Py.idx b (-1) = some (b.getLastD d) ∧ Py.idx ids (b.getLastD d) = some (b.getLastD d) := by
  obtain ⟨hne, hb⟩ := hg b List.mem_cons_self
  have e : b.getLast? = some (b.getLastD d) := by rw [List.getLastD_eq_getLast?, List.getLast?_eq_some_getLast hne]; rfl
  exact ⟨by rw [Py.idx_last, e], hb _ (List.mem_of_getLast? e)⟩

theorem GoodBrs.head (hg : GoodBrs ids (b :: brs)) (d : Int) :
    Py.idx b 0 = some (b.headD d) ∧ Py.idx ids (b.headD d) = some (b.headD d) := by
  obtain ⟨hne, hb⟩ := hg b List.mem_cons_self
  cases b with
  | nil => exact absurd rfl hne
  | cons a t => exact ⟨Py.idx_head _, hb a List.mem_cons_self⟩

end

theorem for1_loop (root : Int) : ∀ (brs : List (List Int)) (v : bt_from_tree.V), GoodBrs v.ids brs →
    forEach bt_from_tree.for1 brs v =
      .next { v with c1_ := v.c1_ ++ brs.map (fun b => b.getLastD root), br := brs.getLast?.getD v.br } := by
  intro brs
  induction brs with
  | nil => intro v _; simp [forEach]
  | cons b brs ih =>
    intro v hg
    obtain ⟨e1, e2⟩ := hg.last root
    simp only [forEach, bt_from_tree.for1, Py.bind, e1, e2]
    rw [ih { v with br := b, c1_ := v.c1_ ++ [b.getLastD root] } hg.tail]
    simp [List.getLast?_cons]

theorem for2_loop (root : Int) : ∀ (brs : List (List Int)) (v : bt_from_tree.V), GoodBrs v.ids brs →
    forEach bt_from_tree.for2 brs v =
      .next { v with c5_ := v.c5_ ++ brs.map (fun b => b.headD root), br := brs.getLast?.getD v.br } := by
  intro brs
  induction brs with
  | nil => intro v _; simp [forEach]
  | cons b brs ih =>
    intro v hg
    obtain ⟨e1, e2⟩ := hg.head root
    simp only [forEach, bt_from_tree.for2, Py.bind, e1, e2]
    rw [ih { v with br := b, c5_ := v.c5_ ++ [b.headD root] } hg.tail]
    simp [List.getLast?_cons]

/-! ### `np.nonzero(id_map == x)[0][0]` is the first position of `x` -/

theorem nonzero_eqMask (l : List Int) (x : Int) : Py.idx (nonzero (eqMask l x)) 0 = pos? l x := by
  rw [nonzero, Py.idx_head, nonzeroFrom_eqMask, pos?]
  split <;> simp

/-! ### the dictionary loop -/

theorem glookup_eq (d : Groups) (k : Int) : glookup d k = Dict.get? d k := rfl

theorem map_id_of_get?_none {κ ν : Type} [DecidableEq κ] (d : Dict κ ν) (k : κ) (f : κ × ν → κ × ν) (h : Dict.get? d k = none) :
    d.map (fun p => if p.1 = k then f p else p) = d := by
  induction d with
  | nil => rfl
  | cons p d ih =>
    rw [Dict.get?_cons] at h
    by_cases hp : p.1 = k
    · simp [hp] at h
    · simp only [hp, if_false] at h
      simp [hp, ih h]

theorem set_setdefault {κ ν : Type} [DecidableEq κ] (d : Dict κ ν) (k : κ) (v w : ν) :
    Dict.set (Dict.setdefault d k v) k w = Dict.set d k w := by
  cases h : Dict.get? d k with
  | some x => simp [Dict.setdefault, Dict.contains, h]
  | none =>
    -- the new entry `(k, v)` is the only one `d[k] = w` rewrites
    have hs : Dict.setdefault d k v = d ++ [(k, v)] := by simp [Dict.setdefault, Dict.contains, h]
    have hc : Dict.contains (d ++ [(k, v)]) k = true := by simp [Dict.contains, Dict.get?_append_singleton, h]
    rw [hs, Dict.set, if_pos hc, List.map_append, map_id_of_get?_none d k _ h]
    simp [Dict.set, Dict.contains, h]

/-- filing a branch is one assignment `d[k] = d.get(k, []) + [b]` -/
theorem addBranch_eq (d : Groups) (k : Int) (b : List Int) : addBranch d k b = Dict.set d k (Dict.getD d k [] ++ [b]) := by
  cases h : Dict.get? d k <;> simp [addBranch, glookup_eq, Dict.set, Dict.getD, Dict.contains, h]

/-- `d.setdefault(k, []); d[k].append(b)` as translated is the model's `addBranch` -/
theorem step_eq (d : Groups) (k : Int) (b : List Int) :
    Dict.get? (Dict.setdefault d k []) k = some (Dict.getD d k []) ∧
      Dict.set (Dict.setdefault d k []) k (Dict.getD d k [] ++ [b]) = addBranch d k b :=
  ⟨Dict.get?_setdefault_self d k [], by rw [set_setdefault, addBranch_eq]⟩

/-- the value the variable `idx` is left with -/
def lastIdx (root : Int) (m : List Int) (brs : List (List Int)) (i0 : Int) : Int :=
  brs.foldl (fun i b => (pos? m (b.headD root)).getD i) i0

theorem for3_loop (root : Int) : ∀ (brs : List (List Int)) (v : bt_from_tree.V), GoodBrs v.ids brs →
    forEach bt_from_tree.for3 brs v =
      (match fileBranches root v.id_map brs v.branch_tree.branches with
       | some d => .next { v with branch_tree := { v.branch_tree with branches := d }, br := brs.getLast?.getD v.br,
                                  idx := lastIdx root v.id_map brs v.idx }
       | none => .err) := by
  intro brs
  induction brs with
  | nil => intro v _; simp [forEach, fileBranches, lastIdx]
  | cons b brs ih =>
    intro v hg
    obtain ⟨e1, e2⟩ := hg.head root
    simp only [fileBranches]
    cases hp : pos? v.id_map (b.headD root) with
    | none =>
      simp only [forEach, bt_from_tree.for3, seq, Py.bind, e1, e2, nonzero_eqMask, hp]
    | some k =>
      obtain ⟨hx, hset⟩ := step_eq v.branch_tree.branches k b
      simp only [forEach, bt_from_tree.for3, seq, Py.bind, e1, e2, nonzero_eqMask, hp, hx, hset]
      rw [ih { v with br := b, idx := k, branch_tree := { v.branch_tree with branches := addBranch v.branch_tree.branches k b } } hg.tail]
      cases fileBranches root v.id_map brs (addBranch v.branch_tree.branches k b) with
      | none => rfl
      | some d => simp only [lastIdx, List.foldl_cons, hp, Option.getD_some, List.getLast?_cons]

/-! ### what the model computes (facts about `Model/BranchTree.lean`, `Model/Subtree.lean`) -/

theorem glookup_addBranch (d : Groups) (k k' : Int) (b : List Int) :
    glookup (addBranch d k b) k' = if k' = k then some ((glookup d k).getD [] ++ [b]) else glookup d k' := by
  rw [addBranch_eq, glookup_eq, Dict.get?_set]; rfl

theorem pos?_mem (l : List Int) (x : Int) (h : x ∈ l) : pos? l x = some ((l.idxOf x : Nat) : Int) := by
  have : l.idxOf x < l.length := List.idxOf_lt_length_of_mem h
  simp [pos?, this]

/-- **the `branches` dictionary**: when the first node of every branch is a node of the branch tree, the loop succeeds, and under the key
`k` it files exactly the branches whose first node has the new index `k`, in the order of `get_branches` (no entry when there is none) -/
theorem fileBranches_spec (root : Int) (m : List Int) : ∀ (brs : List (List Int)) (d : Groups), (∀ b ∈ brs, b.headD root ∈ m) →
    ∃ d', fileBranches root m brs d = some d' ∧ ∀ k,
      glookup d' k = (match glookup d k with
        | some x => some (x ++ brs.filter (fun b => decide (((m.idxOf (b.headD root) : Nat) : Int) = k)))
        | none => if brs.filter (fun b => decide (((m.idxOf (b.headD root) : Nat) : Int) = k)) = [] then none
                  else some (brs.filter (fun b => decide (((m.idxOf (b.headD root) : Nat) : Int) = k)))) := by
  intro brs
  induction brs with
  | nil => intro d _; exact ⟨d, rfl, fun k => by cases glookup d k <;> simp⟩
  | cons b brs ih =>
    intro d hm
    have hb := hm b (List.mem_cons_self ..)
    obtain ⟨d', hd', hsp⟩ := ih (addBranch d ((m.idxOf (b.headD root) : Nat) : Int) b) (fun b' hb' => hm b' (List.mem_cons_of_mem _ hb'))
    refine ⟨d', by simp only [fileBranches, pos?_mem m _ hb, hd'], fun k => ?_⟩
    rw [hsp k, glookup_addBranch]
    simp only [List.filter_cons]
    generalize ((m.idxOf (b.headD root) : Nat) : Int) = kb
    by_cases hk : k = kb
    · subst hk
      cases glookup d k <;> simp
    · have hk' : ¬ kb = k := fun c => hk c.symm
      simp only [hk, hk', if_false, decide_false, Bool.false_eq_true]

/-- `to_sub_topology` on a table none of whose rows is marked for removal and every parent of which is `-1` or a listed id: nothing is
dropped, the id map is the id column itself, every parent becomes the position of its id -/
theorem toSubTopology_total (a b : List Int) (hl : a.length = b.length) (hk : ∀ x ∈ a, x ≠ -2) (hp : ∀ y ∈ b, y = -1 ∨ y ∈ a) :
    toSubTopology a b = some ⟨b.map (fun y => if y = -1 then -1 else ((a.idxOf y : Nat) : Int)), a⟩ := by
  have hf : (List.zip a b).filter (fun ip => !decide (ip.1 = -2)) = List.zip a b := by
    rw [List.filter_eq_self]
    intro ip hip
    have := hk ip.1 (List.of_mem_zip hip).1
    simpa using this
  have h1 : (List.zip a b).map (·.1) = a := List.map_fst_zip (by omega)
  have h2 : (List.zip a b).map (·.2) = b := List.map_snd_zip (by omega)
  simp only [toSubTopology, RefineSub.removal_eq, ne_eq, decide_not, hf, h1]
  rw [Py.mapM_eq_some_map _ (fun ip => if ip.2 = -1 then -1 else ((a.idxOf ip.2 : Nat) : Int))]
  · simp only [Option.map_some]
    congr 2
    rw [← h2, List.map_map]
    simp [Function.comp_def, h2]
  · intro ip hip
    rcases hp ip.2 (List.of_mem_zip hip).2 with h | h
    · simp [h]
    · by_cases hn : ip.2 = -1
      · simp [hn]
      · simp [hn, pos?_mem a _ h]

/-- the object the model describes -/
def toObj (m : BranchTreeM) : BranchTreeObj :=
  ⟨(m.mapping.length : Int), range (m.mapping.length : Int), m.newPid, m.mapping, m.branches⟩

theorem kept_sublist (a b : List Int) (hl : a.length = b.length) (p : Int × Int → Bool) :
    (((List.zip a b).filter p).map (·.1)).Sublist a := by
  have h1 : (((List.zip a b).filter p).map (·.1)).Sublist ((List.zip a b).map (·.1)) := List.Sublist.map _ List.filter_sublist
  rwa [List.map_fst_zip (by omega)] at h1

/-- **`BranchTree.from_tree` as translated IS the model**, given what the translated `get_branches` returned: for branches that are
non-empty lists of valid rows of a `Tree` object (`ids[x] = x`) whose end points are distinct and distinct from the root -/
theorem fromTree_refines_on (ids pids : List Int) (brs : List (List Int)) (fuel : Nat)
    (hgb : get_branches fuel ids pids = some brs) (hg : GoodBrs ids brs)
    (hnd : ((0 : Int) :: brs.map (fun b => b.getLastD 0)).Nodup) :
    bt_from_tree fuel ids pids = (branchTree 0 brs).map toObj := by
  have hlen : ((0 : Int) :: brs.map (fun b => b.getLastD 0)).length = ((-1 : Int) :: brs.map (fun b => b.headD 0)).length := by simp
  have hsub := RefineSub.toSubTopology_refines _ _ hlen ((kept_sublist _ _ hlen _).nodup hnd)
  -- run the body statement by statement (the continuation stays folded until its turn comes)
  simp -implicitDefEqProofs only [bt_from_tree, bt_from_tree.body, seq_eq_bindS, bindS_next, bind_some, hgb, for1_loop 0 brs,
    for2_loop 0 brs, hg, hsub, branchTree, branchTreeTable, List.nil_append, List.singleton_append]
  cases hs : toSubTopology ((0 : Int) :: brs.map (fun b => b.getLastD 0)) ((-1 : Int) :: brs.map (fun b => b.headD 0)) with
  | none => rfl
  | some s =>
    simp -implicitDefEqProofs only [Option.map_some, bind_some, seq_eq_bindS, bindS_next, for3_loop 0 brs, hg]
    cases fileBranches 0 s.mapping brs [] with
    | none => rfl
    | some d => simp only [bindS_next, finish_ret, Option.map_some, toObj, range_natCast, len_eq, List.length_map, List.length_range]

end RefineBranchTree
