import SwcVerif.Refine.AscModel
/-! C15: the hand-written model `Asc.parseSubtree` / `parseTop` / `C15.convertWith` NEVER RUNS OUT OF FUEL when the fuel is at least
`2·#tokens + 2` (`Asc.convertTokens` runs with `2·#tokens + 4`): every step consumes a token, except the one that enters a split whose
first alternative is empty, which turns `flag`.
Needed to state "generated = model" without a side condition on the model's fuel.  The invariant of the induction is `Fine`: no fuel
error so far and no more tokens left than there were. -/
namespace RefineAscFuel
open Asc RefineAscParse RefineAscModel

/-- `r` has not run out of fuel, and leaves at most `n` tokens (`lo`: where they sit in the result) -/
def Fine {α : Type} (lo : α → List Tok) (n : Nat) : Except Err α → Prop
  | .error e => e ≠ .fuel
  | .ok a => (lo a).length ≤ n

section
variable {α β : Type} {lo : α → List Tok} {n m : Nat} {r : Except Err α}

theorem Fine.ne_fuel (h : Fine lo n r) : r ≠ .error .fuel := by
  rintro rfl
  exact h rfl

theorem Fine.ok {a : α} (h : (lo a).length ≤ n) : Fine lo n (.ok a) := h

theorem Fine.bind {lo' : β → List Tok} {k : α → Except Err β} (hx : Fine lo n r) (hk : ∀ a, (lo a).length ≤ n → Fine lo' m (k a)) :
    Fine lo' m (r >>= k) := by
  cases r with
  | error e => exact hx
  | ok a => exact hk a hx

theorem Fine.mono (h : Fine lo n r) (hm : n ≤ m) : Fine lo m r := by
  cases r with
  | error e => exact h
  | ok a => exact Nat.le_trans h hm

theorem Fine.pred (h : Fine lo (n - 1) r) : Fine lo n r :=
  h.mono (Nat.sub_le n 1)

end

theorem adv_fine (x : Tok) (t : List Tok) : Fine id t.length (adv (x :: t)) := by
  rcases t with _ | ⟨y, r⟩
  · exact Nat.le_refl _
  · cases y
    case bad => exact nofun
    all_goals exact Nat.le_refl _

theorem expectRp_fine (t : List Tok) : Fine id t.length (expectRp t) := by
  rcases t with _ | ⟨x, t⟩
  · exact nofun
  · cases x
    case rp => exact (adv_fine .rp t).mono (Nat.le_succ _)
    all_goals exact nofun

theorem expectLp_fine (t : List Tok) : Fine id t.length (expectLp t) := by
  rcases t with _ | ⟨x, t⟩
  · exact nofun
  · cases x
    case lp => exact (adv_fine .lp t).mono (Nat.le_succ _)
    all_goals exact nofun

theorem float_fine {α : Type} {lo : α → List Tok} {k : SwcText.Sci → List Tok → Except Err α} (toks : List Tok)
    (hk : ∀ a t1, Fine lo t1.length (k a t1)) :
    Fine lo (toks.length - 1) (match toks with | .float a :: _ => adv toks >>= k a | [] => .error .eof | _ => .error .tokenType) := by
  rcases toks with _ | ⟨x, t⟩
  · exact nofun
  · cases x
    case float a => exact (adv_fine _ t).bind fun t1 h1 => (hk a t1).mono h1
    all_goals exact nofun

theorem literal_fine {α : Type} {lo : α → List Tok} {k : List Tok → Except Err α} (toks : List Tok) (hk : ∀ t1, Fine lo t1.length (k t1)) :
    Fine lo (toks.length - 1) (match toks with | .literal _ :: _ => adv toks >>= k | [] => .error .eof | _ => .error .tokenType) := by
  rcases toks with _ | ⟨x, t⟩
  · exact nofun
  · cases x
    case literal w => exact (adv_fine _ t).bind fun t1 h1 => (hk t1).mono h1
    all_goals exact nofun

theorem parseNode_fine (t : List Tok) : Fine Prod.snd (t.length - 1) (parseNode t) := by
  unfold parseNode
  exact float_fine t fun a t1 => (float_fine t1 fun b t2 => (float_fine t2 fun c t3 => (float_fine t3 fun d t4 =>
    (expectRp_fine t4).bind fun t5 h5 => .ok (lo := Prod.snd) (a := (_, t5)) h5).pred).pred).pred

theorem parseColor_fine (t : List Tok) : Fine id (t.length - 1) (parseColor t) := by
  unfold parseColor
  exact literal_fine t fun t1 => (literal_fine t1 expectRp_fine).pred

/-- **the model's `parseSubtree` does not run out of fuel** with `2·#tokens + 1` units (`+1` when `flag` is false) -/
theorem sub_fine (ty : Int) (f : Nat) : ∀ (toks : List Tok) (flag : Bool) (ρ γ : Int) (rows : List Asc.Row),
    2 * toks.length + (if flag then 0 else 1) + 1 ≤ f → Fine Prod.fst toks.length (parseSubtree ty f toks flag ρ γ rows) := by
  induction f with
  | zero => intro _ _ _ _ _ h; omega
  | succ f ih =>
    intro toks flag ρ γ rows hf
    rcases toks with _ | ⟨x, t⟩
    · exact Nat.le_refl _
    simp only [List.length_cons] at hf ⊢
    have le1 : ∀ b : Bool, (if b then 0 else 1) ≤ 1 := fun b => by cases b <;> decide
    have hf' : 2 * t.length + 2 ≤ f := by omega
    have step : ∀ (fl : Bool) (r c : Int) (rws : List Asc.Row) (t1 : List Tok), t1.length ≤ t.length →
        Fine Prod.fst (t.length + 1) (parseSubtree ty f t1 fl r c rws) := fun fl r c rws t1 h1 =>
      (ih t1 fl r c rws (by have := le1 fl; omega)).mono (Nat.le_succ_of_le h1)
    have nested : ∀ (flagN : Bool) (tN : List Tok), tN.length ≤ t.length + 1 → 2 * tN.length + (if flagN then 0 else 1) + 1 ≤ f →
        Fine Prod.fst (t.length + 1) (nest ty f ρ γ rows flagN tN) := fun flagN tN hN hm =>
      ((ih tN flagN γ γ rows hm).bind fun r hr => (expectRp_fine r.1).bind fun t2 (h2 : t2.length ≤ r.1.length) =>
        (ih t2 true ρ γ r.2 (by simp only [if_true]; omega)).mono (by omega)).mono hN
    cases x with
    | lp =>
      cases flag with
      | true => rw [parseSubtree_lp_true]; exact (adv_fine _ t).bind fun t1 h1 => step false ρ γ rows t1 h1
      | false =>
        rw [parseSubtree_lp_false]
        exact (adv_fine _ t).bind fun t1 (h1 : t1.length ≤ t.length) => nested false t1 (Nat.le_succ_of_le h1) (by simp; omega)
    | rp =>
      cases flag with
      | true => exact Nat.le_refl _
      | false => rw [parseSubtree_rp_false]; exact (adv_fine _ t).bind fun t1 h1 => step true ρ γ rows t1 h1
    | bar =>
      cases flag with
      | true => rw [parseSubtree_bar_true]; exact (adv_fine _ t).bind fun t1 h1 => step true ρ ρ rows t1 h1
      | false => rw [parseSubtree_bar_false]; exact nested true (.bar :: t) (Nat.le_refl _) (by simp at hf ⊢; omega)
    | comment c => rw [parseSubtree_comment]; exact (adv_fine _ t).bind fun t1 h1 => step flag ρ γ rows t1 h1
    | float a =>
      cases flag with
      | true => exact nofun
      | false => rw [parseSubtree_float_false]; exact (parseNode_fine _).bind fun nr h1 => step true ρ _ _ nr.2 h1
    | literal w =>
      rw [parseSubtree_literal]
      split
      · exact (parseColor_fine _).bind fun t1 h1 => step true ρ γ rows t1 h1
      · exact nofun
    | bad => exact nofun

theorem skip_fine (f : Nat) : ∀ toks : List Tok, toks.length + 1 ≤ f → Fine id toks.length (skipComments f toks) := by
  induction f with
  | zero => intro _ h; omega
  | succ f ih =>
    intro toks hf
    rcases toks with _ | ⟨x, t⟩
    · exact Nat.le_refl _
    cases x
    case comment c =>
      rw [skipComments_comment]
      exact (adv_fine _ t).bind fun t1 (h1 : t1.length ≤ t.length) =>
        (ih t1 (by simp at hf; omega)).mono (Nat.le_succ_of_le h1)
    all_goals exact Nat.le_refl _

theorem tree_fine (ty : Int) (f : Nat) (rows : List Asc.Row) (t2 : List Tok) (hf : 2 * t2.length + 2 ≤ f) :
    Fine Prod.fst t2.length (treeBody ty f rows t2) :=
  (expectRp_fine t2).bind fun t3 (h3 : t3.length ≤ t2.length) => (skip_fine f t3 (by omega)).bind fun t4 (h4 : t4.length ≤ t3.length) =>
    (expectLp_fine t4).bind fun t5 (h5 : t5.length ≤ t4.length) =>
      (sub_fine ty f t5 false (-1) (-1) rows (by simp only [Bool.false_eq_true, if_false]; omega)).mono (by omega)

/-- **the model's `parseTop` does not run out of fuel** with `2·#tokens + 2` units -/
theorem top_fine (f : Nat) : ∀ (toks : List Tok) (rows : List Asc.Row), 2 * toks.length + 2 ≤ f →
    Fine Prod.fst toks.length (parseTop f toks rows) := by
  induction f with
  | zero => intro _ _ h; omega
  | succ f ih =>
    intro toks rows hf
    rcases toks with _ | ⟨x, t⟩
    · exact Nat.le_refl _
    simp only [List.length_cons] at hf ⊢
    have again : ∀ (t1 : List Tok) (rws : List Asc.Row), t1.length ≤ t.length → Fine Prod.fst (t.length + 1) (parseTop f t1 rws) :=
      fun t1 rws h1 => (ih t1 rws (by omega)).mono (Nat.le_succ_of_le h1)
    cases x
    case comment c => rw [parseTop_comment]; exact (adv_fine _ t).bind fun t1 h1 => again t1 rows h1
    case rp => exact Nat.le_refl _
    case lp =>
      rw [parseTop_lp]
      refine (adv_fine _ t).bind fun t1 (h1 : t1.length ≤ t.length) => ?_
      rcases t1 with _ | ⟨y, t1⟩
      · exact nofun
      cases y
      case literal w =>
        rw [topItem_literal]
        simp only [List.length_cons] at h1
        split
        · exact (adv_fine _ t1).bind fun t2 (h2 : t2.length ≤ _) => (tree_fine _ f rows t2 (by omega)).bind fun r (hr : r.1.length ≤ _) =>
            again r.1 r.2 (by omega)
        · split
          · exact (parseColor_fine _).bind fun t2 (h2 : t2.length ≤ t1.length) => again t2 rows (by omega)
          · exact nofun
      all_goals exact nofun
    all_goals exact nofun

/-- **the model never runs out of fuel** when its fuel is at least `2·#tokens + 2`, on any token list (a lexer failure in it is an
error of another kind) -/
theorem convertWith_ne_fuel (N : Nat) (toks : List Tok) (hN : 2 * toks.length + 2 ≤ N) : C15.convertWith N toks ≠ .error .fuel := by
  unfold C15.convertWith
  refine Fine.ne_fuel (lo := fun _ => []) (n := 0) ?_
  refine (skip_fine N toks (by omega)).bind fun t0 (h0 : t0.length ≤ _) => (expectLp_fine t0).bind fun t1 (h1 : t1.length ≤ _) => ?_
  refine (top_fine N t1 [] (by omega)).bind fun r _ => ?_
  split
  · exact nofun
  · next h => rw [h]; exact (adv_fine _ _).bind fun _ _ => Nat.le_refl 0
  · exact nofun

theorem convertWith_nofuel (N : Nat) (toks : List Tok) (hnb : NoBad toks) (hN : 2 * toks.length + 2 ≤ N) :
    C15.convertWith N toks ≠ .error .fuel :=
  convertWith_ne_fuel N toks hN

end RefineAscFuel
