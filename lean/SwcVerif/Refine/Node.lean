import SwcVerif.Gen.AlgoNode
import SwcVerif.Refine.PyRun
import SwcVerif.Model.Subtree
/-! Specifications of the node-handle methods generated from `swcgeom/core/tree.py::Tree.Node.parent / children / is_root` and
`swcgeom/core/node.py::Node.is_furcation / is_tip` (`Gen/AlgoNode.lean`, regenerated on every run).

A node handle is the row index it dereferences; the tree is its columns.  Two layers:

* `*_eq`   — for ARBITRARY columns and an arbitrary handle: the method in terms of the row's id `Py.idx ids k` (an invalid handle raises);
* `*_spec` — on a `Tree` object (`ids = rangeI n` = positions) and a valid handle `0 ≤ k < n`: the parent column entry (`none` for −1),
  `tableKids` (children in table order), "≥ 2 children", "no children", "the parent entry is −1".  Nothing about well-formedness. -/
namespace RefineNode
open Gen.Algo Py Sub

/-! ### the columns -/

theorem idx_some_of_lt (l : List Int) (k : Int) (h0 : 0 ≤ k) (hk : k < l.length) : Py.idx l k = some (l[k.toNat]'(by omega)) := by
  rw [idx_inrange l k 0 ⟨h0, by omega⟩, getD_eq_getElem]

theorem idx_rangeI (n : Nat) (k : Int) (h0 : 0 ≤ k) (hk : k < n) : Py.idx (rangeI n) k = some k := by
  have hl : (rangeI n).length = n := by simp [rangeI]
  rw [idx_some_of_lt _ k h0 (by omega)]
  simp [rangeI, Int.toNat_of_nonneg h0]

/-- `ids[pids == i]` is `tableKids ids pids i` (the rows whose parent entry is `i`, in table order) — any two columns -/
theorem select_eqMask : ∀ (ids pids : List Int) (i : Int), Py.select ids (Py.eqMask pids i) = tableKids ids pids i
  | [], _, _ => rfl
  | _ :: _, [], _ => rfl
  | a :: as, p :: ps, i => by
    have ih := select_eqMask as ps i
    unfold Py.select Py.eqMask at ih ⊢
    rw [List.map_cons, List.zip_cons_cons, List.filterMap_cons, tableKids, ih]
    by_cases h : p = i <;> simp only [h, decide_true, decide_false, if_true, if_false, Bool.false_eq_true]

/-- `np.count_nonzero(pids == i)` counts the occurrences of `i` in the parent column -/
theorem countNonzero_eqMask (pids : List Int) (i : Int) : Py.countNonzero (Py.eqMask pids i) = (pids.count i : Int) := by
  unfold Py.countNonzero Py.eqMask
  rw [List.filter_map, List.length_map, List.count_eq_length_filter]
  rfl

/-- the number of children in the table = the number of occurrences in the parent column (when no parent entry lies beyond the id column) -/
theorem tableKids_length : ∀ (ids pids : List Int) (i : Int), pids.length ≤ ids.length → (tableKids ids pids i).length = pids.count i
  | [], [], _, _ => rfl
  | _ :: _, [], _, _ => rfl
  | [], _ :: _, _, h => absurd h (Nat.not_succ_le_zero _)
  | a :: as, p :: ps, i, h => by
    rw [tableKids, List.count_cons, ← tableKids_length as ps i (Nat.le_of_succ_le_succ h)]
    by_cases hp : p = i <;> simp [hp]

/-! ### the methods on arbitrary columns -/

/-- `Tree.Node.parent`: the parent entry of the row as a handle, `None` for −1; an invalid handle raises -/
theorem node_parent_eq (pids : List Int) (k : Int) :
    node_parent pids k = (Py.idx pids k).map (fun p => if p = -1 then none else some p) := by
  cases h : Py.idx pids k with
  | none => simp [node_parent, node_parent.body, Py.bind, h, Py.finish]
  | some p =>
    by_cases hp : p = -1 <;> simp [node_parent, node_parent.body, Py.bind, h, Py.finish, hp]

/-- `Tree.Node.is_root`: the parent entry is −1 -/
theorem node_is_root_eq (pids : List Int) (k : Int) :
    node_is_root pids k = (Py.idx pids k).map (fun p => decide (p = -1)) := by
  cases h : Py.idx pids k with
  | none => simp [node_is_root, node_is_root.body, Py.bind, node_parent_eq, h, Py.finish]
  | some p =>
    by_cases hp : p = -1 <;> simp [node_is_root, node_is_root.body, Py.bind, node_parent_eq, h, Py.finish, hp]

theorem children_loop : ∀ (xs : List Int) (v : node_children.V),
    ∃ ix, forEach node_children.for1 xs v = .next { v with c1_ := v.c1_ ++ xs, idx := ix } := by
  intro xs
  induction xs with
  | nil => intro v; exact ⟨v.idx, by simp [forEach]⟩
  | cons x xs ih =>
    intro v
    obtain ⟨ix, e⟩ := ih { v with idx := x, c1_ := v.c1_ ++ [x] }
    refine ⟨ix, ?_⟩
    simp only [forEach, node_children.for1]
    rw [e]
    simp

/-- `Tree.Node.children`: handles `ids[pids == self.id]`, i.e. `tableKids` of the row's id — any two columns -/
theorem node_children_eq (ids pids : List Int) (k : Int) :
    node_children ids pids k = (Py.idx ids k).map (fun i => tableKids ids pids i) := by
  cases h : Py.idx ids k with
  | none => simp [node_children, node_children.body, Py.seq, Py.bind, h, Py.finish]
  | some i =>
    obtain ⟨ix, e⟩ := children_loop (tableKids ids pids i)
      { (default : node_children.V) with ids := ids, pids := pids, self := k, children := tableKids ids pids i, c1_ := [] }
    simp only [node_children, node_children.body, Py.seq, Py.bind, h, Py.bindS, select_eqMask]
    rw [e]
    simp [Py.finish]

/-- `Node.is_furcation`: the row's id occurs more than once in the parent column -/
theorem node_is_furcation_eq (ids pids : List Int) (k : Int) :
    node_is_furcation ids pids k = (Py.idx ids k).map (fun i => decide (1 < pids.count i)) := by
  cases h : Py.idx ids k with
  | none => simp [node_is_furcation, node_is_furcation.body, Py.bind, h, Py.finish]
  | some i =>
    simp only [node_is_furcation, node_is_furcation.body, Py.bind, h, Py.finish, countNonzero_eqMask, Option.map_some]
    congr 1
    simp only [gt_iff_lt, decide_eq_decide]
    omega

/-- `Node.is_tip`: the row's id does not occur in the parent column -/
theorem node_is_tip_eq (ids pids : List Int) (k : Int) :
    node_is_tip ids pids k = (Py.idx ids k).map (fun i => !pids.contains i) := by
  cases h : Py.idx ids k <;> simp [node_is_tip, node_is_tip.body, Py.bind, h, Py.finish]

/-! ### on a `Tree` object: ids = positions, a valid handle -/

/-- **`Tree.Node.parent`** = the parent column entry, `none` for −1 -/
theorem node_parent_spec (pids : List Int) (k : Int) (h0 : 0 ≤ k) (hk : k < pids.length) :
    node_parent pids k = some (if pids[k.toNat]'(by omega) = -1 then none else some (pids[k.toNat]'(by omega))) := by
  rw [node_parent_eq, idx_some_of_lt pids k h0 hk]; rfl

/-- **`Tree.Node.is_root`** ⇔ the parent column entry is −1 -/
theorem node_is_root_spec (pids : List Int) (k : Int) (h0 : 0 ≤ k) (hk : k < pids.length) :
    node_is_root pids k = some (decide (pids[k.toNat]'(by omega) = -1)) := by
  rw [node_is_root_eq, idx_some_of_lt pids k h0 hk]; rfl

/-- **`Tree.Node.children`** = `tableKids`: the children in table order -/
theorem node_children_spec (n : Nat) (pids : List Int) (k : Int) (h0 : 0 ≤ k) (hk : k < n) :
    node_children (rangeI n) pids k = some (tableKids (rangeI n) pids k) := by
  rw [node_children_eq, idx_rangeI n k h0 hk]; rfl

/-- **`Node.is_furcation`** ⇔ two or more children -/
theorem node_is_furcation_spec (n : Nat) (pids : List Int) (hl : pids.length ≤ n) (k : Int) (h0 : 0 ≤ k) (hk : k < n) :
    node_is_furcation (rangeI n) pids k = some (decide (2 ≤ (tableKids (rangeI n) pids k).length)) := by
  rw [node_is_furcation_eq, idx_rangeI n k h0 hk, tableKids_length _ _ _ (by simpa [rangeI] using hl)]
  simp only [Option.map_some]
  congr 1

/-- **`Node.is_tip`** ⇔ no children -/
theorem node_is_tip_spec (n : Nat) (pids : List Int) (hl : pids.length ≤ n) (k : Int) (h0 : 0 ≤ k) (hk : k < n) :
    node_is_tip (rangeI n) pids k = some (decide ((tableKids (rangeI n) pids k).length = 0)) := by
  rw [node_is_tip_eq, idx_rangeI n k h0 hk, tableKids_length _ _ _ (by simpa [rangeI] using hl)]
  simp only [Option.map_some]
  congr 1
  by_cases h : k ∈ pids
  · have : pids.count k ≠ 0 := by simpa [List.count_eq_zero] using h
    simp [h, this]
  · simp [h, List.count_eq_zero.2 h]

/-- non-vacuity (kernel-evaluated): node 1 of the tree `0 → 1 → {2, 3 → 4}` -/
example : node_parent [-1, 0, 1, 1, 3] 1 = some (some 0) ∧ node_parent [-1, 0, 1, 1, 3] 0 = some none ∧
          node_children (rangeI 5) [-1, 0, 1, 1, 3] 1 = some [2, 3] ∧ node_is_furcation (rangeI 5) [-1, 0, 1, 1, 3] 1 = some true ∧
          node_is_tip (rangeI 5) [-1, 0, 1, 1, 3] 4 = some true ∧ node_is_root [-1, 0, 1, 1, 3] 0 = some true ∧
          node_parent [-1, 0, 1, 1, 3] 5 = none := by decide +kernel

end RefineNode
