import SwcVerif.Gen.AlgoParse
import SwcVerif.Refine.PyLemmas
import SwcVerif.Proofs.FirstSplit
/-! Refinement for C02: the definitions GENERATED from `swcgeom/core/swc_utils/io.py::parse_swc` (the `with FileReader(...) as f:` block,
`try … except UnicodeDecodeError`, the `for i, line in enumerate(f)` loop with its three-way classification, the once-only warning, the
per-column `vals[i].append(...)`, the `raise ValueError`) and from `swcgeom/utils/file.py::FileReader.__exit__` compute, for EVERY list of
lines, every decode failure position and every `rowOf / commentOf / isHeader / blank`, the fold `loop` below — and that fold returns a
table exactly when no line is invalid, one entry per data row in EVERY column, the kept comments in order, one warning for the first row
with a non-empty tail; otherwise the error names the first invalid line. -/
namespace RefineParse
open Gen.Algo Py

variable {L Val C : Type} [Inhabited L] [Inhabited Val] [Inhabited C]

/-! ## the specification (a fold over the lines) -/

/-- what the loop accumulates -/
structure St (Val C : Type) where
  vals : List (List Val)
  comments : List C
  flag : Bool
  warns : List Py.Exc

def warnExc (n : Int) : Py.Exc := ⟨"UserWarning", "some fields are ignored in row {i + 1} of `{fname}`", [n]⟩
def invalidExc (n : Int) : Py.Exc := ⟨"ValueError", "invalid row {i + 1} in `{fname}`", [n]⟩
def decodeExc : Py.Exc := ⟨"ValueError", "decode failed, try to enable auto detect `encoding='detect'`", []⟩

/-- one value appended to every column -/
def appendRow (vals : List (List Val)) (fs : List Val) : List (List Val) := List.zipWith (fun c x => c ++ [x]) vals fs

section
variable (rowOf : L → Option ((List Val) × Bool)) (commentOf : L → Option C) (isHeader : C → Bool) (blank : L → Bool)

/-- one line (`i` = its 0-based position); `none` = the line is neither a data row, a comment nor blank -/
def step (i : Int) (l : L) (st : St Val C) : Option (St Val C) :=
  match rowOf l with
  | some (fs, t) =>
    some ⟨appendRow st.vals fs, st.comments, st.flag && !t, if st.flag && t then st.warns ++ [warnExc (i + 1)] else st.warns⟩
  | none =>
    match commentOf l with
    | some c => some ⟨st.vals, if isHeader c then st.comments else st.comments ++ [c], st.flag, st.warns⟩
    | none => if blank l then some st else none

/-- the loop: the state reached and, if a line was invalid, its 1-based number (the loop stops there) -/
def loop : List L → Int → St Val C → St Val C × Option Int
  | [], _, st => (st, none)
  | l :: ls, i, st =>
    match step rowOf commentOf isHeader blank i l st with
    | some st' => loop ls (i + 1) st'
    | none => (st, some (i + 1))

/-- `FileReader.__exit__` closes the file if there is one -/
def closeReader (r : FileReader) : FileReader := if r.f.isSome then { r with closed := true } else r

/-- the whole call: warnings, the reader afterwards, the table (as the dictionary of its columns) and the comments — or the exception -/
def parseSpec (cols extras : List String) (reader : FileReader) (stream : Py.Stream L) :
    List Py.Exc × FileReader × Except Py.Exc (Py.Dict String (List Val) × List C) :=
  let k := 7 + extras.length
  let r := loop rowOf commentOf isHeader blank stream.items 0 ⟨List.replicate (cols.length + extras.length) [], [], true, []⟩
  (r.1.warns, closeReader reader,
    match r.2 with
    | some n => .error (invalidExc n)
    | none =>
      match stream.fail with
      | none => .ok (Py.Dict.ofZip (cols ++ extras) r.1.vals, r.1.comments)
      | some e => if e.isA "UnicodeDecodeError" then .error decodeExc else .error e)

/-! ## the generated code computes the specification -/

abbrev V (L Val C : Type) := parse_swc.V L Val C
abbrev R (Val C : Type) := Except Py.Exc ((Py.Dict String (List Val)) × (List C))

theorem idx_append_mid {α : Type} (pre : List α) (a : α) (post : List α) (j : Int) (hj : j = pre.length) :
    Py.idx (pre ++ a :: post) j = some a := by
  rw [hj, Py.idx_nat _ _ (by simp)]; simp

theorem setIdx_append_mid {α : Type} (pre : List α) (a b : α) (post : List α) (j : Int) (hj : j = pre.length) :
    Py.setIdx (pre ++ a :: post) j b = some (pre ++ b :: post) := by
  rw [hj, Py.setIdx_nat _ _ _ (by simp)]; simp

/-- the value the inner loop variable `i` is left with -/
def finalI : Int → Nat → Int → Int
  | _, 0, i0 => i0
  | j, m + 1, _ => finalI (j + 1) m j

/-- the inner loop `for i, trans in enumerate(transforms): vals[i].append(trans(match.group(i + 1)))`: ONE value is appended to EVERY
column (the `j` columns `pre` are done, `post` are still to do) -/
theorem for3_loop (t : Bool) : ∀ (post pre : List (List Val)) (fpre fpost : List Val) (j : Int) (v : V L Val C),
    v.match_ = some (fpre ++ fpost, t) → v.vals = pre ++ post → fpre.length = pre.length → j = pre.length → post.length ≤ fpost.length →
    Py.forEach (parse_swc.for3 rowOf commentOf isHeader blank) (Py.enumFrom j (List.replicate post.length ())) v
      = .next { v with i := finalI j post.length v.i, trans := (), vals := pre ++ appendRow post fpost } := by
  intro post
  induction post with
  | nil =>
    intro pre fpre fpost j v hm hv _ _ _
    simp only [List.length_nil, List.replicate_zero, Py.enumFrom, Py.forEach, appendRow, List.zipWith_nil_left, finalI]
    rw [← hv]
  | cons col post ih =>
    intro pre fpre fpost j v hm hv hl hj hle
    cases fpost with
    | nil => simp at hle
    | cons x fpost =>
      have e := ih (pre ++ [col ++ [x]]) (fpre ++ [x]) fpost (j + 1)
        { v with i := j, trans := (), vals := pre ++ (col ++ [x]) :: post }
        (by simp [hm]) (by simp) (by simp [hl]) (by simp [hj]) (by simpa using hle)
      simp only [hm] at e
      simp only [List.length_cons, List.replicate_succ, Py.enumFrom, Py.forEach, parse_swc.for3, Py.bind, hm, hv,
        idx_append_mid pre col post j hj, idx_append_mid fpre x fpost j (hl ▸ hj), setIdx_append_mid pre col _ post j hj, e]
      simp [appendRow, finalI]

theorem for3_all (t : Bool) (fs : List Val) (k : Nat) (v : V L Val C) (fl : Bool) (ws : List Py.Exc) (i : Int) (l : L)
    (ht : v.transforms = List.replicate k ()) (hv : v.vals.length = k) (hle : k ≤ fs.length) :
    Py.forEach (parse_swc.for3 rowOf commentOf isHeader blank) (Py.enumerate v.transforms)
        { v with flag := fl, warnings_ := ws, i := i, line := l, match_ := some (fs, t) }
      = .next { v with flag := fl, warnings_ := ws, i := finalI 0 k i, line := l, match_ := some (fs, t), trans := (), vals := appendRow v.vals fs } := by
  rw [ht, ← hv]
  exact for3_loop rowOf commentOf isHeader blank t v.vals [] [] fs 0 _ rfl rfl rfl rfl (hv ▸ hle)

/-- the loop-carried part of the variables, and the variables the rest of the function reads that the loop must not touch -/
def abs (v : V L Val C) : St Val C := ⟨v.vals, v.comments, v.flag, v.warnings_⟩
def Frame (v v' : V L Val C) : Prop := v'.reader = v.reader ∧ v'.keys = v.keys ∧ v'.transforms = v.transforms

/-- one iteration of `for i, line in enumerate(f)` is one `step` -/
theorem for4_step (k : Nat) (hk : ∀ l fs t, rowOf l = some (fs, t) → k ≤ fs.length) (i : Int) (l : L) (v : V L Val C)
    (ht : v.transforms = List.replicate k ()) (hv : v.vals.length = k) :
    match step rowOf commentOf isHeader blank i l (abs v) with
    | some st' => ∃ v', parse_swc.for4 rowOf commentOf isHeader blank (i, l) v = .next v' ∧ Frame v v' ∧ abs v' = st'
    | none => ∃ v', parse_swc.for4 rowOf commentOf isHeader blank (i, l) v = .ret v' (.error (invalidExc (i + 1))) ∧ Frame v v' ∧ abs v' = abs v := by
  unfold step
  cases hr : rowOf l with
  | some ft =>
    obtain ⟨fs, t⟩ := ft
    have h3 := fun fl ws => for3_all rowOf commentOf isHeader blank t fs k v fl ws i l ht hv (hk l fs t hr)
    simp only [parse_swc.for4, Py.seq, Py.bind, hr, Option.isSome_some, if_true, Option.bind_some, Py.skip, abs]
    rcases Bool.eq_false_or_eq_true v.flag with hf | hf <;> cases t <;> simp only [hf, Bool.false_eq_true, if_false, if_true, h3] <;>
      exact ⟨_, rfl, ⟨rfl, rfl, rfl⟩, rfl⟩
  | none =>
    cases hc : commentOf l with
    | some c =>
      simp only [parse_swc.for4, Py.seq, Py.bind, hr, hc, Option.isSome_some, Option.isSome_none, if_true, Py.skip, Bool.false_eq_true,
        if_false, abs]
      cases isHeader c <;> exact ⟨_, rfl, ⟨rfl, rfl, rfl⟩, rfl⟩
    | none =>
      simp only [parse_swc.for4, Py.seq, Py.bind, hr, hc, Option.isSome_none, Py.skip, Bool.false_eq_true, if_false, Py.raise, abs]
      cases blank l <;> exact ⟨_, rfl, ⟨rfl, rfl, rfl⟩, rfl⟩

theorem appendRow_length (vals : List (List Val)) (fs : List Val) (h : vals.length ≤ fs.length) : (appendRow vals fs).length = vals.length := by
  simp [appendRow, List.length_zipWith]; omega

theorem step_len (k : Nat) (hk : ∀ l fs t, rowOf l = some (fs, t) → k ≤ fs.length) (i : Int) (l : L) (st st' : St Val C)
    (h : step rowOf commentOf isHeader blank i l st = some st') (hl : st.vals.length = k) : st'.vals.length = k := by
  unfold step at h
  cases hr : rowOf l with
  | some ft =>
    rw [hr] at h
    cases h
    rw [← hl]
    exact appendRow_length _ _ (hl ▸ hk l ft.1 ft.2 hr)
  | none =>
    rw [hr] at h
    cases hc : commentOf l with
    | some c => rw [hc] at h; cases h; exact hl
    | none =>
      rw [hc] at h
      cases hb : blank l <;> rw [hb] at h <;> cases h
      exact hl

theorem Frame.trans {a b c : V L Val C} (h1 : Frame a b) (h2 : Frame b c) : Frame a c :=
  ⟨h2.1.trans h1.1, h2.2.1.trans h1.2.1, h2.2.2.trans h1.2.2⟩

/-- the loop `for i, line in enumerate(f)` over a file that yields `ls` and then stops (`fail = none`) or raises (`fail = some e`) -/
theorem for4_loop (k : Nat) (hk : ∀ l fs t, rowOf l = some (fs, t) → k ≤ fs.length) (fail : Option Py.Exc) :
    ∀ (ls : List L) (i : Int) (v : V L Val C), v.transforms = List.replicate k () → v.vals.length = k →
    ∃ v', Py.forEachS (parse_swc.for4 rowOf commentOf isHeader blank) (Py.enumFrom i ls) fail v =
        (match (loop rowOf commentOf isHeader blank ls i (abs v)).2 with
         | some n => .ret v' (.error (invalidExc n))
         | none => match fail with
           | none => .next v'
           | some e => .ret v' (.error e))
      ∧ Frame v v' ∧ abs v' = (loop rowOf commentOf isHeader blank ls i (abs v)).1 := by
  intro ls
  induction ls with
  | nil =>
    intro i v _ _
    refine ⟨v, ?_, ⟨rfl, rfl, rfl⟩, rfl⟩
    cases fail <;> simp [loop, Py.enumFrom, Py.forEachS]
  | cons l ls ih =>
    intro i v ht hv
    have h4 := for4_step rowOf commentOf isHeader blank k hk i l v ht hv
    cases hs : step rowOf commentOf isHeader blank i l (abs v) with
    | some st' =>
      obtain ⟨v1, e1, hF, rfl⟩ := hs ▸ h4
      obtain ⟨v', e', hF', ha'⟩ := ih (i + 1) v1 (hF.2.2.trans ht) (step_len rowOf commentOf isHeader blank k hk i l _ _ hs hv)
      exact ⟨v', by simp only [Py.enumFrom, Py.forEachS, e1, loop, hs, e'], hF.trans hF', by simp only [loop, hs, ha']⟩
    | none =>
      obtain ⟨v1, e1, hF, ha⟩ := hs ▸ h4
      exact ⟨v1, by simp only [Py.enumFrom, Py.forEachS, e1, loop, hs], hF, by simp only [loop, hs, ha]⟩

/-- `FileReader.__exit__` returns False (exceptions propagate) and closes the file if there is one -/
theorem file_reader_exit_eq (r : FileReader) (a b c : Option Py.Exc) : file_reader_exit r a b c = some (closeReader r, false) := by
  obtain ⟨f, cl⟩ := r
  cases f <;> simp [file_reader_exit, file_reader_exit.body, Py.seq, Py.skip, Py.finish, closeReader]

/-- the exception a finished loop hands to the `with` statement -/
def outcome (stream : Py.Stream L) (r : St Val C × Option Int) : Option Py.Exc :=
  match r.2 with
  | some n => some (invalidExc n)
  | none => match stream.fail with
    | none => none
    | some e => some (if e.isA "UnicodeDecodeError" then decodeExc else e)

/-- the `with FileReader(...) as f:` statement around `try: for … except UnicodeDecodeError as e: raise ValueError(…) from e`: the handler
replaces a decode failure, any other exception of the loop propagates (the translated `__exit__` returns False), and the reader is closed -/
theorem with_eq (k : Nat) (hk : ∀ l fs t, rowOf l = some (fs, t) → k ≤ fs.length) (v : V L Val C) (r : Py.Res (V L Val C) (R Val C))
    (h : Py.withExit (parse_swc.with6_exit rowOf commentOf isHeader blank) (parse_swc.with6_body rowOf commentOf isHeader blank) v = r)
    (stream : Py.Stream L) (st : St Val C) (hf : v.f = stream) (hst : abs v = st) (ht : v.transforms = List.replicate k ())
    (hv : v.vals.length = k) :
    ∃ v', r = (match outcome stream (loop rowOf commentOf isHeader blank stream.items 0 st) with
         | some e => .ret v' (.error e)
         | none => .next v')
      ∧ v'.reader = closeReader v.reader ∧ v'.keys = v.keys ∧ (loop rowOf commentOf isHeader blank stream.items 0 st).1 = abs v' := by
  subst h hf hst
  obtain ⟨v', e', ⟨hr, hkeys, -⟩, ha⟩ := for4_loop rowOf commentOf isHeader blank k hk v.f.fail v.f.items 0 v ht hv
  have hne : ∀ n, (invalidExc n).isA "UnicodeDecodeError" = false := fun _ =>
    (by decide +kernel : Py.isSubclass 8 "ValueError" "UnicodeDecodeError" = false)
  have hx : ∀ (w : V L Val C) o, parse_swc.with6_exit rowOf commentOf isHeader blank w o = some ({ w with reader := closeReader w.reader }, false) :=
    fun w o => by simp only [parse_swc.with6_exit, file_reader_exit_eq, Option.map_some]
  simp only [Py.withExit, parse_swc.with6_body, Py.tryExcept, parse_swc.try5_body, Py.Stream.enumerate, Py.enumerate, e', outcome, ← hr]
  -- only the handler touches a variable (`e`) beyond what the loop left in `v'`
  cases (loop rowOf commentOf isHeader blank v.f.items 0 (abs v)).2 with
  | some n => exact ⟨{ v' with reader := closeReader v'.reader }, by simp [hne, hx], rfl, hkeys, ha.symm⟩
  | none =>
    cases v.f.fail with
    | none => exact ⟨{ v' with reader := closeReader v'.reader }, by simp [hx], rfl, hkeys, ha.symm⟩
    | some e =>
      by_cases hu : e.isA "UnicodeDecodeError" = true
      · exact ⟨{ v' with e := e, reader := closeReader v'.reader }, by simp [hu, hx, parse_swc.try5_handler, Py.raise, decodeExc], rfl, hkeys, ha.symm⟩
      · exact ⟨{ v' with reader := closeReader v'.reader }, by simp [hu, hx], rfl, hkeys, ha.symm⟩

def lastOr {α : Type} : List α → α → α
  | [], d => d
  | x :: xs, _ => lastOr xs x

/-- `vals = [[] for _ in keys]` -/
theorem for1_loop : ∀ (ks : List String) (v : V L Val C),
    Py.forEach (parse_swc.for1 rowOf commentOf isHeader blank) ks v
      = .next { v with c0_ := v.c0_ ++ List.replicate ks.length [], underscore_ := lastOr ks v.underscore_ } := by
  intro ks
  induction ks with
  | nil => intro v; simp [Py.forEach, lastOr]
  | cons x ks ih => intro v; simp [Py.forEach, parse_swc.for1, ih, lastOr, List.replicate_succ]

/-- `[float for _ in extras]` -/
theorem for2_loop : ∀ (ks : List String) (v : V L Val C),
    Py.forEach (parse_swc.for2 rowOf commentOf isHeader blank) ks v
      = .next { v with c2_ := v.c2_ ++ List.replicate ks.length (), underscore_ := lastOr ks v.underscore_ } := by
  intro ks
  induction ks with
  | nil => intro v; simp [Py.forEach, lastOr]
  | cons x ks ih => intro v; simp [Py.forEach, parse_swc.for2, ih, lastOr, List.replicate_succ]

/-- **Refinement.**  For every list of lines, every decode failure and every `rowOf / commentOf / isHeader / blank` (with the seven
standard column names and at least `7 + |extras|` converted groups per matched row) the generated `parse_swc` never fails with an
untracked exception and returns exactly `parseSpec`. -/
theorem parse_refines (cols extras : List String) (reader : FileReader) (stream : Py.Stream L)
    (hc : cols.length = 7) (hk : ∀ l fs t, rowOf l = some (fs, t) → 7 + extras.length ≤ fs.length) :
    parse_swc rowOf commentOf isHeader blank cols extras reader stream
      = some (parseSpec rowOf commentOf isHeader blank cols extras reader stream) := by
  unfold parse_swc parse_swc.body
  simp only [Py.seq, Py.bindS, for1_loop, for2_loop]
  -- the variables at the `with` statement are whatever the steps so far have made of them: `with_eq` reads them off `h`
  generalize h : Py.withExit _ _ _ = r
  obtain ⟨v', rfl, hr, hkeys, ha⟩ := with_eq rowOf commentOf isHeader blank (7 + extras.length) hk _ r h
    stream ⟨List.replicate (cols.length + extras.length) [], [], true, []⟩ rfl (by simp [abs]; rfl) (by rw [Nat.add_comm]; rfl) (by simp [hc])
  rw [parseSpec]
  generalize loop rowOf commentOf isHeader blank stream.items 0 _ = r at ha ⊢
  obtain ⟨st, n⟩ := r
  obtain rfl : st = abs v' := ha
  cases n <;> cases hfl : stream.fail <;> simp [outcome, hfl, Py.finishX, hr, hkeys, abs]
  split <;> rfl

/-! ## what the fold computes -/

/-- the line is neither a data row, a comment nor blank -/
def isInvalid (l : L) : Bool := (rowOf l).isNone && (commentOf l).isNone && !blank l
/-- the converted fields of a data row (the writer's `RefineWriter.rowAt` is something else: the text of a data line) -/
def rowAt (l : L) : Option (List Val) := (rowOf l).map (·.1)
/-- a data row with fields beyond the requested columns -/
def tailAt (l : L) : Bool := match rowOf l with | some (_, t) => t | none => false
/-- the comment a line contributes (not a data row, a comment, not the column header) -/
def keptComment (l : L) : Option C :=
  match rowOf l with
  | some _ => none
  | none => match commentOf l with
    | some c => if isHeader c then none else some c
    | none => none
/-- 1-based number of the first data row with a non-empty tail (lines numbered from `i + 1`) -/
def firstTail : List L → Int → Option Int
  | [], _ => none
  | l :: ls, i => if tailAt rowOf l then some (i + 1) else firstTail ls (i + 1)

theorem firstTail_isSome : ∀ (ls : List L) (i : Int), (firstTail rowOf ls i).isSome = ls.any (tailAt rowOf) := by
  intro ls
  induction ls with
  | nil => intro i; rfl
  | cons l ls ih => intro i; by_cases h : tailAt rowOf l = true <;> simp [firstTail, h, ih]

theorem step_eq_none_iff (i : Int) (l : L) (st : St Val C) :
    step rowOf commentOf isHeader blank i l st = none ↔ isInvalid rowOf commentOf blank l = true := by
  unfold step isInvalid
  cases rowOf l <;> cases commentOf l <;> cases blank l <;> simp

/-- **No invalid line**: the loop runs to the end; every data row is appended to the columns, the kept comments are collected in order,
the flag goes down at the first row with a tail, which is the one warning -/
theorem loop_valid : ∀ (ls : List L) (i : Int) (st : St Val C), (∀ l ∈ ls, isInvalid rowOf commentOf blank l = false) →
    loop rowOf commentOf isHeader blank ls i st =
      (⟨(ls.filterMap (rowAt rowOf)).foldl appendRow st.vals, st.comments ++ ls.filterMap (keptComment rowOf commentOf isHeader),
        st.flag && (firstTail rowOf ls i).isNone,
        st.warns ++ (if st.flag then (match firstTail rowOf ls i with | some n => [warnExc n] | none => []) else [])⟩, none) := by
  intro ls
  induction ls with
  | nil => intro i st _; cases st; cases ‹Bool› <;> simp [loop, firstTail]
  | cons l ls ih =>
    intro i st h
    have hl := h l (by simp)
    have ih' := fun st' => ih (i + 1) st' (fun m hm => h m (by simp [hm]))
    simp only [loop, step]
    cases hr : rowOf l with
    | some ft =>
      obtain ⟨fs, t⟩ := ft
      simp only [ih', rowAt, hr, keptComment, tailAt, firstTail, List.filterMap_cons, Option.map_some, List.foldl_cons]
      cases st.flag <;> cases t <;> simp
    | none =>
      cases hc : commentOf l with
      | some c =>
        simp only [ih', rowAt, hr, hc, keptComment, tailAt, firstTail, List.filterMap_cons, Option.map_none]
        by_cases hh : isHeader c = true <;> simp [hh]
      | none =>
        have hb : blank l = true := by simpa [isInvalid, hr, hc] using hl
        simp only [hb, if_true, ih', rowAt, hr, hc, keptComment, tailAt, firstTail, List.filterMap_cons, Option.map_none]
        simp

/-- **An invalid line anywhere**: the loop stops there, with the number of the FIRST such line (and what it had accumulated) -/
theorem loop_invalid (bad : L) (post : List L) (hbad : isInvalid rowOf commentOf blank bad = true) :
    ∀ (pre : List L) (i : Int) (st : St Val C), (∀ l ∈ pre, isInvalid rowOf commentOf blank l = false) →
    loop rowOf commentOf isHeader blank (pre ++ bad :: post) i st =
      ((loop rowOf commentOf isHeader blank pre i st).1, some (i + pre.length + 1)) := by
  intro pre
  induction pre with
  | nil => intro i st _; simp [loop, (step_eq_none_iff rowOf commentOf isHeader blank i bad st).2 hbad]
  | cons l pre ih =>
    intro i st h
    have ih' := fun st' => ih (i + 1) st' (fun m hm => h m (by simp [hm]))
    simp only [List.cons_append, loop]
    cases hs : step rowOf commentOf isHeader blank i l st with
    | some st' => simp only [ih']; congr 2; simp; omega
    | none =>
      have := (step_eq_none_iff rowOf commentOf isHeader blank i l st).1 hs
      rw [h l (by simp)] at this; cases this

/-- either no line is invalid, or there is a first invalid one -/
theorem first_invalid (ls : List L) :
    (∀ l ∈ ls, isInvalid rowOf commentOf blank l = false) ∨
    ∃ pre bad post, ls = pre ++ bad :: post ∧ (∀ l ∈ pre, isInvalid rowOf commentOf blank l = false) ∧ isInvalid rowOf commentOf blank bad = true := by
  rcases List.forall_not_or_first (fun l => isInvalid rowOf commentOf blank l = true) ls with h | ⟨pre, bad, post, e, hpre, hbad⟩
  · exact .inl fun l hl => Bool.eq_false_iff.2 (h l hl)
  · exact .inr ⟨pre, bad, post, e, fun l hl => Bool.eq_false_iff.2 (hpre l hl), hbad⟩

/-- the columns after appending the rows one by one: EVERY column `j` received exactly the `j`-th field of every row, in order -/
theorem columns (k : Nat) : ∀ (rows : List (List Val)) (vals : List (List Val)), vals.length = k → (∀ fs ∈ rows, k ≤ fs.length) →
    (rows.foldl appendRow vals).length = k ∧
    ∀ j, j < k → (rows.foldl appendRow vals)[j]? = (vals[j]?).map (· ++ rows.filterMap (·[j]?)) := by
  intro rows
  induction rows with
  | nil => intro vals hl _; refine ⟨hl, fun j _ => ?_⟩; simp
  | cons fs rows ih =>
    intro vals hl hrows
    have hfs : k ≤ fs.length := hrows fs (by simp)
    have hlen : (appendRow vals fs).length = k := by rw [appendRow_length _ _ (by omega), hl]
    obtain ⟨h1, h2⟩ := ih (appendRow vals fs) hlen (fun f hf => hrows f (by simp [hf]))
    refine ⟨h1, fun j hj => ?_⟩
    rw [List.foldl_cons, h2 j hj]
    have hv : j < vals.length := by omega
    have hf : j < fs.length := by omega
    rw [appendRow, List.getElem?_zipWith', List.getElem?_eq_getElem hv, List.getElem?_eq_getElem hf]
    simp only [List.filterMap_cons, List.getElem?_eq_getElem hf, Option.map_some, Option.bind_some, List.append_assoc, List.singleton_append]

/-- for `j < k` no row lacks field `j`: the `filterMap` of `columns` is a `map`, so every column has one entry per data row -/
theorem column_length (k : Nat) (rows : List (List Val)) (hrows : ∀ fs ∈ rows, k ≤ fs.length) (j : Nat) (hj : j < k) :
    (rows.filterMap (·[j]?)).map some = rows.map (·[j]?) := by
  induction rows with
  | nil => rfl
  | cons fs rows ih =>
    have hf : j < fs.length := by have := hrows fs (by simp); omega
    simp [List.getElem?_eq_getElem hf, ih (fun f hf => hrows f (by simp [hf]))]

end
end RefineParse
