import SwcVerif.Refine.AscParse
import SwcVerif.Props.C15
/-! The model's parser (`Model/Asc.lean`) read by its leading token, continuing `Props/C15.lean`: what the leaf parsers leave of their
input, `.bad`-freeness of suffixes, and one equation per token kind for `skipComments` and `parseTop`.  No translated code here; the
`Refine/Asc*` files rewrite with these instead of unfolding the model. -/
namespace RefineAscModel
open Asc RefineAscParse

export C15 (adv_ok expectRp_ok expectLp_ok parseNode_ok parseColor_ok parseSubtree_nil parseSubtree_lp_true parseSubtree_lp_false
  parseSubtree_rp_true parseSubtree_rp_false parseSubtree_bar_true parseSubtree_bar_false parseSubtree_comment
  parseSubtree_float_false parseSubtree_literal)

theorem NoBad.of_suffix {a b : List Tok} (h : NoBad b) (hs : a <:+ b) : NoBad a :=
  fun x hx => h x (hs.mem hx)

theorem parseNode_suffix {toks rest : List Tok} {q : SwcText.Sci × SwcText.Sci × SwcText.Sci × SwcText.Sci}
    (hp : parseNode toks = .ok (q, rest)) : rest <:+ toks ∧ rest.length < toks.length := by
  rw [parseNode_ok hp]
  exact ⟨⟨[.float q.1, .float q.2.1, .float q.2.2.1, .float q.2.2.2, .rp], rfl⟩, by simp only [List.length_cons]; omega⟩

theorem parseColor_suffix {toks rest : List Tok} (hp : parseColor toks = .ok rest) : rest <:+ toks ∧ rest.length < toks.length := by
  obtain ⟨w1, w2, rfl⟩ := parseColor_ok hp
  exact ⟨⟨[.literal w1, .literal w2, .rp], rfl⟩, by simp only [List.length_cons]; omega⟩

/-- `_parse_split(current, flagN)` on `tN` followed by the rest of the `parseSubtree` loop: what `( (` and `( |` lead to -/
def nest (ty : Int) (f : Nat) (ρ γ : Int) (rows : List Row) (flagN : Bool) (tN : List Tok) : Except Err (List Tok × List Row) :=
  parseSubtree ty f tN flagN γ γ rows >>= fun r => expectRp r.1 >>= fun t2 => parseSubtree ty f t2 true ρ γ r.2

section
variable (f : Nat) (t : List Tok) (rows : List Row)

theorem skipComments_comment (c : SwcText.Str) : skipComments (f + 1) (.comment c :: t) = adv (.comment c :: t) >>= skipComments f := rfl

/-- `_parse_tree` after its label: `)`, comments, `(`, the subtree -/
def treeBody (ty : Int) (f : Nat) (rows : List Row) (t2 : List Tok) : Except Err (List Tok × List Row) :=
  expectRp t2 >>= fun t3 => skipComments f t3 >>= fun t4 => expectLp t4 >>= fun t5 => parseSubtree ty f t5 false (-1) (-1) rows

/-- `_parse` after an opening bracket at the top level: the word decides between `_parse_tree` and `_parse_color` -/
def topItem (f : Nat) (rows : List Row) (t1 : List Tok) : Except Err (List Tok × List Row) :=
  match t1 with
  | [] => .error .eof
  | .literal w :: _ =>
    if upper w = "AXON".toList ∨ upper w = "DENDRITE".toList then
      adv t1 >>= fun t2 =>
        treeBody (if upper w = "AXON".toList then Gen.Consts.type_axon else Gen.Consts.type_basal_dendrite) f rows t2 >>= fun r =>
          parseTop f r.1 r.2
    else if upper w = "COLOR".toList then parseColor t1 >>= fun t2 => parseTop f t2 rows
    else .error .literal
  | _ => .error .tokenType

theorem parseTop_nil : parseTop (f + 1) [] rows = .ok ([], rows) := rfl
theorem parseTop_comment (c : SwcText.Str) :
    parseTop (f + 1) (.comment c :: t) rows = adv (.comment c :: t) >>= fun t1 => parseTop f t1 rows := rfl
theorem parseTop_rp : parseTop (f + 1) (.rp :: t) rows = .ok (.rp :: t, rows) := rfl
theorem parseTop_lp : parseTop (f + 1) (.lp :: t) rows = adv (.lp :: t) >>= topItem f rows := by
  rw [parseTop]
  refine bind_congr fun t1 => ?_
  rcases t1 with _ | ⟨x, t'⟩
  · rfl
  · cases x <;> first | rfl | simp only [topItem, treeBody, bind_assoc, Bool.or_eq_true, decide_eq_true_eq]
theorem parseTop_other (x : Tok) (h1 : x ≠ .lp) (h2 : x ≠ .rp) (h3 : ∀ c, x ≠ .comment c) :
    parseTop (f + 1) (x :: t) rows = .error .tokenType := by
  cases x <;> first | rfl | exact absurd rfl ‹_› | exact absurd rfl (h3 _)

theorem topItem_nil : topItem f rows [] = .error .eof := rfl
theorem topItem_literal (w : SwcText.Str) :
    topItem f rows (.literal w :: t) =
      if upper w = "AXON".toList ∨ upper w = "DENDRITE".toList then
        adv (.literal w :: t) >>= fun t2 =>
          treeBody (if upper w = "AXON".toList then Gen.Consts.type_axon else Gen.Consts.type_basal_dendrite) f rows t2 >>= fun r =>
            parseTop f r.1 r.2
      else if upper w = "COLOR".toList then parseColor (.literal w :: t) >>= fun t2 => parseTop f t2 rows
      else .error .literal := rfl
theorem topItem_other (x : Tok) (h : ∀ w, x ≠ .literal w) : topItem f rows (x :: t) = .error .tokenType := by
  cases x <;> first | rfl | exact absurd rfl (h _)

end

end RefineAscModel
