import SwcVerif.Gen.AlgoLMeasure
import SwcVerif.Refine.PyRun
import SwcVerif.Refine.Node
import SwcVerif.Proofs.Features
import SwcVerif.Props.C06Gen
import SwcVerif.Props.C08Gen
/-! Refinement for C10: the definitions GENERATED from the topological L-Measure functions of `swcgeom/analysis/lmeasure.py`
(`Gen/AlgoLMeasure.lean`: `LMeasure.branch_order`, `n_stems`, `n_tips`, `n_bifs`, `n_branch`, `terminal_degree`, `fragmentation`, with `Tree.soma`, `Tree.get_tips`, `Tree.Node.subtree`, `SWCLike.number_of_edges` and the node-handle methods of
`Gen/AlgoNode.lean`) compute the hand-written models of `Model/Features.lean` / the quantities of their definitions, on every well-formed
tree object (ids = positions, `C07.WF pids` / `C06.IsTree r pids`), for every fuel above a stated bound.  (`lm_partition_asymmetry` is
translated as well, and evaluated in `Props/C10Gen.lean`; no theorem is stated about it.) -/
namespace RefineLm
open Gen.Algo Py Feat


/-- `Node.is_furcation()` on a tree object is the model's `isFurcation` -/
theorem node_is_furcation_eq (pids : List Int) (k : Nat) (h : k < pids.length) :
    node_is_furcation (Sub.rangeI pids.length) pids (k : Int) = some (Sub.isFurcation pids (k : Int)) := by
  rw [RefineNode.node_is_furcation_eq, RefineNode.idx_rangeI _ _ (by omega) (by omega)]
  simp [Sub.isFurcation, List.count_eq_length_filter, beq_eq_decide]

/-- `Tree.Node.parent()` on a tree object: `None` at a root, otherwise the node whose index is the parent entry -/
theorem node_parent_eq (pids : List Int) (k : Nat) (h : k < pids.length) :
    node_parent pids (k : Int) = some (if pids.getD k (-1) = -1 then none else some (pids.getD k (-1))) := by
  rw [RefineNode.node_parent_eq, Py.idx_nat _ _ h]
  simp [h]

/-! ## `LMeasure.branch_order` -/

theorem bo_body (pids : List Int) (nd v : Int) (h0 : 0 ≤ v) (hv : v < pids.length) (o : Int) :
    lm_branch_order.while1_body { ids := Sub.rangeI pids.length, pids := pids, node := nd, n := some v, order := o } =
      .next { ids := Sub.rangeI pids.length, pids := pids, node := nd,
              n := (if pids.getD v.toNat (-1) = -1 then none else some (pids.getD v.toNat (-1))),
              order := o + (if Sub.isFurcation pids v then 1 else 0) } := by
  obtain ⟨k, rfl⟩ := Int.eq_ofNat_of_zero_le h0
  have hk : k < pids.length := by omega
  simp only [lm_branch_order.while1_body, Py.seq, Py.bind, node_is_furcation_eq pids k hk, Int.toNat_natCast]
  cases hfu : Sub.isFurcation pids (k : Int) <;> simp [node_parent_eq pids k hk, Py.skip]

/-- **`LMeasure.branch_order` as translated equals the model** on every well-formed tree object, at every node, for every fuel
`≥ pids.length + 2` (in particular the loop terminates and nothing raises) -/
theorem branchOrder_refines (pids : List Int) (hw : C07.WF pids) (k : Nat) (hk : k < pids.length) (F : Nat) :
    lm_branch_order (pids.length + 2 + F) (Sub.rangeI pids.length) pids (k : Int)
      = some ((branchOrder pids (pids.length + 1) (k : Int) : Nat) : Int) := by
  -- the `while n is not None` loop, along the root path: from node `v` with `order = o` it stops with `n = None` having counted the
  -- furcations on the path; one pass per node of the path and one more test of the condition
  have loop := FeatP.rootPath_induction hw (P := fun v path => ∀ (o : Int) (F : Nat),
    Py.whileF lm_branch_order.while1_cond lm_branch_order.while1_body (F + 1 + path.length)
        { ids := Sub.rangeI pids.length, pids := pids, node := (k : Int), n := some v, order := o } =
      .next { ids := Sub.rangeI pids.length, pids := pids, node := (k : Int), n := none,
              order := o + ((path.filter (Sub.isFurcation pids)).length : Int) })
    (by
      intro o F
      rw [List.length_singleton, Py.whileF_next lm_branch_order.while1_cond _ _ _ _ rfl
          (bo_body pids k 0 (Int.le_refl 0) (by have := hw.pos; omega) o),
        hw.par_root, if_pos rfl, Py.whileF_done lm_branch_order.while1_cond _ _ _ rfl, List.filter_singleton]
      cases Sub.isFurcation pids 0 <;> rfl)
    (by
      intro v hpos hv p hp _ _ ih o F
      rw [List.length_cons, ← Nat.add_assoc, Py.whileF_next lm_branch_order.while1_cond _ _ _ _ rfl
          (bo_body pids k v (Int.le_of_lt hpos) hv o), hp, if_neg (show ¬ p = -1 by omega), ih, List.filter_cons]
      cases Sub.isFurcation pids v
      · rw [if_neg Bool.false_ne_true, if_neg Bool.false_ne_true, Int.add_zero]
      · rw [if_pos rfl, if_pos rfl, List.length_cons, Int.natCast_succ, Int.add_assoc, Int.add_comm 1])
    (k : Int) (Int.natCast_nonneg k) (Int.ofNat_lt.2 hk)
  have hl := FeatP.rootPath_len hw (k : Int) (Int.natCast_nonneg k) (Int.ofNat_lt.2 hk)
  obtain ⟨G, hG⟩ := Nat.exists_eq_add_of_le' hl
  rw [FeatP.bo_eq hw _ _ (Int.natCast_nonneg k) (Int.ofNat_lt.2 hk) (Nat.le_succ_of_le hl)]
  simp only [lm_branch_order, lm_branch_order.body, Py.seq]
  rw [show pids.length + 2 + F = (G + F + 1) + 1 + (Redir.rootPath pids pids.length (k : Int)).length by omega, loop]
  simp [Py.finish]

/-! ## `LMeasure.n_stems` -/

/-- `Tree.Node.children()` on a tree object: the rows whose parent entry is the node, in table order -/
theorem node_children_eq (pids : List Int) (k : Nat) (h : k < pids.length) :
    node_children (Sub.rangeI pids.length) pids (k : Int) = some (tableKids (Sub.rangeI pids.length) pids (k : Int)) :=
  RefineNode.node_children_spec _ pids k (by omega) (by omega)

/-- `Tree.soma()`: node 0 when the first row is typed as soma, `ValueError` otherwise (`IndexError` on an empty table) -/
theorem tree_soma_eq (ids pids types : List Int) :
    tree_soma ids pids types true = if types.head? = some Gen.Consts.type_soma then some 0 else none := by
  simp only [tree_soma, tree_soma.body, Py.seq, Py.bind, if_true, Py.idx_head]
  cases types.head? with
  | none => rfl
  | some t => by_cases h : t = Gen.Consts.type_soma <;> simp [h, Py.skip, Py.finish]

/-- **`LMeasure.n_stems` as translated**: on a non-empty tree object whose first row is typed as soma it returns the number of children of
node 0 (= the model's `nStems`); when the first row has another type it raises (the `ValueError` of `Tree.soma`) -/
theorem nStems_refines (pids types : List Int) (hn : 0 < pids.length) :
    lm_n_stems (Sub.rangeI pids.length) pids types =
      if types.head? = some Gen.Consts.type_soma then some ((nStems pids : Nat) : Int) else none := by
  simp only [lm_n_stems, lm_n_stems.body, Py.bind, tree_soma_eq]
  by_cases h : types.head? = some Gen.Consts.type_soma
  · have := node_children_eq pids 0 hn
    simp only [Nat.cast_zero] at this
    simp [h, this, Py.finish, FeatP.nStems_eq, Feat.rangeI]
  · simp [h, Py.finish]

/-! ## `LMeasure.n_tips` -/

/-- `Tree.get_tips()` as translated, on ANY table with distinct ids: the ids that no row names as its parent, in table order
(= the model's `getTips`) -/
theorem getTips_refines (ids pids : List Int) (hd : ids.Nodup) :
    tree_get_tips ids pids = some (Branches.getTips ids pids) := by
  obtain ⟨v', e, -, hc⟩ := Py.forEach_collect tree_get_tips.for1 (·.c1_) id (fun _ => True) (ids.filter fun x => !pids.contains x)
    (fun x _ v _ => ⟨_, rfl, trivial, rfl⟩)
    { (default : tree_get_tips.V) with ids := ids, pids := pids, tip_ids := ids.filter fun x => !pids.contains x, c1_ := [] } trivial
  simp only [tree_get_tips, tree_get_tips.body, Py.seq, Py.bind, Py.bindS, Py.setdiff1dUnique, (distinct_iff ids).2 hd, if_true, e, hc,
    Py.finish, Branches.getTips, List.nil_append, List.map_id, Option.map_some]

/-- **`LMeasure.n_tips` as translated** returns the number of childless nodes (ids no row names as parent) of any table with distinct ids -/
theorem nTips_refines (ids pids types : List Int) (hd : ids.Nodup) :
    lm_n_tips ids pids types = some (((Branches.getTips ids pids).length : Nat) : Int) := by
  simp [lm_n_tips, lm_n_tips.body, Py.bind, getTips_refines ids pids hd, Py.finish]

/-! ## `LMeasure.n_bifs`, `n_branch`, `fragmentation` (built on the translated `get_furcations` / `get_branches`) -/

mutual
theorem furcsOf_sublist : ∀ r : Rose, (C08.furcsOf r).Sublist r.ids
  | .node i ks => by
    simp only [C08.furcsOf, Rose.ids]
    by_cases h : ks.length > 1
    · simp only [h, if_true, List.singleton_append]
      exact (furcsOfL_sublist ks).cons_cons _
    · simp only [h, if_false, List.nil_append]
      exact (furcsOfL_sublist ks).trans (List.sublist_cons_self _ _)
theorem furcsOfL_sublist : ∀ ks : List Rose, (C08.furcsOfL ks).Sublist (idsL ks)
  | [] => by simp [C08.furcsOfL, idsL]
  | r :: rs => by
    simp only [C08.furcsOfL, idsL]
    exact (furcsOf_sublist r).append (furcsOfL_sublist rs)
end

/-- the furcations of the rose are the rows with two or more children -/
theorem furcs_perm {r : Rose} {pids : List Int} (h : C06.IsTree r pids) :
    (C08.furcsOf r).Perm ((Sub.rangeI pids.length).filter (Sub.isFurcation pids)) := by
  have hd1 : (C08.furcsOf r).Nodup := (furcsOf_sublist r).nodup h.1.2
  have hd2 : ((Sub.rangeI pids.length).filter (Sub.isFurcation pids)).Nodup := (Represent.rangeI_nodup _).filter _
  rw [List.perm_ext_iff_of_nodup hd1 hd2]
  intro j
  rw [C08.furcsOf_ge2 _ r h.1.1 h.1.2 j, List.mem_filter, C06.isFurcation_iff, h.2.1.mem_iff]

/-- **`LMeasure.n_bifs` as translated** returns the number of nodes with two or more children, on every tree object, for every fuel
`≥ 2·n + 1` -/
theorem nBifs_refines (pids types : List Int) (r : Rose) (h : C06.IsTree r pids) (F : Nat) :
    lm_n_bifs (2 * pids.length + F + 1) (Sub.rangeI pids.length) pids types
      = some ((((Sub.rangeI pids.length).filter (Sub.isFurcation pids)).length : Nat) : Int) := by
  obtain ⟨l, hl, hp⟩ := C08.generated_furcations_eq (Sub.rangeI pids.length) pids r h.1 h.2.2.1 F
  rw [C06.isTree_size h] at hl
  simp only [lm_n_bifs, lm_n_bifs.body, Py.bind, hl, Py.finish, Option.map, Py.len_eq]
  rw [(hp.trans (furcs_perm h)).length_eq]

/-- **`LMeasure.n_branch` as translated** returns the number of branches (`C08.branchesOf`, the partition of the edges of C08) -/
theorem nBranch_refines (pids types : List Int) (r : Rose) (h : C06.IsTree r pids) (F : Nat) :
    lm_n_branch (2 * pids.length + F + 1) (Sub.rangeI pids.length) pids types
      = some (((C08.branchesOf r).length : Nat) : Int) := by
  have hl := C08.generated_getBranches_eq (Sub.rangeI pids.length) pids r h.1 h.2.2.1 F
  rw [C06.isTree_size h] at hl
  simp only [lm_n_branch, lm_n_branch.body, Py.bind, hl, Py.finish, Option.map, Py.len_eq]

/-- **`LMeasure.fragmentation` as translated** (through `SWCLike.number_of_edges`): the number of nodes of the branch minus one, which is
the model's `fragmentation` (= its number of compartments, `C10.fragmentation_eq`) on every non-empty branch -/
theorem fragmentation_refines (b : List Int) :
    lm_fragmentation b = some ((b.length : Int) - 1) ∧ (b ≠ [] → lm_fragmentation b = some ((fragmentation b : Nat) : Int)) := by
  have e : lm_fragmentation b = some ((b.length : Int) - 1) := by
    simp [lm_fragmentation, lm_fragmentation.body, swc_number_of_edges, swc_number_of_edges.body, Py.bind, Py.finish]
  refine ⟨e, fun hb => ?_⟩
  rw [e, fragmentation]
  have : 0 < b.length := List.length_pos_iff.2 hb
  congr 1; omega

/-! ## `LMeasure.terminal_degree` (built on the translated `Tree.Node.subtree` = `get_subtree_impl`, then `Tree.get_tips` on the new table) -/

theorem range_nodup (m : Nat) : (Py.range (m : Int)).Nodup := by
  rw [Py.range_natCast]
  exact Py.range_nodup m

/-- `Tree.Node.subtree()` as translated returns the (id, pid) columns of the model's `getSubtree` -/
theorem node_subtree_eq (pids : List Int) (s : Rose) (h : Represents s (Sub.rangeI pids.length) pids)
    (hin : ∀ i ∈ s.ids, 0 ≤ i ∧ i.toNat < pids.length) (F : Nat) :
    node_subtree (2 * s.size + F + 1) (Sub.rangeI pids.length) pids s.id =
      (Sub.getSubtree pids s.id).map (fun r => (Py.range (r.mapping.length : Int), r.newPid)) := by
  obtain ⟨h0, hlt⟩ := hin _ (Trav.ids_head s)
  simp only [node_subtree, node_subtree.body, Py.seq, Py.bind, RefineNode.idx_rangeI pids.length s.id h0 (by omega),
    C06.generated_getSubtree_eq_model pids s h hin F]
  cases Sub.getSubtree pids s.id <;> rfl

/-- **`LMeasure.terminal_degree` as translated, reduced to the model's subtree table** `res` (which exists: `C06.subtree_nodes`): for the
subtree `s` at any node of a tree object and every fuel `≥ 2·|s| + 1` the generated function returns the number of rows of the new table that
no row of the new table names as its parent. (`terminalDegree_refines` below identifies that number with the tips at or below the node.) -/
theorem terminalDegree_reduces (pids : List Int) (s : Rose) (h : Represents s (Sub.rangeI pids.length) pids)
    (hin : ∀ i ∈ s.ids, 0 ≤ i ∧ i.toNat < pids.length) (F : Nat) (res : Sub.SubTopo) (hres : Sub.getSubtree pids s.id = some res) :
    lm_terminal_degree (2 * s.size + F + 1) (Sub.rangeI pids.length) pids s.id =
      some ((((Py.range (res.mapping.length : Int)).filter fun j => !res.newPid.contains j).length : Nat) : Int) := by
  simp only [lm_terminal_degree, lm_terminal_degree.body, Py.bind, node_subtree_eq pids s h hin F, hres, Option.map,
    getTips_refines _ _ (range_nodup _), Py.finish, Py.len_eq, Branches.getTips]

/-! ### the last step: the childless rows of the new table are the tips at or below the node -/

/-- new parents of the model's subtree table are `-1` or valid rows, and the two columns are equally long -/
theorem subtree_bound (pids : List Int) (n : Int) (res : Sub.SubTopo) (h : Sub.getSubtree pids n = some res) :
    res.newPid.length = res.mapping.length ∧
    ∀ k (hk : k < res.newPid.length), res.newPid[k] ≠ -1 → res.newPid[k].toNat < res.mapping.length := by
  unfold Sub.getSubtree at h
  simp only at h
  unfold Sub.toSubTopology at h
  generalize List.filter _ (List.zip _ _) = kept at h
  simp only [Option.map_eq_some_iff] at h
  obtain ⟨np, hnp, rfl⟩ := h
  obtain ⟨hlen, hk⟩ := Py.mapM_eq_some _ _ _ hnp
  refine ⟨hlen.trans (List.length_map ..).symm, ?_⟩
  intro k hkn hne
  simp only at hkn hne ⊢
  have := hk k (by omega) hkn
  split at this
  · simp only [Option.some.injEq] at this
    exact absurd this.symm hne
  · obtain ⟨_, hj, _⟩ := C06.pos?_some _ _ _ this
    exact hj

theorem kids_ids_sub (r : Rose) : ∀ w ∈ idsL r.kids, w ∈ r.ids := by
  cases r; intro w hw; simp only [Rose.kids] at hw; simp [Rose.ids, hw]

/-- the children (in the table) of a node of the rose lie strictly below the rose's root -/
theorem kids_closed (kf : Int → List Int) : ∀ r : Rose, Agrees kf r → ∀ p ∈ r.ids, ∀ w ∈ kf p, w ∈ idsL r.kids := by
  intro r
  induction r using C08.rose_ind with
  | h i ks ih =>
    intro hA p hp w hw
    simp only [Agrees] at hA
    obtain ⟨hk, hAL⟩ := hA
    rw [C08.agreesL_iff] at hAL
    simp only [Rose.ids, List.mem_cons] at hp
    simp only [Rose.kids]
    rw [C08.idsL_eq, List.mem_flatMap]
    rcases hp with rfl | hp
    · rw [hk, List.mem_map] at hw
      obtain ⟨k, hkm, rfl⟩ := hw
      exact ⟨k, hkm, Trav.ids_head k⟩
    · rw [C08.idsL_eq, List.mem_flatMap] at hp
      obtain ⟨k, hkm, hpk⟩ := hp
      exact ⟨k, hkm, kids_ids_sub k w (ih k hkm (hAL k hkm) p hpk w hw)⟩

/-- `E`: the old ids, `NP`: the new parents of a table cut out of the parent column `pids` -/
theorem newParent_iff (pids E NP : List Int) (hlen : NP.length = E.length) (hnd : E.Nodup) (hE : ∀ v ∈ E, 0 ≤ v ∧ v.toNat < pids.length)
    (h0 : NP.head? = some (-1))
    (hpar : ∀ c (hc : c < E.length), 0 < c → ∃ q, ∃ _ : q < E.length, NP[c]'(hlen ▸ hc) = (q : Int) ∧ E[q] = pids.getD E[c].toNat (-1))
    (hclosed : ∀ u (hu : u < pids.length), pids[u] ∈ E → (u : Int) ∈ E.tail)
    (j : Nat) (hj : j < E.length) : (j : Int) ∈ NP ↔ E[j] ∈ pids := by
  constructor
  · intro hmem
    obtain ⟨c, hc, hcj⟩ := List.mem_iff_getElem.1 hmem
    have hc0 : 0 < c := Nat.pos_of_ne_zero fun hc0 => by
      subst hc0
      rw [List.head?_eq_getElem?, List.getElem?_eq_getElem hc, hcj] at h0
      exact absurd (Option.some.inj h0) (by omega)
    obtain ⟨q, hq, e1, e2⟩ := hpar c (hlen ▸ hc) hc0
    obtain rfl : q = j := by rw [hcj] at e1; exact_mod_cast e1.symm
    rw [e2, Py.getD_eq_getElem _ _ (hE _ (List.getElem_mem _)).2]
    exact List.getElem_mem _
  · intro hmem
    obtain ⟨u, hu, hpu⟩ := List.mem_iff_getElem.1 hmem
    obtain ⟨c, hc, hcu⟩ := List.mem_iff_getElem.1 (hclosed u hu (hpu ▸ List.getElem_mem hj))
    obtain ⟨q, hq, e1, e2⟩ := hpar (c + 1) (Nat.add_lt_of_lt_sub (List.length_tail ▸ hc)) (Nat.succ_pos c)
    rw [← List.getElem_tail hc, hcu, Int.toNat_natCast, Py.getD_eq_getElem _ _ hu, hpu] at e2
    obtain rfl : q = j := (List.getElem_inj hnd).1 e2
    exact e1 ▸ List.getElem_mem _

/-- **`LMeasure.terminal_degree` as translated is the number of tips at or below the node**: for the subtree `s` hanging at any node of a
tree object (ids = positions) and every fuel `≥ 2·|s| + 1`, the generated function returns the number of nodes of `s` that no row names as
its parent — which is the model's `terminalDegree` (`C10.terminal_degree_eq_tips_below`) -/
theorem terminalDegree_refines (pids : List Int) (s : Rose) (h : Represents s (Sub.rangeI pids.length) pids)
    (hin : ∀ i ∈ s.ids, 0 ≤ i ∧ i.toNat < pids.length) (F : Nat) :
    lm_terminal_degree (2 * s.size + F + 1) (Sub.rangeI pids.length) pids s.id =
      some (((s.ids.filter fun v => !pids.contains v).length : Nat) : Int) := by
  obtain ⟨res, hres, hmap, hperm, hhead, hpar⟩ := C06.subtree_nodes pids s h hin
  obtain ⟨hlen, hbound⟩ := subtree_bound pids s.id res hres
  rw [terminalDegree_reduces pids s h hin F res hres, ← (hperm.filter _).length_eq]
  generalize res.mapping = E at *
  generalize res.newPid = NP at *
  have hiff := newParent_iff pids E NP hlen (hperm.nodup_iff.2 h.2) (fun v hv => hin v (hperm.mem_iff.1 hv)) hhead
    (fun c hc hc0 => by
      obtain ⟨hnn, hp⟩ := hpar c (hlen ▸ hc) hc0
      have hb := hbound c (hlen ▸ hc) (by omega)
      rw [Py.getD_eq_getElem _ _ hb, Py.getD_eq_getElem _ _ hc] at hp
      exact ⟨_, hb, by omega, hp⟩)
    (fun u hu hmem => by
      -- row `u` is a child of a node of `s`, so it is entered after the root of `s`
      have hkid : (u : Int) ∈ tableKids (Sub.rangeI pids.length) pids pids[u] := by
        rw [C06.mem_tableKids]; exact ⟨by omega, by simpa using hu, by simp⟩
      have hcl := kids_closed _ s h.1 _ (hperm.mem_iff.1 hmem) _ hkid
      obtain ⟨i, ks⟩ := s
      exact hmap ▸ (C04.enterOrderRev_perm ks).mem_iff.2 hcl)
  have key : ((Py.range (E.length : Int)).filter fun j => !NP.contains j).length = (E.filter fun v => !pids.contains v).length := by
    conv_rhs => rw [eq_range_map E 0, List.filter_map, List.length_map]
    rw [Py.range_natCast, List.filter_map, List.length_map]
    refine congrArg List.length (List.filter_congr fun j hj => ?_)
    rw [List.mem_range] at hj
    simp only [Function.comp, Py.getD_eq_getElem _ _ hj]
    exact congrArg not (Bool.eq_iff_iff.2 (by rw [List.contains_iff_mem, List.contains_iff_mem]; exact hiff j hj))
  rw [key]

end RefineLm
