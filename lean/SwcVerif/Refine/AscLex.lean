import SwcVerif.Gen.AlgoAscLex
import SwcVerif.Model.AlgoRunAscLex
import SwcVerif.Model.Asc
import SwcVerif.Refine.AscParse
/-! Refinement for C15, character level: the `Lexer` AS TRANSLATED (`Gen/AlgoAscLex.lean`: `__init__`, `_read_char`, `_read_word`,
`_read_line`, `_token`, `__next__`) against the hand-written lexer model of `Model/Asc.lean` (`skipSpaces`, `takeWord`, `takeLine`,
`classify`, `lex`).

The lexer object that still has the characters `s` to deliver is `mk s ln col`: `next_char` = the first character (or `""`), the
stream `r` = the rest.  Line / column are carried existentially (the hand model has no positions; they are compared with the real
lexer by the `gasclex` correspondence lines). -/
namespace RefineAscLex
open Gen.Algo Py Asc

/-- the lexer object that still has the characters `s` to deliver (plain `mk` in `Props/C15Lex.lean`, which opens this namespace) -/
def mk (s : List Char) (ln col : Int) : Lexer :=
  { r := String.ofList s.tail, lineno := ln, column := col, next_char := String.ofList (s.take 1) }

@[simp] theorem mk_nc_nil (ln col : Int) : (mk [] ln col).next_char = "" := by simp [mk]
@[simp] theorem mk_nc_cons (c : Char) (t : List Char) (ln col : Int) : (mk (c :: t) ln col).next_char = String.singleton c := by simp [mk]
@[simp] theorem mk_lineno (s : List Char) (ln col : Int) : (mk s ln col).lineno = ln := rfl
@[simp] theorem mk_column (s : List Char) (ln col : Int) : (mk s ln col).column = col := rfl
@[simp] theorem tl_nl : ("\n" : String).toList = ['\n'] := by simp
@[simp] theorem tl_sp : (" \t\n" : String).toList = [' ', '\t', '\n'] := by simp
@[simp] theorem tl_delim : (" \t\n();|" : String).toList = [' ', '\t', '\n', '(', ')', ';', '|'] := by simp
@[simp] theorem tl_lp : ("(" : String).toList = ['('] := by simp
@[simp] theorem tl_rp : (")" : String).toList = [')'] := by simp
@[simp] theorem tl_semi : (";" : String).toList = [';'] := by simp
@[simp] theorem tl_bar : ("|" : String).toList = ['|'] := by simp

/-- `_read_char` as translated: the next character becomes current -/
theorem read_char_mk (c : Char) (t : List Char) (ln col : Int) :
    ∃ ln' col', lexer_read_char (mk (c :: t) ln col) = some (mk t ln' col', !t.isEmpty) := by
  rcases t with _ | ⟨d, t'⟩
  · exact ⟨ln, col, by simp [lexer_read_char, lexer_read_char.body, Py.seq, Py.finish, mk, Py.Text.read1, Py.Text.read1L, Py.Text.eq]⟩
  · refine ⟨if d = '\n' then ln + 1 else ln, if d = '\n' then 1 else col + 1, ?_⟩
    by_cases hd : d = '\n' <;>
      simp [lexer_read_char, lexer_read_char.body, Py.seq, Py.finish, mk, Py.Text.read1, Py.Text.read1L, Py.Text.eq, Py.skip, hd]

@[simp] theorem strIn_space (c : Char) : Py.Text.strIn (String.singleton c) " \t\n" = isSpace c := by
  simp [Py.Text.strIn, Py.Text.isInfixL, List.isPrefixOf, isSpace, Bool.or_assoc]
  rfl

@[simp] theorem strIn_delim (c : Char) : Py.Text.strIn (String.singleton c) " \t\n();|" = isDelim c := by
  simp [Py.Text.strIn, Py.Text.isInfixL, List.isPrefixOf, isDelim, isSpace, Bool.or_assoc]
  rfl

/-- first loop of `_read_word`: skip blanks -/
theorem while1_loop (s : List Char) : ∀ (fuel : Nat) (ln col : Int) (tk ch : String), s.length + 1 ≤ fuel →
    ∃ ln' col', Py.whileF lexer_read_word.while1_cond lexer_read_word.while1_body fuel { self := mk s ln col, token := tk, ch := ch } =
      .next { self := mk (skipSpaces s) ln' col', token := tk, ch := ch } := by
  induction s with
  | nil =>
    intro fuel ln col tk ch hf
    obtain ⟨f, rfl⟩ := Nat.exists_eq_add_one.2 (Nat.zero_lt_of_lt hf)
    exact ⟨ln, col, Py.whileF_done _ _ _ _ (by simp [lexer_read_word.while1_cond, Py.Text.eq])⟩
  | cons c t ih =>
    intro fuel ln col tk ch hf
    obtain ⟨f, rfl⟩ := Nat.exists_eq_add_one.2 (Nat.zero_lt_of_lt hf)
    rw [skipSpaces]
    by_cases hc : isSpace c
    · obtain ⟨l1, c1, h1⟩ := read_char_mk c t ln col
      obtain ⟨l2, c2, h2⟩ := ih f l1 c1 tk ch (Nat.le_of_succ_le_succ hf)
      rw [if_pos hc]
      exact ⟨l2, c2, (Py.whileF_next _ _ _ _ _ (by simp [lexer_read_word.while1_cond, Py.Text.eq, hc])
        (by simp [lexer_read_word.while1_body, h1, Py.bind])).trans h2⟩
    · rw [if_neg hc]
      exact ⟨ln, col, Py.whileF_done _ _ _ _ (by simp [lexer_read_word.while1_cond, Py.Text.eq, hc])⟩

/-- second loop of `_read_word`: collect the characters up to the next delimiter -/
theorem while2_loop (s : List Char) : ∀ (fuel : Nat) (ln col : Int) (w : List Char) (ch : String), s.length + 1 ≤ fuel →
    ∃ ln' col', Py.whileF lexer_read_word.while2_cond lexer_read_word.while2_body fuel
        { self := mk s ln col, token := String.ofList w, ch := ch } =
      .next { self := mk (takeWord s).2 ln' col', token := String.ofList (w ++ (takeWord s).1), ch := ch } := by
  induction s with
  | nil =>
    intro fuel ln col w ch hf
    obtain ⟨f, rfl⟩ := Nat.exists_eq_add_one.2 (Nat.zero_lt_of_lt hf)
    rw [takeWord, List.append_nil]
    exact ⟨ln, col, Py.whileF_done _ _ _ _ (by simp [lexer_read_word.while2_cond, Py.Text.eq])⟩
  | cons c t ih =>
    intro fuel ln col w ch hf
    obtain ⟨f, rfl⟩ := Nat.exists_eq_add_one.2 (Nat.zero_lt_of_lt hf)
    rw [takeWord]
    by_cases hc : isDelim c
    · rw [if_pos hc, List.append_nil]
      exact ⟨ln, col, Py.whileF_done _ _ _ _ (by simp [lexer_read_word.while2_cond, Py.Text.eq, hc])⟩
    · obtain ⟨l1, c1, h1⟩ := read_char_mk c t ln col
      obtain ⟨l2, c2, h2⟩ := ih f l1 c1 (w ++ [c]) ch (Nat.le_of_succ_le_succ hf)
      rw [List.append_assoc] at h2
      rw [if_neg hc]
      exact ⟨l2, c2, (Py.whileF_next _ _ _ _ _ (by simp [lexer_read_word.while2_cond, Py.Text.eq, hc])
        (by simp [lexer_read_word.while2_body, Py.seq, h1, Py.bind, Py.Text.cat])).trans h2⟩

theorem skipSpaces_length (s : List Char) : (skipSpaces s).length ≤ s.length := by
  induction s with
  | nil => simp [skipSpaces]
  | cons c t ih => by_cases hc : isSpace c <;> simp [skipSpaces, hc]; omega

theorem takeWord_length (s : List Char) : (takeWord s).1.length + (takeWord s).2.length = s.length := by
  induction s with
  | nil => simp [takeWord]
  | cons c t ih => by_cases hc : isDelim c <;> simp [takeWord, hc]; omega

theorem takeLine_length (s : List Char) : (takeLine s).2.length ≤ s.length := by
  induction s with
  | nil => simp [takeLine]
  | cons c t ih => by_cases hc : c = '\n' <;> simp [takeLine, hc]; omega

/-- what `_read_word` returns on the characters `s`: (the word, the characters left) -/
def wordOf (s : List Char) : List Char × List Char :=
  let wr := takeWord (skipSpaces s)
  if !wr.1.isEmpty then wr else
    match wr.2 with
    | [] => ([], [])
    | c :: t => ([c], t)

/-- `_read_word` as translated -/
theorem read_word_mk (s : List Char) (fuel : Nat) (ln col : Int) (hf : s.length + 1 ≤ fuel) :
    ∃ ln' col', lexer_read_word fuel (mk s ln col) = some (mk (wordOf s).2 ln' col', String.ofList (wordOf s).1) := by
  obtain ⟨l1, c1, h1⟩ := while1_loop s fuel ln col "" "" hf
  obtain ⟨l2, c2, h2⟩ := while2_loop (skipSpaces s) fuel l1 c1 [] "" (Nat.le_trans (Nat.succ_le_succ (skipSpaces_length s)) hf)
  rw [List.nil_append] at h2
  unfold wordOf
  show ∃ ln' col', (Py.finish default (lexer_read_word.body fuel ⟨mk s ln col, "", ""⟩)).map _ = _
  simp only [lexer_read_word.body, Py.seq, h1]
  rw [show ("" : String) = String.ofList [] from rfl, h2]
  rcases takeWord (skipSpaces s) with ⟨_ | ⟨a, w⟩, r⟩
  · rcases r with _ | ⟨c, t⟩
    · exact ⟨l2, c2, by simp [Py.finish, Py.Text.eq, Py.skip]⟩
    · obtain ⟨l3, c3, h3⟩ := read_char_mk c t l2 c2
      exact ⟨l3, c3, by simp [Py.finish, Py.Text.eq, Py.skip, h3, Py.bind]⟩
  · exact ⟨l2, c2, by simp [Py.finish, Py.Text.eq]⟩

theorem endswith_nl (a : String) : Py.Text.endswith a "\n" = decide (a.toList.getLast? = some '\n') := by
  simp only [Py.Text.endswith, tl_nl, List.reverse_singleton, ← List.head?_reverse]
  cases a.toList.reverse <;> simp [List.isPrefixOf, Bool.beq_eq_decide_eq, eq_comm]

theorem dropEnd_one (a : String) : Py.Text.dropEnd a 1 = String.ofList a.toList.dropLast := by
  simp [Py.Text.dropEnd, List.dropLast_eq_take]

/-- `line = next_char + readline(); if line.endswith("\n"): line = line[:-1]` on character lists -/
def lineOf (l : List Char) : List Char := if l.getLast? = some '\n' then l.dropLast else l

theorem readline_takeLine (t : List Char) : ∀ c : Char, c ≠ '\n' →
    lineOf (c :: (Py.Text.readlineL t).1) = c :: (takeLine t).1 ∧ (Py.Text.readlineL t).2 = (takeLine t).2 := by
  induction t with
  | nil => intro c hc; simp [Py.Text.readlineL, takeLine, lineOf, hc]
  | cons d t ih =>
    intro c hc
    by_cases hd : d = '\n'
    · simp [Py.Text.readlineL, takeLine, lineOf, hd]
    · obtain ⟨h1, h2⟩ := ih d hd
      simp only [Py.Text.readlineL, takeLine, hd, if_false]
      refine ⟨?_, h2⟩
      rw [← h1]
      simp only [lineOf, List.getLast?_cons_cons]
      split <;> simp

theorem read1L_eq (l : List Char) : Py.Text.read1L l = (l.take 1, l.tail) := by cases l <;> rfl

/-- `_read_line` as translated: the rest of the line without its newline, the stream continues after the newline -/
theorem read_line_mk (s : List Char) (ln col : Int) :
    ∃ ln' col', lexer_read_line (mk s ln col) = some (mk (takeLine s).2 ln' col', String.ofList (takeLine s).1) := by
  refine ⟨ln + 1, 1, ?_⟩
  rcases s with _ | ⟨c, t⟩
  · simp [lexer_read_line, lexer_read_line.body, Py.seq, Py.finish, mk, Py.Text.eq, Py.Text.readline, Py.Text.readlineL, Py.Text.cat,
      Py.Text.read1, read1L_eq, takeLine, Py.skip, endswith_nl]
  by_cases hc : c = '\n'
  · simp [lexer_read_line, lexer_read_line.body, Py.seq, Py.finish, mk, Py.Text.eq, Py.Text.read1, read1L_eq, takeLine, hc]
  · obtain ⟨h1, h2⟩ := readline_takeLine t c hc
    rw [lineOf] at h1
    simp [lexer_read_line, lexer_read_line.body, Py.seq, Py.finish, mk, Py.Text.eq, Py.Text.readline, Py.Text.cat,
      Py.Text.read1, read1L_eq, takeLine, Py.skip, endswith_nl, dropEnd_one, hc, h2]
    split at h1 <;> rename_i hg
    · simp [hg, h1]
    · rw [if_neg hg]
      simp [List.tail_eq_of_cons_eq h1]

/-! ### `__next__` -/

/-- one `__next__` call on the characters `s`, on the model's data: the token and the characters left (`none` = StopIteration) -/
def stepOf (s : List Char) : Option (Tok × List Char) :=
  let w := (wordOf s).1
  let rest := (wordOf s).2
  if w = [] then none
  else if w = ['('] then some (.lp, rest)
  else if w = [')'] then some (.rp, rest)
  else if w = [';'] then some (.comment (takeLine rest).1, (takeLine rest).2)
  else if w = ['|'] then some (.bar, rest)
  else some (classify w, rest)

def stopIteration : Py.Exc := ⟨"StopIteration", "", []⟩

variable (encF : SwcText.Sci → Int)

/-- the token record `_token` builds for a model token -/
def tokAt (tk : Tok) (l c : Int) : LexToken :=
  ⟨(RefineAscParse.enc encF tk).type, (RefineAscParse.enc encF tk).value, l, c⟩

theorem classify_cases (w : List Char) :
    (looksFloat w = false ∧ classify w = .literal w) ∨
    (looksFloat w = true ∧ ∃ v, SwcText.floatPrefix w = some (v, []) ∧ classify w = .float v) ∨
    (looksFloat w = true ∧ classify w = .bad ∧ AlgoRun.ascParseNumber encF (String.ofList w) = none) := by
  unfold classify AlgoRun.ascParseNumber
  rw [String.toList_ofList]
  cases looksFloat w
  · simp
  · rcases SwcText.floatPrefix w with _ | ⟨v, _ | ⟨a, b⟩⟩ <;> simp

/-- **`__next__` as translated**, for every remaining text `s` and every fuel `g ≥ |s| + 1` of the loops of `_read_word`: StopIteration
exactly when the model has no further token, an (untracked) exception exactly when the model's token is `.bad`, and otherwise the
model's token (type and value; some line / column) with the model's remaining characters -/
theorem next_mk (s : List Char) (g : Nat) (ln col : Int) (hg : s.length + 1 ≤ g) :
    ∃ ln' col' l c, lexer_next AlgoRun.ascIsNumber (AlgoRun.ascParseNumber encF) g (mk s ln col) =
      match stepOf s with
      | none => some (mk (wordOf s).2 ln' col', .error stopIteration)
      | some (tk, s') => if tk = .bad then none else some (mk s' ln' col', .ok (tokAt encF tk l c)) := by
  obtain ⟨l1, c1, h1⟩ := read_word_mk s g ln col hg
  obtain ⟨l2, c2, h2⟩ := read_line_mk (wordOf s).2 l1 c1
  unfold stepOf
  show ∃ ln' col' l c, (Py.finishX default (lexer_next.body _ _ g ⟨mk s ln col, ""⟩)).map _ = _
  simp only [lexer_next.body, Py.seq, h1, Py.bind]
  generalize (wordOf s).1 = w at *
  generalize (wordOf s).2 = r at *
  by_cases hsc : w = [';']
  · subst hsc
    exact ⟨l2, c2, l2, c2, by simp [h2, Py.Text.eq, Py.finishX, lexer_token, lexer_token.body, Py.finish, tokAt, RefineAscParse.enc]⟩
  refine ⟨l1, c1, l1, c1, ?_⟩
  by_cases hw : w = [] ∨ w = ['('] ∨ w = [')'] ∨ w = ['|']
  · rcases hw with rfl | rfl | rfl | rfl <;>
      simp [Py.Text.eq, Py.raise, stopIteration, Py.finishX, lexer_token, lexer_token.body, Py.finish, tokAt, RefineAscParse.enc]
  simp only [not_or] at hw
  rcases classify_cases encF w with ⟨hl, hcl⟩ | ⟨hl, v, hv, hcl⟩ | ⟨hl, hcl, hp⟩
  · simp [hw, hsc, hl, hcl, Py.Text.eq, Py.finishX, lexer_token, lexer_token.body, Py.finish, tokAt, RefineAscParse.enc, AlgoRun.ascIsNumber]
  · simp [hw, hsc, hl, hcl, hv, Py.Text.eq, Py.finishX, lexer_token, lexer_token.body, Py.finish, tokAt, RefineAscParse.enc,
      AlgoRun.ascIsNumber, AlgoRun.ascParseNumber]
  · simp [hw, hsc, hl, hcl, hp, Py.Text.eq, Py.finishX, AlgoRun.ascIsNumber]

/-! ### the model's `lex` is the iteration of `stepOf` -/

theorem takeWord_cases (s : List Char) :
    (∃ c w, (takeWord s).1 = c :: w ∧ isDelim c = false) ∨
    ((takeWord s).1 = [] ∧ (takeWord s).2 = s ∧ ∀ c t, s = c :: t → isDelim c = true) := by
  rcases s with _ | ⟨d, t⟩
  · exact .inr ⟨rfl, rfl, nofun⟩
  · by_cases hd : isDelim d
    · exact .inr (by simp [takeWord, hd])
    · exact .inl ⟨d, (takeWord t).1, by simp [takeWord, hd], by simpa using hd⟩

theorem skipSpaces_head (s : List Char) : ∀ c t, skipSpaces s = c :: t → isSpace c = false := by
  induction s with
  | nil => intro c t h; simp [skipSpaces] at h
  | cons d u ih =>
    intro c t h
    by_cases hd : isSpace d
    · simp [skipSpaces, hd] at h; exact ih c t h
    · simp [skipSpaces, hd] at h
      rw [← h.1]; simpa using hd

theorem lex_succ (f : Nat) (s : List Char) :
    lex (f + 1) s = match stepOf s with
      | none => []
      | some (tk, s') => tk :: lex f s' := by
  rw [lex.eq_2]
  unfold stepOf wordOf
  rcases takeWord_cases (skipSpaces s) with ⟨c, w, hw, hd⟩ | ⟨hw, hr, hdel⟩
  · simp [isDelim] at hd
    simp [hw, hd]
  · cases hs : skipSpaces s with
    | nil => simp [takeWord]
    | cons c t =>
      have hsp := skipSpaces_head s c t hs
      have hdl := hdel c t hs
      rw [hs] at hr hw
      simp only [hr, hw]
      simp only [isDelim, hsp, Bool.false_or, Bool.or_eq_true, decide_eq_true_eq] at hdl
      rcases hdl with ((rfl | rfl) | rfl) | rfl <;> simp

theorem wordOf_length (s : List Char) : (wordOf s).1 ≠ [] → (wordOf s).2.length < s.length := by
  unfold wordOf
  have h1 := skipSpaces_length s
  have h2 := takeWord_length (skipSpaces s)
  revert h2
  rcases takeWord (skipSpaces s) with ⟨_ | ⟨a, w⟩, r⟩
  · rcases r with _ | ⟨c, t⟩ <;> simp
    omega
  · simp
    omega

theorem stepOf_length (s : List Char) (tk : Tok) (s' : List Char) (h : stepOf s = some (tk, s')) : s'.length < s.length := by
  by_cases h0 : (wordOf s).1 = []
  · simp [stepOf, h0] at h
  have hl := wordOf_length s h0
  by_cases h3 : (wordOf s).1 = [';']
  · simp [stepOf, h3] at h
    exact h.2 ▸ Nat.lt_of_le_of_lt (takeLine_length _) hl
  · -- every other branch leaves the characters after the word
    have h' := congrArg (Option.map Prod.snd) h
    simp only [stepOf, if_neg h0, if_neg h3, apply_ite (Option.map Prod.snd), Option.map_some, ite_self, Option.some.injEq] at h'
    exact h' ▸ hl

/-! ### the iteration: all tokens -/

/-- the model's tokens up to the first lexer failure (`.bad`), and whether the stream ended without one -/
def goodPrefix : List Tok → List Tok × Bool
  | [] => ([], true)
  | t :: ts => if t = .bad then ([], false) else (t :: (goodPrefix ts).1, (goodPrefix ts).2)

theorem goodPrefix_noBad (toks : List Tok) (h : RefineAscParse.NoBad toks) : goodPrefix toks = (toks, true) := by
  induction toks with
  | nil => rfl
  | cons t ts ih =>
    have ht : t ≠ .bad := h t (by simp)
    simp [goodPrefix, ht, ih h.tail]

theorem goodPrefix_snd (toks : List Tok) : (goodPrefix toks).2 = false ↔ Tok.bad ∈ toks := by
  induction toks with
  | nil => simp [goodPrefix]
  | cons t ts ih =>
    by_cases ht : t = .bad
    · simp [goodPrefix, ht]
    · simp [goodPrefix, ht, ih, Ne.symm ht]

theorem toToken_tokAt (tk : Tok) (l c : Int) : AlgoRun.LexToken.toToken (tokAt encF tk l c) = RefineAscParse.enc encF tk := rfl

/-- the iteration protocol on `__next__` as translated yields exactly the model's tokens up to the first `.bad` -/
theorem lex_loop (g : Nat) : ∀ (f : Nat) (s : List Char) (ln col : Int), s.length + 1 ≤ f → s.length + 1 ≤ g →
    (AlgoRun.ascLexLoop AlgoRun.ascIsNumber (AlgoRun.ascParseNumber encF) g f (mk s ln col)).1.map AlgoRun.LexToken.toToken =
      (goodPrefix (lex f s)).1.map (RefineAscParse.enc encF) ∧
    (AlgoRun.ascLexLoop AlgoRun.ascIsNumber (AlgoRun.ascParseNumber encF) g f (mk s ln col)).2 = (goodPrefix (lex f s)).2 := by
  intro f
  induction f with
  | zero => intro s ln col hf; omega
  | succ f ih =>
    intro s ln col hf hg
    obtain ⟨l1, c1, l, c, hn⟩ := next_mk encF s g ln col hg
    rw [AlgoRun.ascLexLoop, hn, lex_succ]
    cases hs : stepOf s with
    | none => simp [goodPrefix, stopIteration]
    | some p =>
      obtain ⟨tk, s'⟩ := p
      have hlen := stepOf_length s tk s' hs
      by_cases hb : tk = .bad
      · simp [hb, goodPrefix]
      · obtain ⟨i1, i2⟩ := ih s' l1 c1 (by omega) (by omega)
        simp [hb, goodPrefix, i1, i2, toToken_tokAt]

/-- `Lexer(io.StringIO(text))` as translated -/
theorem init_mk (s : List Char) : AlgoRun.ascLexer s = some (mk s 1 1) := by
  cases s <;> simp [AlgoRun.ascLexer, lexer_init, lexer_init.body, Py.seq, Py.finish, mk, Py.Text.read1, Py.Text.read1L]

theorem lexAll_eq (s : List Char) :
    (AlgoRun.ascLexAll encF s).1.map AlgoRun.LexToken.toToken = (goodPrefix (tokens s)).1.map (RefineAscParse.enc encF) ∧
    (AlgoRun.ascLexAll encF s).2 = (goodPrefix (tokens s)).2 := by
  unfold AlgoRun.ascLexAll tokens
  rw [init_mk]
  exact lex_loop encF (s.length + 1) (s.length + 1) s 1 1 (by omega) (by omega)

end RefineAscLex
