import SwcVerif.Gen.AlgoBranches
import SwcVerif.Refine.Closures
import SwcVerif.Refine.PyRun
import SwcVerif.Model.Branches
/-! Refinement for C08: the closures of `Tree.get_branches`, `get_furcations`, `get_paths` (`swcgeom/core/tree.py`), translated from
the source on every run, compute what the callback models of `Model/Branches.lean` compute; with the translated traversal the
translated `get_branches` / `get_furcations` are exactly the structural recursions the C08 theorems speak about. -/
namespace RefineBranches
open Gen.Algo Branches Trav Py

/-- `len(l) > 1` on the two sides: an `Int` comparison in the code, a `Nat` one in the models -/
theorem len_gt_one {α : Type} (l : List α) : Py.len l > 1 ↔ l.length > 1 := by rw [len_eq]; omega

/-! ### `collect_branches` -/

theorem cb_loop : ∀ (pre : List BVal) (v : collect_branches.V),
    ∃ sb ch, forEach collect_branches.for1 pre v =
      .next { v with branches := v.branches ++ pre.flatMap (fun sc => (sc.1 ++ [(sc.2 ++ [v.node]).reverse]).reverse),
                     sub_branches := sb, child := ch } := by
  intro pre
  induction pre with
  | nil => intro v; exact ⟨v.sub_branches, v.child, by simp [forEach]⟩
  | cons p pre ih =>
    intro v
    obtain ⟨sb, ch, e⟩ := ih
      { v with sub_branches := (p.1 ++ [(p.2 ++ [v.node]).reverse]).reverse, child := (p.2 ++ [v.node]).reverse,
               branches := v.branches ++ (p.1 ++ [(p.2 ++ [v.node]).reverse]).reverse }
    refine ⟨sb, ch, ?_⟩
    simp only [forEach, collect_branches.for1, seq]
    rw [e]
    simp [List.flatMap_cons, List.append_assoc]

/-- the translated closure is the model callback (it never raises) -/
theorem collectBranches_refines (s : Unit) (i : Int) (pre : List BVal) :
    collect_branches s i pre = some ((), collectBranches i pre) := by
  match pre with
  | [] =>
    simp [collect_branches, collect_branches.body, seq, skip, forEach, Py.finish, collectBranches]
  | [p] =>
    obtain ⟨b, c⟩ := p
    simp [collect_branches, collect_branches.body, seq, Py.bind, Py.idx, Py.normIdx, Py.finish, collectBranches]
  | p :: q :: t =>
    obtain ⟨sb, ch, e⟩ := cb_loop (p :: q :: t)
      { (default : collect_branches.V) with node := i, pre := p :: q :: t, branches := [] }
    have hlen : ¬ ((((p :: q :: t).length : Nat) : Int) = 1) := by simp; omega
    simp only [collect_branches, collect_branches.body, seq, len_eq, hlen, decide_false, Bool.false_eq_true, if_false, skip]
    rw [e]
    simp [Py.finish, collectBranches]

/-- **`Tree.get_branches` as translated**: on every table that represents a tree whose root is node 0, the translated
method (translated closure + translated traversal + the stem fix-up) returns `finish` of the structural value -/
theorem getBranches_refines (ids pids : List Int) (r : Rose) (hR : Represents r ids pids) (h0 : r.id = 0) (F : Nat) :
    get_branches (2 * r.size + F + 1) ids pids = some (Branches.finish (spec bEnter bLeave r none ()).2) := by
  have hcall := RefineClosures.traverse_closures (S := Unit) (T := Unit) (K := BVal) noEnter collect_branches bEnter bLeave
    (fun s n pv => by cases s; rfl) (fun s n ks => by cases s; rw [collectBranches_refines]; rfl) ids pids r hR () F
  rw [h0] at hcall
  simp only [get_branches, get_branches.body, seq, Py.bind, hcall, Branches.finish, len_gt_one]
  by_cases hl : (spec bEnter bLeave r none ()).2.2.length > 1 <;> simp [hl, Py.finish, skip]

/-! ### `collect_furcations` -/

theorem collectFurcations_refines (acc : List Int) (n : Int) (ch : List Unit) :
    collect_furcations acc n ch = some (fLeave acc n ch) := by
  simp only [collect_furcations, collect_furcations.body, fLeave, len_gt_one]
  by_cases h : ch.length > 1 <;> simp [h, Py.finish, skip]

/-- **`Tree.get_furcations` as translated** returns the ids collected by the structural recursion -/
theorem getFurcations_refines (ids pids : List Int) (r : Rose) (hR : Represents r ids pids) (h0 : r.id = 0) (F : Nat) :
    get_furcations (2 * r.size + F + 1) ids pids = some (spec fEnter fLeave r none []).1 := by
  have hcall := RefineClosures.traverse_closures (S := List Int) (T := Unit) (K := Unit) noEnter collect_furcations fEnter fLeave
    (fun s n pv => rfl) (fun s n ks => collectFurcations_refines s n ks) ids pids r hR [] F
  rw [h0] at hcall
  obtain ⟨v', e1, _, e3⟩ := Py.forEach_collect get_furcations.for1 (·.c1_) id (fun _ => True) (spec fEnter fLeave r none []).1
    (fun x _ v _ => ⟨_, rfl, trivial, rfl⟩)
    { (default : get_furcations.V) with ids := ids, pids := pids, furcations := (spec fEnter fLeave r none []).1, c1_ := [] } trivial
  simp only [get_furcations, get_furcations.body, seq, Py.bind, hcall, bindS]
  rw [e1]
  simp [Py.finish, e3]

/-! ### the closures of `get_paths` -/

/-- `assign_path` never raises: it stores the extended copy of the parent's path under the node and returns it -/
theorem assignPath_refines (d : Dict Int (List Int)) (n : Int) (pre : Option (List Int)) :
    assign_path d n pre = some (Dict.set d n (pre.getD [] ++ [n]), pre.getD [] ++ [n]) := by
  simp [assign_path, assign_path.body, seq, Py.finish]

/-- `collect_path`: the stored path at a tip (KeyError if the node was never entered), the children's lists chained otherwise -/
theorem collectPath_refines (d : Dict Int (List Int)) (n : Int) (ch : List (List (List Int))) :
    collect_path d n ch = match ch with
      | [] => (Dict.get? d n).map (fun p => (d, [p]))
      | _ :: _ => some (d, ch.flatten) := by
  cases ch with
  | nil =>
    cases h : Dict.get? d n <;> simp [collect_path, collect_path.body, seq, Py.bind, Py.finish, h]
  | cons c cs =>
    have : ¬ ((((c :: cs).length : Nat) : Int) = 0) := by simp; omega
    simp only [collect_path, collect_path.body, seq, len_eq, this, decide_false, Bool.false_eq_true, if_false, skip, Py.finish, Option.map]

end RefineBranches
