import SwcVerif.Refine.Traverse
/-! Closures handed to the translated `_traverse_dfs` (`Py.wrapE` / `Py.wrapL`): when the translated closures never raise and
compute what total state-passing callbacks `ge`, `gl` compute, the traversal with the wrapped closures computes `Trav.spec ge gl`,
and the translated call `unwrapCb (traverse_dfs (wrapE fe) (wrapL fl) …)` returns exactly that. -/
namespace RefineClosures
open Gen.Algo Trav Py

variable {S T K : Type} [Inhabited T] [Inhabited K]

/-! ### change of state representation: callbacks over `S` and over `S'` that commute with `abs`, under a state invariant `P` and a node
predicate `ok`, compute related results -/

mutual
theorem spec_abs {S' : Type} (abs : S → S') (P : S → Prop) (ok : Int → Prop)
    (ge : S → Int → Option T → S × T) (gl : S → Int → List K → S × K)
    (ge' : S' → Int → Option T → S' × T) (gl' : S' → Int → List K → S' × K)
    (he : ∀ s n pv, P s → ok n → ge' (abs s) n pv = (abs (ge s n pv).1, (ge s n pv).2) ∧ P (ge s n pv).1)
    (hl : ∀ s n ks, P s → ok n → gl' (abs s) n ks = (abs (gl s n ks).1, (gl s n ks).2) ∧ P (gl s n ks).1) :
    ∀ (r : Rose) (pv : Option T) (s : S), P s → (∀ j ∈ r.ids, ok j) →
      spec ge' gl' r pv (abs s) = (abs (spec ge gl r pv s).1, (spec ge gl r pv s).2) ∧ P (spec ge gl r pv s).1
  | .node i ks, pv, s, hP, hok => by
    have hi : ok i := hok i List.mem_cons_self
    obtain ⟨e1, p1⟩ := he s i pv hP hi
    obtain ⟨e2, p2⟩ := specRev_abs abs P ok ge gl ge' gl' he hl ks (ge s i pv).2 (ge s i pv).1 p1
      (fun j hj => hok j (List.mem_cons_of_mem _ hj))
    obtain ⟨e3, p3⟩ := hl (specRev ge gl ks (ge s i pv).2 (ge s i pv).1).1 i (specRev ge gl ks (ge s i pv).2 (ge s i pv).1).2 p2 hi
    exact ⟨by simp only [spec, e1]; rw [e2, e3], p3⟩
theorem specRev_abs {S' : Type} (abs : S → S') (P : S → Prop) (ok : Int → Prop)
    (ge : S → Int → Option T → S × T) (gl : S → Int → List K → S × K)
    (ge' : S' → Int → Option T → S' × T) (gl' : S' → Int → List K → S' × K)
    (he : ∀ s n pv, P s → ok n → ge' (abs s) n pv = (abs (ge s n pv).1, (ge s n pv).2) ∧ P (ge s n pv).1)
    (hl : ∀ s n ks, P s → ok n → gl' (abs s) n ks = (abs (gl s n ks).1, (gl s n ks).2) ∧ P (gl s n ks).1) :
    ∀ (ks : List Rose) (cur : T) (s : S), P s → (∀ j ∈ idsL ks, ok j) →
      specRev ge' gl' ks cur (abs s) = (abs (specRev ge gl ks cur s).1, (specRev ge gl ks cur s).2) ∧ P (specRev ge gl ks cur s).1
  | [], _, s, hP, _ => ⟨rfl, hP⟩
  | r :: rs, cur, s, hP, hok => by
    obtain ⟨e1, p1⟩ := specRev_abs abs P ok ge gl ge' gl' he hl rs cur s hP (fun j hj => hok j (List.mem_append_right _ hj))
    obtain ⟨e2, p2⟩ := spec_abs abs P ok ge gl ge' gl' he hl r (some cur) (specRev ge gl rs cur s).1 p1
      (fun j hj => hok j (List.mem_append_left _ hj))
    exact ⟨by simp only [specRev]; rw [e1, e2], p2⟩
end

theorem spec_fst {C : Type}
    (ge : S × C → Int → Option T → (S × C) × T) (gl : S × C → Int → List K → (S × C) × K)
    (ge' : S → Int → Option T → S × T) (gl' : S → Int → List K → S × K)
    (he : ∀ s c n pv, ge (s, c) n pv = (((ge' s n pv).1, c), (ge' s n pv).2))
    (hl : ∀ s c n ks, gl (s, c) n ks = (((gl' s n ks).1, c), (gl' s n ks).2)) (r : Rose) (pv : Option T) (s : S) (c : C) :
    spec ge gl r pv (s, c) = (((spec ge' gl' r pv s).1, c), (spec ge' gl' r pv s).2) := by
  obtain ⟨e, p⟩ := spec_abs Prod.fst (fun st => st.2 = c) (fun _ => True) ge gl ge' gl'
    (fun st n pv hp _ => by rw [show st = (st.1, c) from Prod.ext rfl hp, he]; exact ⟨rfl, rfl⟩)
    (fun st n ks hp _ => by rw [show st = (st.1, c) from Prod.ext rfl hp, hl]; exact ⟨rfl, rfl⟩) r pv (s, c) rfl fun _ _ => trivial
  rw [e]
  exact Prod.ext (Prod.ext rfl p) rfl

/-! ### closures that may raise outside the tree: `wrapE` / `wrapL` of closures that succeed on the states satisfying `P` and the nodes
satisfying `ok` are the total callbacks seen through `abs := some` -/

section wrap_on
variable (P : S → Prop) (ok : Int → Prop)
  (fe : S → Int → Option T → Option (S × T)) (fl : S → Int → List K → Option (S × K))
  (ge : S → Int → Option T → S × T) (gl : S → Int → List K → S × K)

theorem wrapE_on (he : ∀ s n pv, P s → ok n → fe s n pv = some (ge s n pv) ∧ P (ge s n pv).1) (s : S) (n : Int) (pv : Option T)
    (hP : P s) (hn : ok n) : wrapE fe (some s) n pv = (some (ge s n pv).1, (ge s n pv).2) ∧ P (ge s n pv).1 :=
  ⟨by simp only [wrapE, (he s n pv hP hn).1], (he s n pv hP hn).2⟩

theorem wrapL_on (hl : ∀ s n ks, P s → ok n → fl s n ks = some (gl s n ks) ∧ P (gl s n ks).1) (s : S) (n : Int) (ks : List K)
    (hP : P s) (hn : ok n) : wrapL fl (some s) n ks = (some (gl s n ks).1, (gl s n ks).2) ∧ P (gl s n ks).1 :=
  ⟨by simp only [wrapL, (hl s n ks hP hn).1], (hl s n ks hP hn).2⟩
end wrap_on

theorem spec_wrap_on (P : S → Prop) (ok : Int → Prop)
    (fe : S → Int → Option T → Option (S × T)) (fl : S → Int → List K → Option (S × K))
    (ge : S → Int → Option T → S × T) (gl : S → Int → List K → S × K)
    (he : ∀ s n pv, P s → ok n → fe s n pv = some (ge s n pv) ∧ P (ge s n pv).1)
    (hl : ∀ s n ks, P s → ok n → fl s n ks = some (gl s n ks) ∧ P (gl s n ks).1) :
    ∀ (r : Rose) (pv : Option T) (s : S), P s → (∀ j ∈ r.ids, ok j) →
      spec (wrapE fe) (wrapL fl) r pv (some s) = (some (spec ge gl r pv s).1, (spec ge gl r pv s).2) ∧ P (spec ge gl r pv s).1 :=
  spec_abs some P ok ge gl (wrapE fe) (wrapL fl) (wrapE_on P ok fe ge he) (wrapL_on P ok fl gl hl)

theorem specRev_wrap_on (P : S → Prop) (ok : Int → Prop)
    (fe : S → Int → Option T → Option (S × T)) (fl : S → Int → List K → Option (S × K))
    (ge : S → Int → Option T → S × T) (gl : S → Int → List K → S × K)
    (he : ∀ s n pv, P s → ok n → fe s n pv = some (ge s n pv) ∧ P (ge s n pv).1)
    (hl : ∀ s n ks, P s → ok n → fl s n ks = some (gl s n ks) ∧ P (gl s n ks).1) :
    ∀ (ks : List Rose) (cur : T) (s : S), P s → (∀ j ∈ idsL ks, ok j) →
      specRev (wrapE fe) (wrapL fl) ks cur (some s) = (some (specRev ge gl ks cur s).1, (specRev ge gl ks cur s).2) ∧
      P (specRev ge gl ks cur s).1 :=
  specRev_abs some P ok ge gl (wrapE fe) (wrapL fl) (wrapE_on P ok fe ge he) (wrapL_on P ok fl gl hl)

theorem traverse_closures_on [Inhabited S] (P : S → Prop) (ok : Int → Prop)
    (fe : S → Int → Option T → Option (S × T)) (fl : S → Int → List K → Option (S × K))
    (ge : S → Int → Option T → S × T) (gl : S → Int → List K → S × K)
    (he : ∀ s n pv, P s → ok n → fe s n pv = some (ge s n pv) ∧ P (ge s n pv).1)
    (hl : ∀ s n ks, P s → ok n → fl s n ks = some (gl s n ks) ∧ P (gl s n ks).1)
    (ids pids : List Int) (r : Rose) (hR : Represents r ids pids) (s : S) (hP : P s) (hok : ∀ j ∈ r.ids, ok j) (F : Nat) :
    unwrapCb (traverse_dfs (wrapE fe) (wrapL fl) (2 * r.size + F + 1) (ids, pids) r.id (some s)) = some (spec ge gl r none s) := by
  rw [RefineTrav.traverse_refines (wrapE fe) (wrapL fl) ids pids r hR (some s) F,
    (spec_wrap_on P ok fe fl ge gl he hl r none s hP hok).1]
  rfl

theorem traverse_closures_abs [Inhabited S] {S' : Type} (abs : S → S') (P : S → Prop) (ok : Int → Prop)
    (fe : S → Int → Option T → Option (S × T)) (fl : S → Int → List K → Option (S × K))
    (ge : S → Int → Option T → S × T) (gl : S → Int → List K → S × K)
    (ge' : S' → Int → Option T → S' × T) (gl' : S' → Int → List K → S' × K)
    (he : ∀ s n pv, P s → ok n →
      fe s n pv = some (ge s n pv) ∧ ge' (abs s) n pv = (abs (ge s n pv).1, (ge s n pv).2) ∧ P (ge s n pv).1)
    (hl : ∀ s n ks, P s → ok n →
      fl s n ks = some (gl s n ks) ∧ gl' (abs s) n ks = (abs (gl s n ks).1, (gl s n ks).2) ∧ P (gl s n ks).1)
    (ids pids : List Int) (r : Rose) (hR : Represents r ids pids) (s : S) (hP : P s) (hok : ∀ j ∈ r.ids, ok j) (F : Nat) :
    unwrapCb (traverse_dfs (wrapE fe) (wrapL fl) (2 * r.size + F + 1) (ids, pids) r.id (some s)) = some (spec ge gl r none s) ∧
    spec ge' gl' r none (abs s) = (abs (spec ge gl r none s).1, (spec ge gl r none s).2) ∧ P (spec ge gl r none s).1 :=
  ⟨traverse_closures_on P ok fe fl ge gl (fun s n pv hp hn => ⟨(he s n pv hp hn).1, (he s n pv hp hn).2.2⟩)
      (fun s n ks hp hn => ⟨(hl s n ks hp hn).1, (hl s n ks hp hn).2.2⟩) ids pids r hR s hP hok F,
    spec_abs abs P ok ge gl ge' gl' (fun s n pv hp hn => (he s n pv hp hn).2) (fun s n ks hp hn => (hl s n ks hp hn).2) r none s hP hok⟩

theorem spec_wrap (fe : S → Int → Option T → Option (S × T)) (fl : S → Int → List K → Option (S × K))
    (ge : S → Int → Option T → S × T) (gl : S → Int → List K → S × K)
    (he : ∀ s n pv, fe s n pv = some (ge s n pv)) (hl : ∀ s n ks, fl s n ks = some (gl s n ks)) :
    ∀ (r : Rose) (pv : Option T) (s : S),
      spec (wrapE fe) (wrapL fl) r pv (some s) = (some (spec ge gl r pv s).1, (spec ge gl r pv s).2) :=
  fun r pv s => (spec_wrap_on (fun _ => True) (fun _ => True) fe fl ge gl (fun s n pv _ _ => ⟨he s n pv, trivial⟩)
    (fun s n ks _ _ => ⟨hl s n ks, trivial⟩) r pv s trivial (fun _ _ => trivial)).1

theorem specRev_wrap (fe : S → Int → Option T → Option (S × T)) (fl : S → Int → List K → Option (S × K))
    (ge : S → Int → Option T → S × T) (gl : S → Int → List K → S × K)
    (he : ∀ s n pv, fe s n pv = some (ge s n pv)) (hl : ∀ s n ks, fl s n ks = some (gl s n ks)) :
    ∀ (ks : List Rose) (cur : T) (s : S),
      specRev (wrapE fe) (wrapL fl) ks cur (some s) = (some (specRev ge gl ks cur s).1, (specRev ge gl ks cur s).2) :=
  fun ks cur s => (specRev_wrap_on (fun _ => True) (fun _ => True) fe fl ge gl (fun s n pv _ _ => ⟨he s n pv, trivial⟩)
    (fun s n ks _ _ => ⟨hl s n ks, trivial⟩) ks cur s trivial (fun _ _ => trivial)).1

/-- the translated `traverse(…, enter=F, leave=G)` call with closures that never raise -/
theorem traverse_closures [Inhabited S] (fe : S → Int → Option T → Option (S × T)) (fl : S → Int → List K → Option (S × K))
    (ge : S → Int → Option T → S × T) (gl : S → Int → List K → S × K)
    (he : ∀ s n pv, fe s n pv = some (ge s n pv)) (hl : ∀ s n ks, fl s n ks = some (gl s n ks))
    (ids pids : List Int) (r : Rose) (hR : Represents r ids pids) (s : S) (F : Nat) :
    unwrapCb (traverse_dfs (wrapE fe) (wrapL fl) (2 * r.size + F + 1) (ids, pids) r.id (some s)) = some (spec ge gl r none s) := by
  rw [RefineTrav.traverse_refines (wrapE fe) (wrapL fl) ids pids r hR (some s) F, spec_wrap fe fl ge gl he hl r none s]
  rfl

end RefineClosures
