import SwcVerif.Props.C16
import SwcVerif.Refine.Resample
/-! # C16 — the branch resamplers and the smoother, tied to the source by the translator

`Gen.Algo.lin_resample`, `Gen.Algo.iso_resample`, `Gen.Algo.conv_smooth` are regenerated on every run from
`swcgeom/transforms/branch.py` (`BranchLinearResampler.resample`, `BranchIsometricResampler.resample`, `BranchConvSmoother.__call__`): the
cumulative arc length (`np.cumsum`, `np.insert` / `np.concatenate`), `xp[-1]`, `int(np.ceil(L / d)) + 1`, `np.linspace` / `np.arange`,
`np.interp` per column, `np.stack(axis=1)` / `.T` / column stores, `signal.convolve(mode="same")`, `(s / c)[1:-1]` written into `[1:-1]`.
The numpy / scipy functions have their meaning in `Model/PyResample.lean`; `Refine/Resample.lean` proves that at `K = ℚ` the generated
definitions equal the hand-written models of `Model/Resample.lean` (given the segment lengths — the one piece of geometry that enters
as data), so the theorems of `Props/C16.lean` speak of what THE SOURCE computes; three of them are restated below for the generated
functions (`generated_iso_step_le`, `generated_smooth_endpoints_count`, `generated_lin_last`). -/
namespace C16
open Resample Gen.Algo RefineResample

/-- **generated = model (linear resampler)**: every `(N, 4)` array (rows of length 4), segment lengths `≥ 0` (one per consecutive pair of
rows, so `N ≥ 1`), every point count `n` -/
theorem generated_lin_eq_model (rows : List (List Rat)) (lens : List Rat) (n : Nat)
    (hrow : ∀ r ∈ rows, r.length = 4) (hlen : lens.length + 1 = rows.length) (hpos : ∀ l ∈ lens, 0 ≤ l) :
    lin_resample Py.ratFld rows lens (n : Int) = some (rowsOf (linearResample lens (colsOf rows) n) n) :=
  linResample_refines rows lens n hrow hlen hpos

/-- **generated = model (isometric resampler)**: every spacing `d > 0`, both gap modes -/
theorem generated_iso_eq_model (rows : List (List Rat)) (lens : List Rat) (d : Rat) (adj : Bool)
    (hrow : ∀ r ∈ rows, r.length = 4) (hlen : lens.length + 1 = rows.length) (hpos : ∀ l ∈ lens, 0 ≤ l) (hd : 0 < d) :
    iso_resample Py.ratFld rows lens d adj =
      some (rowsOf (isoResample lens (colsOf rows) d adj) (isoCount ((cumdist lens).getLastD 0) d)) :=
  isoResample_refines rows lens d adj hrow hlen hpos hd

/-- **generated = model (smoother)**: every branch of `n ≥ 2` nodes (the dictionary of its columns), every window `np.ones(k)`, `k ≥ 1` -/
theorem generated_smooth_eq_model (nd : Py.Dict String (List Rat)) (xs ys zs : List Rat) (n k : Nat) (hk : 1 ≤ k) (hn : 2 ≤ n)
    (hx : Py.Dict.get? nd "x" = some xs) (hy : Py.Dict.get? nd "y" = some ys) (hz : Py.Dict.get? nd "z" = some zs)
    (hxl : xs.length = n) (hyl : ys.length = n) (hzl : zs.length = n) :
    conv_smooth Py.ratFld nd (n : Int) (List.replicate k 1) =
      some (Py.Dict.set (Py.Dict.set (Py.Dict.set nd "x" (convSmooth xs k)) "y" (convSmooth ys k)) "z" (convSmooth zs k), ()) :=
  convSmooth_refines nd xs ys zs n k hk hn hx hy hz hxl hyl hzl

/-- **`iso_step_le` transported**: on a branch of positive length `L` the generated isometric resampler (default gap mode) returns
`N = ⌈L/d⌉ + 1 ≥ 2` rows whose columns are the original columns interpolated at `N` equally spaced arc lengths `i · L/(N-1)` (`linspace`),
and the step `L/(N-1)` is no longer than the spacing `d` -/
theorem generated_iso_step_le (rows : List (List Rat)) (lens : List Rat) (d : Rat)
    (hrow : ∀ r ∈ rows, r.length = 4) (hlen : lens.length + 1 = rows.length) (hpos : ∀ l ∈ lens, 0 ≤ l) (hd : 0 < d)
    (hL : 0 < (cumdist lens).getLastD 0) :
    let L := (cumdist lens).getLastD 0
    let N := isoCount L d
    iso_resample Py.ratFld rows lens d true = some (rowsOf ((colsOf rows).map (interp (linspace L N) (cumdist lens))) N) ∧
      (rowsOf ((colsOf rows).map (interp (linspace L N) (cumdist lens))) N).length = N ∧
      2 ≤ N ∧ L / ((N - 1 : Nat) : Rat) ≤ d := by
  intro L N
  have h := isoResample_refines rows lens d true hrow hlen hpos hd
  rw [isoResample_columns, isoPositions_adjust _ d hL hd] at h
  exact ⟨h, by simp [rowsOf], iso_step_le L d hL hd⟩

/-- **`smooth_endpoints_count` transported**: in the dictionary the generated smoother returns, each of `x`, `y`, `z` has the same length,
the same first and the same last entry as before; every other column (radii, ids, parents) is the one handed in -/
theorem generated_smooth_endpoints_count (nd : Py.Dict String (List Rat)) (xs ys zs : List Rat) (n k : Nat) (hk : 1 ≤ k) (hn : 2 ≤ n)
    (hx : Py.Dict.get? nd "x" = some xs) (hy : Py.Dict.get? nd "y" = some ys) (hz : Py.Dict.get? nd "z" = some zs)
    (hxl : xs.length = n) (hyl : ys.length = n) (hzl : zs.length = n) :
    ∃ nd', conv_smooth Py.ratFld nd (n : Int) (List.replicate k 1) = some (nd', ()) ∧
      (∀ key col, (key, col) ∈ [("x", xs), ("y", ys), ("z", zs)] → ∃ col', Py.Dict.get? nd' key = some col' ∧
        col'.length = col.length ∧ col'.head? = col.head? ∧ col'.getLast? = col.getLast?) ∧
      (∀ key, key ≠ "x" → key ≠ "y" → key ≠ "z" → Py.Dict.get? nd' key = Py.Dict.get? nd key) := by
  refine ⟨_, convSmooth_refines nd xs ys zs n k hk hn hx hy hz hxl hyl hzl, ?_, ?_⟩
  · intro key col hmem
    simp only [List.mem_cons, Prod.mk.injEq, List.mem_nil_iff, or_false] at hmem
    obtain ⟨gx, gy, gz⟩ := get?_set_xyz nd (convSmooth xs k) (convSmooth ys k) (convSmooth zs k)
    rcases hmem with ⟨rfl, rfl⟩ | ⟨rfl, rfl⟩ | ⟨rfl, rfl⟩
    · exact ⟨_, gx, smooth_endpoints_count col k⟩
    · exact ⟨_, gy, smooth_endpoints_count col k⟩
    · exact ⟨_, gz, smooth_endpoints_count col k⟩
  · intro key h1 h2 h3
    simp [Py.Dict.get?_set, h1, h2, h3]

/-- a column interpolated at positions that end at the full arc length ends at the column's last value -/
theorem interp_col_last (lens fp pos : List Rat) (hpos : ∀ l ∈ lens, 0 ≤ l) (hl : fp.length = lens.length + 1)
    (hlast : pos.getLast? = some ((cumdist lens).getLastD 0)) :
    (interp pos (cumdist lens) fp).getLast? = fp.getLast? := by
  obtain ⟨hlen, _, _, hm⟩ := cumdist_spec lens hpos
  rw [interp, List.getLast?_map, hlast, Option.map_some]
  generalize cumdist lens = xp at hlen hm
  match xp, fp, hlen.trans hl.symm with
  | x0 :: xr, f0 :: fr, h =>
    rw [List.getLastD_cons, List.getLast?_cons, interp1_last x0 f0 xr fr (Nat.succ.inj h) hm, List.getLastD_eq_getLast?]
  | [], [], _ => cases hlen

/-- **`interp_endpoints` transported (last point)**: for `n ≥ 2` the four columns of the array the generated linear resampler returns end at
the last values of the original columns, i.e. its last row is the last point of the branch with its radius -/
theorem generated_lin_last (rows : List (List Rat)) (lens : List Rat) (n : Nat) (hn : 2 ≤ n)
    (hrow : ∀ r ∈ rows, r.length = 4) (hlen : lens.length + 1 = rows.length) (hpos : ∀ l ∈ lens, 0 ≤ l) :
    ∃ cols', lin_resample Py.ratFld rows lens (n : Int) = some (rowsOf cols' n) ∧
      List.Forall₂ (fun c' c => c'.length = n ∧ c'.getLast? = c.getLast?) cols' (colsOf rows) := by
  refine ⟨_, linResample_refines rows lens n hrow hlen hpos, ?_⟩
  have hl := (linspace_spec ((cumdist lens).getLastD 0) n hn).2.2.1
  have key : ∀ fp : List Rat, fp.length = lens.length + 1 →
      (interp (linspace ((cumdist lens).getLastD 0) n) (cumdist lens) fp).length = n ∧
      (interp (linspace ((cumdist lens).getLastD 0) n) (cumdist lens) fp).getLast? = fp.getLast? :=
    fun fp h => ⟨by rw [interp, List.length_map, linspace_length], interp_col_last lens fp _ hpos h hl⟩
  have hcol : ∀ j : Nat, (rows.map (·.getD j 0)).length = lens.length + 1 := fun j => by rw [List.length_map, hlen]
  exact .cons (key _ (hcol 0)) (.cons (key _ (hcol 1)) (.cons (key _ (hcol 2)) (.cons (key _ (hcol 3)) .nil)))

/-! non-vacuity: the generated definitions evaluated by the kernel -/
example : lin_resample Py.ratFld [[0, 0, 0, 1], [1, 0, 0, 2], [1, 0, 0, 5], [3, 0, 0, 3]] [1, 0, 2] 4 =
    some [[0, 0, 0, 1], [1, 0, 0, 5], [2, 0, 0, 4], [3, 0, 0, 3]] := by decide +kernel
example : iso_resample Py.ratFld [[0, 0, 0, 1], [2, 0, 0, 2]] [2] (3 / 4) false =
    some [[0, 0, 0, 1], [3 / 4, 0, 0, 11 / 8], [3 / 2, 0, 0, 7 / 4], [2, 0, 0, 2]] := by decide +kernel
example : iso_resample Py.ratFld [[0, 0, 0, 1], [2, 0, 0, 2]] [2] (3 / 4) true =
    some [[0, 0, 0, 1], [2 / 3, 0, 0, 4 / 3], [4 / 3, 0, 0, 5 / 3], [2, 0, 0, 2]] := by decide +kernel
example : conv_smooth Py.ratFld [("x", [0, 1, 4, 9, 16]), ("y", [0, 0, 0, 0, 0]), ("z", [1, 1, 1, 1, 1]), ("r", [1, 2, 3, 4, 5])] 5 [1, 1, 1] =
    some ([("x", [0, 5 / 3, 14 / 3, 29 / 3, 16]), ("y", [0, 0, 0, 0, 0]), ("z", [1, 1, 1, 1, 1]), ("r", [1, 2, 3, 4, 5])], ()) := by decide +kernel
/-- the hypotheses of `generated_iso_step_le` are satisfiable -/
example : (iso_resample Py.ratFld [[0, 0, 0, 1], [2, 0, 0, 2]] [2] (3 / 4) true).map List.length = some 4 ∧
    (0 : Rat) < (cumdist [2]).getLastD 0 := by decide +kernel

end C16
