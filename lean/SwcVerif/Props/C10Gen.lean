import SwcVerif.Props.C10
import SwcVerif.Refine.LMeasure
import SwcVerif.Proofs.Represent
/-! # C10, tied to the source by the translator

The topological L-Measure functions `LMeasure.branch_order / n_stems / n_tips / n_bifs / n_branch / terminal_degree / fragmentation` of
`swcgeom/analysis/lmeasure.py`, with `Tree.soma`, `Tree.get_tips`, `Tree.Node.subtree`, `SWCLike.number_of_edges` and the node-handle methods
they call, are regenerated on every run (`Gen/AlgoLMeasure.lean`, `Gen/AlgoNode.lean`) and run on the translated traversal.  The theorems below
state that the definitions AS TRANSLATED return the quantities of their textbook definitions on every well-formed tree object (ids =
positions; `C07.WF pids`, or `C06.IsTree r pids` — equivalent by `Represent.wf_represented` / `represented_wf`), for every fuel above a stated
bound (so the loops terminate and nothing raises). -/
namespace C10
open Feat Gen.Algo

/-- **`LMeasure.branch_order` as translated is the number of furcations on the way to the root** (the node and the root included), at every
node of every well-formed tree, for every fuel `≥ n + 2` -/
theorem generated_branch_order (pids : List Int) (hw : C07.WF pids) (k : Nat) (hk : k < pids.length) (F : Nat) :
    lm_branch_order (pids.length + 2 + F) (Sub.rangeI pids.length) pids (k : Int)
      = some ((((Redir.rootPath pids pids.length (k : Int)).filter (Sub.isFurcation pids)).length : Nat) : Int) := by
  rw [← branch_order_eq_furcations_on_path pids hw k hk]
  exact RefineLm.branchOrder_refines pids hw k hk F

/-- the translated function and the hand-written model agree -/
theorem generated_branch_order_eq_model (pids : List Int) (hw : C07.WF pids) (k : Nat) (hk : k < pids.length) (F : Nat) :
    lm_branch_order (pids.length + 2 + F) (Sub.rangeI pids.length) pids (k : Int)
      = some ((branchOrder pids (pids.length + 1) (k : Int) : Nat) : Int) :=
  RefineLm.branchOrder_refines pids hw k hk F

/-- **`LMeasure.n_stems` as translated is the number of children of node 0** when the first row is typed as soma; otherwise it raises
(`Tree.soma`'s `ValueError`) -/
theorem generated_n_stems (pids types : List Int) (hn : 0 < pids.length) :
    (types.head? = some Gen.Consts.type_soma →
      lm_n_stems (Sub.rangeI pids.length) pids types = some (((tableKids (Sub.rangeI pids.length) pids 0).length : Nat) : Int)) ∧
    (types.head? ≠ some Gen.Consts.type_soma → lm_n_stems (Sub.rangeI pids.length) pids types = none) := by
  rw [RefineLm.nStems_refines pids types hn, FeatP.nStems_eq]
  exact ⟨fun h => if_pos h, fun h => if_neg h⟩

/-- **`LMeasure.n_tips` as translated is the number of childless nodes** (rows that no row names as its parent) -/
theorem generated_n_tips (pids types : List Int) :
    lm_n_tips (Sub.rangeI pids.length) pids types
      = some ((((Sub.rangeI pids.length).filter fun i => tableKids (Sub.rangeI pids.length) pids i = []).length : Nat) : Int) := by
  have hd : (Sub.rangeI pids.length).Nodup := Represent.rangeI_nodup _
  rw [RefineLm.nTips_refines _ pids types hd]
  congr 3
  refine List.filter_congr fun i _ => Bool.eq_iff_iff.2 ?_
  rw [Bool.not_eq_true', decide_eq_true_iff, C08.tableKids_nil_iff _ pids (by simp [Sub.rangeI]), ← List.contains_iff_mem, Bool.not_eq_true]

/-- … which, on a tree, is the number of leaves of the rose -/
theorem generated_n_tips_tree (pids types : List Int) (r : Rose) (h : C06.IsTree r pids) :
    lm_n_tips (Sub.rangeI pids.length) pids types = some (((C08.tipsOf r).length : Nat) : Int) := by
  have hd : (Sub.rangeI pids.length).Nodup := Represent.rangeI_nodup _
  rw [RefineLm.nTips_refines _ pids types hd, ← (counts pids r h).1]
  rfl

/-- **`LMeasure.n_bifs` as translated is the number of nodes with two or more children**, for every fuel `≥ 2n + 1` -/
theorem generated_n_bifs (pids types : List Int) (r : Rose) (h : C06.IsTree r pids) (F : Nat) :
    lm_n_bifs (2 * pids.length + F + 1) (Sub.rangeI pids.length) pids types
      = some ((((Sub.rangeI pids.length).filter fun i => decide (2 ≤ (tableKids (Sub.rangeI pids.length) pids i).length)).length : Nat) : Int) := by
  rw [RefineLm.nBifs_refines pids types r h F]
  congr 3
  exact List.filter_congr fun i _ => Bool.eq_iff_iff.2 ((C06.isFurcation_iff pids i).trans decide_eq_true_iff.symm)

/-- **`LMeasure.n_branch` as translated is the number of branches** of C08's edge partition -/
theorem generated_n_branch (pids types : List Int) (r : Rose) (h : C06.IsTree r pids) (F : Nat) :
    lm_n_branch (2 * pids.length + F + 1) (Sub.rangeI pids.length) pids types = some (((C08.branchesOf r).length : Nat) : Int) :=
  RefineLm.nBranch_refines pids types r h F

/-- **`LMeasure.fragmentation` as translated is the number of compartments of the branch** -/
theorem generated_fragmentation (b : List Int) (hb : b ≠ []) :
    lm_fragmentation b = some (((C08.pairs b).length : Nat) : Int) := by
  rw [(RefineLm.fragmentation_refines b).2 hb, fragmentation_eq]

/-- **`LMeasure.terminal_degree` as translated is the number of tips at or below the node**: for the subtree `s` hanging at any node of a tree
object, the translated `node.subtree().get_tips()` (translated `get_subtree_impl` over the translated traversal, `to_sub_topology`, then
`np.setdiff1d` on the NEW table) counts exactly the nodes of `s` that no row names as its parent; this is the model's `terminalDegree`.
Every fuel `≥ 2·|s| + 1` suffices. -/
theorem generated_terminal_degree (pids : List Int) (s : Rose) (h : Represents s (Sub.rangeI pids.length) pids)
    (hin : ∀ i ∈ s.ids, 0 ≤ i ∧ i.toNat < pids.length) (F : Nat) :
    lm_terminal_degree (2 * s.size + F + 1) (Sub.rangeI pids.length) pids s.id
        = some (((s.ids.filter fun v => !pids.contains v).length : Nat) : Int) ∧
    lm_terminal_degree (2 * s.size + F + 1) (Sub.rangeI pids.length) pids s.id = some ((terminalDegree pids s.id : Nat) : Int) := by
  have := RefineLm.terminalDegree_refines pids s h hin F
  exact ⟨this, by rw [this, terminal_degree_eq_tips_below pids s h hin]⟩

/-- … at every node of every well-formed tree (`C07.WF`), with the fuel the driver uses (`2n + 3`) or more -/
theorem generated_terminal_degree_wf (pids : List Int) (hw : C07.WF pids) (k : Nat) (hk : k < pids.length) (F : Nat) :
    ∃ s : Rose, s.id = (k : Int) ∧ Represents s (Sub.rangeI pids.length) pids ∧
      lm_terminal_degree (2 * pids.length + F + 1) (Sub.rangeI pids.length) pids (k : Int)
        = some (((s.ids.filter fun v => !pids.contains v).length : Nat) : Int) := by
  obtain ⟨s, hid, hr, hin⟩ := Represent.wf_subtree_represented pids hw k hk
  refine ⟨s, hid, hr, ?_⟩
  have hsz : s.size ≤ pids.length := C06.rose_size_le s _ hr.2 hin
  rw [show 2 * pids.length + F + 1 = 2 * s.size + (2 * (pids.length - s.size) + F) + 1 by omega, ← hid]
  exact (generated_terminal_degree pids s hr hin _).1

-- non-vacuity (kernel-evaluated): the tree of `C10.exP` (root 0 with children 1 and 4; 1 with children 2 and 3)
example : (Sub.rangeI 5).map (lm_branch_order 7 (Sub.rangeI 5) exP) = [some 1, some 2, some 2, some 2, some 1] := by decide +kernel
example : lm_n_stems (Sub.rangeI 5) exP [1, 3, 3, 3, 3] = some 2 ∧ lm_n_stems (Sub.rangeI 5) exP [3, 3, 3, 3, 3] = none ∧
          lm_n_tips (Sub.rangeI 5) exP [] = some 3 ∧ lm_n_bifs 11 (Sub.rangeI 5) exP [] = some 2 ∧ lm_n_branch 11 (Sub.rangeI 5) exP [] = some 4 ∧
          lm_fragmentation [1, 3, 4] = some 2 ∧
          (Sub.rangeI 5).map (lm_terminal_degree 13 (Sub.rangeI 5) exP) = [some 3, some 2, some 1, some 1, some 1] ∧
          lm_partition_asymmetry 13 (Sub.rangeI 5) exP 0 = some (1, 1) ∧ lm_partition_asymmetry 13 (Sub.rangeI 5) exP 2 = none := by decide +kernel
example : C07.WF exP := by unfold C07.WF; decide +kernel

end C10
