import SwcVerif.Refine.Ctor
/-! # C03 ("no operation modifies what it was given"), tied to the source by the translator: the copying spellings of the normalizer

`Gen.Algo.copy_and_apply`, `mark_roots_as_somas`, `reset_index`, `sort_nodes`, `link_roots_to_nearest` are regenerated from
`swcgeom/core/swc_utils/normalizer.py` on every run, over a HEAP of frame objects (`Model/PyCtor.lean`): a DataFrame variable is a reference,
the in-place procedures update the frame their argument refers to, `df.copy()` allocates.  The frame condition is therefore a theorem about the
code as translated — with the `df = df.copy()` of `_copy_and_apply` removed the in-place procedure updates the caller's frame and
`generated_copy_and_apply_pure` (and everything below it) no longer holds. -/
namespace C03
open Gen.Algo Py RefineCtor

/-- **`_copy_and_apply(P_, df, …)` as translated leaves every frame that existed before the call as it was** (the frame handed in, and every
other one), for EVERY in-place procedure `P`, every heap and every reference: a successful call returns a NEW reference, the heap has exactly
one more object, and that object is `P` applied to the input's columns. -/
theorem generated_copy_and_apply_pure (P : Frame → Option Frame) (heap : Frames) (df : Int) (h' : Frames) (r : Int)
    (h : copy_and_apply (fun h d => Frames.apply h d P) heap df = some (h', r)) : Pure P heap df h' r :=
  pure_of_eq P heap df h' r (by rw [← copy_and_apply_lift]; exact h)

/-- … and it succeeds exactly when the reference is valid and the procedure succeeds on the input's columns; the result equals the in-place
procedure run on a copy -/
theorem generated_copy_and_apply_eq (P : Frame → Option Frame) (heap : Frames) (df : Int) :
    copy_and_apply (fun h d => Frames.apply h d P) heap df =
      (Frames.get? heap df).bind fun fr => (P fr).map fun fr' => (heap ++ [fr'], (heap.length : Int)) :=
  copy_and_apply_lift P heap df

/-- **`mark_roots_as_somas(df, update_type)`** = `mark_roots_as_somas_` on a copy; the input frame and every other frame are unchanged -/
theorem generated_mark_roots_as_somas_pure (heap : Frames) (df : Int) (ut : Option Int) (h' : Frames) (r : Int)
    (h : mark_roots_as_somas heap df ut = some (h', r)) : Pure (somasP ut) heap df h' r :=
  pure_of_eq _ heap df h' r (by rw [← mark_roots_as_somas_eq]; exact h)

/-- **`reset_index(df)`** = `reset_index_` on a copy; the input frame and every other frame are unchanged -/
theorem generated_reset_index_pure (heap : Frames) (df : Int) (h' : Frames) (r : Int)
    (h : reset_index heap df = some (h', r)) : Pure resetP heap df h' r :=
  pure_of_eq _ heap df h' r (by rw [← reset_index_eq]; exact h)

/-- **`sort_nodes(df)`** = `sort_nodes_` on a copy (every fuel); the input frame and every other frame are unchanged -/
theorem generated_sort_nodes_pure (fuel : Nat) (heap : Frames) (df : Int) (h' : Frames) (r : Int)
    (h : sort_nodes fuel heap df = some (h', r)) : Pure (sortP fuel) heap df h' r :=
  pure_of_eq _ heap df h' r (by rw [← sort_nodes_eq]; exact h)

/-- **`link_roots_to_nearest(df)`** = `link_roots_to_nearest_` on a copy (every distance callback, every fuel); the input frame and every
other frame are unchanged, and so is the callback state -/
theorem generated_link_roots_to_nearest_pure {σ : Type} [Inhabited σ] (norm : σ → Int → σ × List Int) (fuel : Nat) (heap : Frames) (df : Int)
    (cbs cbs' : σ) (h' : Frames) (r : Int) (h : link_roots_to_nearest norm fuel heap df cbs = some (h', cbs', r)) :
    Pure (nearestP norm fuel cbs) heap df h' r ∧ cbs' = cbs := by
  rw [link_roots_to_nearest_eq] at h
  obtain ⟨fr, hg, h⟩ := Option.bind_eq_some_iff.1 h
  obtain ⟨fr', hp, h⟩ := Option.map_eq_some_iff.1 h
  cases h
  exact ⟨pure_of_eq _ heap df _ _ (by rw [hg, Option.bind_some, hp]; rfl), rfl⟩

/-- the equational forms (success conditions included): the copying spelling = the in-place procedure on a copy appended to the heap -/
theorem generated_copying_eq (fuel : Nat) (heap : Frames) (df : Int) (ut : Option Int) :
    (mark_roots_as_somas heap df ut =
      (Frames.get? heap df).bind fun fr => (somasP ut fr).map fun fr' => (heap ++ [fr'], (heap.length : Int))) ∧
    (reset_index heap df = (Frames.get? heap df).bind fun fr => (resetP fr).map fun fr' => (heap ++ [fr'], (heap.length : Int))) ∧
    (sort_nodes fuel heap df = (Frames.get? heap df).bind fun fr => (sortP fuel fr).map fun fr' => (heap ++ [fr'], (heap.length : Int))) :=
  ⟨mark_roots_as_somas_eq heap df ut, reset_index_eq heap df, sort_nodes_eq fuel heap df⟩

/-- non-vacuity (kernel-evaluated): a bystander frame, the input frame (two roots, ids from 5); the result is object 2, objects 0 and 1 are as
they were -/
example :
    let heap : Frames := [⟨[7, 8], [-1, 7], [1, 2], [4, 4]⟩, ⟨[5, 6, 7, 9], [-1, 5, -1, 7], [1, 3, 3, 3], [4, 4, 4, 4]⟩]
    mark_roots_as_somas heap 1 (some 1) = some (heap ++ [⟨[5, 6, 7, 9], [-1, 5, 5, 7], [1, 3, 3, 3], [4, 4, 4, 4]⟩], 2) ∧
    reset_index heap 1 = some (heap ++ [⟨[0, 1, 2, 4], [-1, 0, -1, 2], [1, 3, 3, 3], [4, 4, 4, 4]⟩], 2) ∧
    sort_nodes 20 heap 0 = some (heap ++ [⟨[0, 1], [-1, 0], [1, 2], [4, 4]⟩], 2) ∧
    sort_nodes 20 heap 1 = none ∧ reset_index heap 2 = none := by decide +kernel

end C03
