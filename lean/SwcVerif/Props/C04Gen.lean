import SwcVerif.Props.C04
import SwcVerif.Refine.Traverse
/-! # C04, tied to the source by the translator

`Gen.Algo.traverse_dfs` is regenerated from `swcgeom/core/swc_utils/base.py::_traverse_dfs` on every run.
`RefineTrav.traverse_refines` proves that it IS the structural recursion `Trav.spec`; the corollaries below restate
the clauses of the property for the code as translated (no hand-written step machine in between). -/
namespace C04
open Trav Gen.Algo

variable {σ T K : Type} [Inhabited σ] [Inhabited T] [Inhabited K]

/-- **The translated `_traverse_dfs` is structural recursion, at any depth**: for every table representing the
subtree `r` at the start node, all (stateful) callbacks and every fuel ≥ 2·|r| + 1 the call returns (never raises,
never runs out of fuel) the value and final callback state of `spec`. -/
theorem generated_traverse_eq_spec (ids pids : List Int) (r : Rose) (h : Represents r ids pids)
    (enter : σ → Int → Option T → σ × T) (leave : σ → Int → List K → σ × K) (s : σ) (extra : Nat) :
    traverse_dfs enter leave (2 * r.size + extra + 1) (ids, pids) r.id s = some (spec enter leave r none s) :=
  RefineTrav.traverse_refines enter leave ids pids r h s extra

/-- the hand-written step machine and the translated function agree (both are `spec`) -/
theorem generated_eq_model (ids pids : List Int) (r : Rose) (h : Represents r ids pids)
    (enter : σ → Int → Option T → σ × T) (leave : σ → Int → List K → σ × K) (s : σ) :
    let st := run (tableKids ids pids) enter leave (2 * r.size) (init r.id s)
    traverse_dfs enter leave (2 * r.size + 1) (ids, pids) r.id s = (st.vals r.id).map (fun k => (st.s, k)) := by
  have h1 := traverse_eq_spec ids pids r h enter leave s
  have h2 := generated_traverse_eq_spec ids pids r h enter leave s 0
  simp only at h1 ⊢
  rw [Nat.add_zero] at h2
  rw [h2, h1.2.2, h1.2.1]
  rfl

/-- `enter` is called exactly once per node of the subtree, in the order `enterOrder`, and for no other node — for the
translated function (the callback state is the call log) -/
theorem generated_enter_once (ids pids : List Int) (r : Rose) (h : Represents r ids pids)
    (enter : σ → Int → Option T → σ × T) (leave : σ → Int → List K → σ × K) (s : σ) :
    ∃ res, traverse_dfs (enterI enter) (noLogL leave) (2 * r.size + 1) (ids, pids) r.id (s, ([] : List Int)) = some res ∧
      res.1.2.reverse = enterOrder r ∧ res.1.2.Perm r.ids ∧ res.1.2.Nodup ∧ (∀ j, j ∉ r.ids → j ∉ res.1.2) :=
  ⟨_, generated_traverse_eq_spec ids pids r h (enterI enter) (noLogL leave) (s, ([] : List Int)) 0, enter_log_facts r h.2 enter leave s⟩

/-- `leave` is called exactly once per node of the subtree, after all of its children (`leaveOrder`) -/
theorem generated_leave_once (ids pids : List Int) (r : Rose) (h : Represents r ids pids)
    (enter : σ → Int → Option T → σ × T) (leave : σ → Int → List K → σ × K) (s : σ) :
    ∃ res, traverse_dfs (noLogE enter) (leaveI leave) (2 * r.size + 1) (ids, pids) r.id (s, ([] : List Int)) = some res ∧
      res.1.2.reverse = leaveOrder r ∧ res.1.2.Perm r.ids ∧ res.1.2.Nodup := by
  obtain ⟨a, b, c, _⟩ := leave_log_facts r h.2 enter leave s
  exact ⟨_, generated_traverse_eq_spec ids pids r h (noLogE enter) (leaveI leave) (s, ([] : List Int)) 0, a, b, c⟩

/-- non-vacuity: the translated function on the concrete table of `C04.lean`, kernel-evaluated -/
example : (traverse_dfs logEnter logLeave (2 * exRose.size + 1) (exIds, exPids) 0 ([] : List Ev)).map
      (fun r => (r.1.reverse.map Ev.show, r.2))
    = some (["E0:N", "E3:217", "E4:6730", "L4:[]", "E1:6730", "L1:[]", "L3:[1,4]", "E2:217", "L2:[]", "L0:[2,888]"],
            (spec logEnter logLeave exRose none []).2) := by
  decide +kernel

end C04
