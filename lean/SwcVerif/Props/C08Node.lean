import SwcVerif.Props.C08
import SwcVerif.Proofs.Represent
import SwcVerif.Refine.NodeBranch
/-! # C08, node-level methods tied to the source by the translator

`Gen.Algo.get_tips` and `Gen.Algo.node_branch` (`Tree.get_tips`, `Tree.Node.branch`) are regenerated from `swcgeom/core/tree.py` on every
run.  (The node-handle methods `node_parent`, `node_children`, `node_is_root`, … are specified in `Refine/Node.lean`.) -/
namespace C08
open Branches Trav Gen.Algo Sub

/-- **`Tree.get_tips` as translated returns exactly the childless nodes** (any table with equally long columns and distinct ids) -/
theorem generated_tips_childless (ids pids : List Int) (hl : ids.length = pids.length) (hd : ids.Nodup) :
    ∃ l, get_tips ids pids = some l ∧ ∀ j, j ∈ l ↔ j ∈ ids ∧ tableKids ids pids j = [] :=
  ⟨_, RefineNodeBranch.getTips_refines ids pids hd, tips_eq_childless ids pids hl⟩

/-- on a tree: the translated `get_tips` returns the leaves of the rose (`tipsOf`), each once -/
theorem generated_tips_eq_tipsOf (r : Rose) (pids : List Int) (h : C06.IsTree r pids) :
    ∃ l, get_tips (rangeI pids.length) pids = some l ∧ l.Nodup ∧ ∀ j, j ∈ l ↔ j ∈ tipsOf r := by
  refine ⟨_, RefineNodeBranch.getTips_refines _ pids (Represent.rangeI_nodup _), ?_, ?_⟩
  · exact (Represent.rangeI_nodup _).filter _
  · intro j
    rw [tips_eq_childless _ pids (by simp [rangeI]) j, tipsOf_childless _ r h.1.1 j, h.2.1.mem_iff]

example : get_tips (rangeI 5) [-1, 0, 1, 1, 3] = some [2, 4] := by decide +kernel

/-! ### `Tree.Node.branch` -/
open RefineNodeBranch

/-- **`Tree.Node.branch` as translated equals the model `nodeBranch`** on every tree (`IsTree r pids`: any shape, any numbering with the
root first), for every node handle `0 ≤ k < n` and every fuel `≥ n + 1`: neither `while` loop runs out of fuel, nothing raises -/
theorem generated_nodeBranch_eq_model (r : Rose) (pids : List Int) (h : C06.IsTree r pids) (k : Int) (h0 : 0 ≤ k) (hk : k < pids.length)
    (F : Nat) (hF : pids.length + 1 ≤ F) :
    node_branch F (rangeI pids.length) pids k = some (nodeBranch pids F k) :=
  nodeBranch_refines (Represent.represented_wf pids r h) k h0 hk F hF

/-- **shape of `Tree.Node.branch` as translated** (`_partial` with respect to "the branch of `branchesOf` through the node"):
the result is `up.reverse ++ down` where `up` starts at the node and climbs parent by parent through non-furcations to the nearest
furcation or the root (`UpOK`), and `down` descends from the node through ONLY children to the next furcation or tip (`DownOK`).  So the
result is a parent→child chain through the node, starts at a furcation / the root (or is the node alone when the node is a furcation),
ends at a furcation / tip, and every interior node has exactly one child.

That this chain IS a member of `branchesOf r` (for a non-furcation `k` of a tree with ≥ 2 nodes) is
`generated_nodeBranch_mem_branches` in `Props/C08NodeFull.lean`, by the converse half of `C08.mem_branchesOf_iff`. -/
theorem generated_nodeBranch_shape_partial (r : Rose) (pids : List Int) (h : C06.IsTree r pids) (k : Int) (h0 : 0 ≤ k)
    (hk : k < pids.length) (F : Nat) (hF : pids.length + 1 ≤ F) :
    ∃ up down, node_branch F (rangeI pids.length) pids k = some (up.reverse ++ down) ∧ up.head? = some k ∧
      UpOK (KK pids) pids up ∧ DownOK (KK pids) k down := by
  have hw := Represent.represented_wf pids r h
  obtain ⟨up, down, e, h1, h2, h3⟩ := nodeBranch_shape hw k h0 hk F hF
  exact ⟨up, down, by rw [nodeBranch_refines hw k h0 hk F hF, e], h1, h2, h3⟩

/-- the quirk of DESIGN.md §6, for the code as translated: **`Node.branch()` of a furcation is the one-node branch** -/
theorem generated_nodeBranch_furcation (r : Rose) (pids : List Int) (h : C06.IsTree r pids) (k : Int) (h0 : 0 ≤ k) (hk : k < pids.length)
    (hf : 2 ≤ (tableKids (rangeI pids.length) pids k).length) :
    node_branch (pids.length + 1) (rangeI pids.length) pids k = some [k] := by
  rw [generated_nodeBranch_eq_model r pids h k h0 hk _ (Nat.le_refl _)]
  exact congrArg some (nodeBranch_furcation pids k pids.length hf)

/-- non-vacuity (kernel-evaluated) on `0 → 1 → {2, 3 → 4}`: the stem through the root, the one-node branch of the furcation 1, and the
branch `1, 3, 4` found from its interior node 3 and from its tip 4 -/
example : node_branch 6 (rangeI 5) [-1, 0, 1, 1, 3] 0 = some [0, 1] ∧ node_branch 6 (rangeI 5) [-1, 0, 1, 1, 3] 1 = some [1] ∧
          node_branch 6 (rangeI 5) [-1, 0, 1, 1, 3] 3 = some [1, 3, 4] ∧ node_branch 6 (rangeI 5) [-1, 0, 1, 1, 3] 4 = some [1, 3, 4] ∧
          node_branch 6 (rangeI 5) [-1, 0, 1, 1, 3] 5 = none ∧ nodeBranch [-1, 0, 1, 1, 3] 6 3 = [1, 3, 4] := by decide +kernel
/-- the hypothesis `IsTree` is satisfiable (and, by `Represent.wf_represented`, holds for EVERY well-formed parent list) -/
example : ∃ r, C06.IsTree r [-1, 0, 1, 1, 3] :=
  Represent.wf_represented _ ⟨rfl, by decide, by decide +kernel⟩

end C08
