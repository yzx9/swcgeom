import SwcVerif.Props.C19Front
import SwcVerif.Refine.PopMap
/-! # C19, `Population.find_swcs` / `Population.map` tied to the source by the translator

`Gen/AlgoPopMap.lean` is regenerated on every run from `swcgeom/core/population.py`: `Population.find_swcs` (`os.walk(root)` is DATA: the list
of `(dirpath, dirnames, filenames)` it yields; `os.path.relpath`, `os.path.splitext(·)[-1]`, `os.path.join` are pure function parameters about
which nothing is assumed), `LazyLoadingTrees.__iter__`, `Population.map` (the mapped function a pure function parameter — it runs in worker
processes; the executor is glue: `Executor.map` / `process_map` = the results in input order), `filter_population` (executed only). -/
namespace C19
open Pop Gen.Algo RefinePop RefinePopFront RefinePopMap

/-! ## `find_swcs` -/

/-- **the extension filter and the walk order** — for the generated `find_swcs`, every walk, root, extension, flag and path functions: it
returns (never raises) exactly the list `walk.flatMap foundIn`; so a path is listed iff it is `join d name` for a walked directory `(dir, _, files)`,
`name ∈ files` with `splitext(name)[-1] = ext` (EQUALITY: `".swc"` does not match `".SWC"` or `".swc.bak"`), `d` = `dir` or its `relpath` to the root -/
theorem generated_find_swcs (relpath_of : String → String → String) (ext_of : String → String) (join : String → String → String)
    (walk : List (String × List String × List String)) (root ext : String) (rel : Bool) :
    find_swcs relpath_of ext_of join walk root ext rel = some (walk.flatMap (foundIn relpath_of ext_of join root ext rel)) ∧
    ∀ p, p ∈ walk.flatMap (foundIn relpath_of ext_of join root ext rel) ↔
      ∃ e ∈ walk, ∃ name ∈ e.2.2, ext_of name = ext ∧ p = join (if rel then relpath_of e.1 root else e.1) name := by
  refine ⟨find_swcs_refines _ _ _ _ _ _ _, fun p => ?_⟩
  simp only [List.mem_flatMap, foundIn, List.mem_map, List.mem_filter, decide_eq_true_eq]
  constructor
  · rintro ⟨e, he, name, ⟨hn, hx⟩, rfl⟩; exact ⟨e, he, name, hn, hx, rfl⟩
  · rintro ⟨e, he, name, hn, hx, rfl⟩; exact ⟨e, he, name, ⟨hn, hx⟩, rfl⟩

/-- the walk order is kept: the result for a walk `w1 ++ w2` is the result for `w1` followed by the result for `w2`, so the files of an earlier
directory come before those of a later one -/
theorem generated_find_swcs_order (relpath_of : String → String → String) (ext_of : String → String) (join : String → String → String)
    (w1 w2 : List (String × List String × List String)) (root ext : String) (rel : Bool) :
    find_swcs relpath_of ext_of join (w1 ++ w2) root ext rel =
      (find_swcs relpath_of ext_of join w1 root ext rel).bind fun a =>
        (find_swcs relpath_of ext_of join w2 root ext rel).map fun b => a ++ b := by
  simp [find_swcs_refines]

example : find_swcs (fun r root => "rel:" ++ r ++ ":" ++ root) (fun f => if f = "a.swc" || f = "c.swc" then ".swc" else "") (fun a b => a ++ "/" ++ b)
    [("/r", [], ["a.swc", "b.txt"]), ("/r/s", ["x"], ["c.swc"])] "/r" ".swc" true = some ["rel:/r:/r/a.swc", "rel:/r/s:/r/c.swc"] := by
  rw [find_swcs_refines]; decide +kernel

/-! ## `map` after every history of accesses -/

/-- the population and the read log after a history of front-end accesses (`frontStep` of C19Front) -/
def frontState (p : Population) (log : List Int) (ops : List FOp) : Population × List Int :=
  ops.foldl (fun st op => (frontStep st.1 st.2 op).1) (p, log)

theorem frontState_rep (ops : List FOp) (root : String) (l : Lazy) :
    ∃ keys : List Int, frontState ⟨rep l, root⟩ (castL l.log) ops =
      (⟨rep (l.run (keys.map .get)), root⟩, castL (l.run (keys.map .get)).log) := by
  induction ops generalizing l with
  | nil => exact ⟨[], rfl⟩
  | cons op ops ih =>
    obtain ⟨k1, e1⟩ := frontStep_rep op root l
    obtain ⟨k2, e2⟩ := ih (l.run (k1.map .get))
    refine ⟨k1 ++ k2, ?_⟩
    rw [frontState, List.foldl_cons, e1, List.map_append, run_append]
    exact e2

theorem frontState_inv (ops : List FOp) (g : LazyLoadingTrees) (root : String) (l : Lazy) (h : LRep g l) (hi : LInv l) :
    ∃ g' l', frontState ⟨g, root⟩ (castL l.log) ops = (⟨g', root⟩, castL l'.log) ∧ LRep g' l' ∧ LInv l' ∧ l'.len = l.len := by
  obtain ⟨keys, e⟩ := frontState_rep ops root l
  exact ⟨_, _, h.eq_rep ▸ e, rep_spec _, run_inv _ _ hi, run_len _ _⟩

/-- **`Population.map` on any population over a lazy container** (generated code, any state `l` of the container with the no-repetition
invariant, EVERY function `fn`): one result per file, result `i` = `fn(tree of file i)`, in order; afterwards the read log still has no
repetition and extends the log before the call -/
theorem generated_map_results {g : LazyLoadingTrees} {l : Lazy} (h : LRep g l) (hi : LInv l) (root : String) (fn : Option Int → Int) :
    ∃ p' log' rs, pop_map readLog fn ⟨g, root⟩ (castL l.log) = some (p', log', rs) ∧
      rs.length = l.len ∧ (∀ i, i < l.len → rs[i]? = some (fn (some (i : Int)))) ∧
      log'.Nodup ∧ ∃ more, log' = castL l.log ++ more := by
  obtain ⟨g', e, r'⟩ := pop_map_refines h root fn
  refine ⟨_, _, _, e, by simp, ?_, ?_, ?_⟩
  · intro i hi'; simp [hi']
  · exact castL_nodup _ (foldl_load_inv _ l hi).1
  · obtain ⟨more, hm, -⟩ := foldl_load_log (List.range l.len) l
    exact ⟨castL more, by simp [Lazy.iterAll, hm, castL]⟩

/-- **mapping a function over a population returns one result per tree in order, and each file is read at most once** — by the code as
translated, composed with `generated_front_load_at_most_once`: build `Population(LazyLoadingTrees(n files))` with the generated constructor
(probe of file 0), access it through ANY history of `pop[i]` / `pop[a:b:c][k]`, then call the generated `map` with ANY `fn`: it returns `n`
results, result `i` = `fn(tree of file i)`, and the whole read log (constructor + history + map) has no repetition -/
theorem generated_map_load_at_most_once (n : Nat) (root : String) (p0 : Population) (ops : List FOp) (fn : Option Int → Int) :
    ∃ p, pop_init readLog p0 (genInit n) root [] = some (p, castL (populationInit n).log, ()) ∧
      ∃ p' log' rs, pop_map readLog fn (frontState p (castL (populationInit n).log) ops).1 (frontState p (castL (populationInit n).log) ops).2 =
          some (p', log', rs) ∧
        rs.length = n ∧ (∀ i, i < n → rs[i]? = some (fn (some (i : Int)))) ∧ log'.Nodup := by
  refine ⟨_, pop_init_genInit n root p0, ?_⟩
  obtain ⟨g2, l2, e2, r2, i2, n2⟩ := frontState_inv ops _ root _ (rep_spec _) (popInit_inv n)
  rw [e2]
  obtain ⟨p', log', rs, em, hl, hr, hnd, _⟩ := generated_map_results r2 i2 root fn
  rw [n2, popInit_len] at hl hr
  exact ⟨p', log', rs, em, hl, hr, hnd⟩

/-- non-vacuity (kernel-evaluated): 4 files, `pop[2]` first, then `map` with `fn(tree k) = 10 k + 1`: file 0 (probe) and 2 are not read again -/
example : (pop_init readLog default (genInit 4) "" []).bind (fun r =>
      let st := frontState r.1 r.2.1 [.get 2]
      (pop_map readLog (fun t => match t with | some k => 10 * k + 1 | none => -1) st.1 st.2).map fun q => (q.2.1, q.2.2)) =
    some ([0, 2, 1, 3], [1, 11, 21, 31]) := by decide +kernel

end C19
