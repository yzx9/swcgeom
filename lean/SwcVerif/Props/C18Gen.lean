import SwcVerif.Props.C18
import SwcVerif.Refine.Dsu
import SwcVerif.Refine.Checkers
import SwcVerif.Refine.Normalizer
/-! # C18, tied to the source by the translator

`Gen.Algo.dsu_*` are regenerated from `swcgeom/utils/dsu.py` on every run (`harness/translate_algo.py`).
`RefineDsu.script_refines_init` shows that they compute what the model `Dsu` computes on every script; composed
with `C18.dsu_refines_partition` this states the property about the code as translated.

Then, in the same way, the translated `get_dsu` (`swc_utils/base.py`), `has_cyclic`, `is_bifurcate` (`checker.py`),
`mark_roots_as_somas_` and `reset_index_` (`normalizer.py`): each is equal to its model by `RefineCheckers.*` / `RefineNorm.*`
(`reset_index_`, which has no model function, to the columns stated), and `generated_getDsu_total`, `generated_hasCyclic_spec` compose
that with the C18 theorem about the model. -/
namespace C18
open Dsu RefineDsu Gen.Algo AlgoRun

theorem runOps_append_same (n : Nat) (a b : Nat) (ha : a < n) (hb : b < n) :
    ∀ (ops : List Op) (d : D), d.n = n → (∀ op ∈ ops, ValidOp n op) →
      (runOps d (ops ++ [Op.same a b])).getLast? =
        some (some (same (ops.foldl (fun d op => match stepOp d op with
          | some (d', _) => d'
          | none => d) d) a b).1) := by
  intro ops
  induction ops with
  | nil =>
    intro d hn _
    simp [runOps_cons _ _ _ _ _ (stepOp_same (hn ▸ ha) (hn ▸ hb)), runOps]
  | cons op t ih =>
    intro d hn hv
    obtain ⟨d', ans, e, hn'⟩ : ∃ d' ans, stepOp d op = some (d', ans) ∧ d'.n = n := by
      have hop := hv op List.mem_cons_self
      cases op with
      | union x y => exact ⟨_, _, stepOp_union (hn ▸ hop.1) (hn ▸ hop.2), (union_b_le d x y).2.trans hn⟩
      | same x y => exact ⟨_, _, stepOp_same (hn ▸ hop.1) (hn ▸ hop.2), hn⟩
    have := ih d' hn' fun o ho => hv o (List.mem_cons_of_mem _ ho)
    rw [List.cons_append, runOps_cons _ _ _ _ _ e, List.foldl_cons, e,
      List.getLast?_append_of_ne_nil _ (fun c => by rw [c] at this; simp at this)]
    exact this

/-- **The code of `dsu.py`, as translated, tells the truth for every history**: build the object with
the generated constructor, run any script of valid unions and queries with the generated methods, then ask
`is_same_set(a, b)`: the answer is `True` exactly when some sequence of the unions performed connects `a` and `b`
(and no call raised). -/
theorem generated_dsu_refines_partition (n : Nat) (ops : List Op) (hv : ∀ op ∈ ops, ValidOp n op) (a b : Nat)
    (ha : a < n) (hb : b < n) (g0 : DisjointSetUnion) :
    ∃ g, dsu_init g0 (n : Int) = some (g, ()) ∧
      ∃ ans, (genRun ((ops ++ [Op.same a b]).length + 1) g (ops ++ [Op.same a b])).getLast? = some (some ans) ∧
        (ans = true ↔ Conn (unions ops) a b) := by
  obtain ⟨g, e, r⟩ := script_refines_init n (ops ++ [Op.same a b]) g0
  refine ⟨g, e, (same (stateAfter n ops) a b).1, ?_, dsu_refines_partition n ops hv a b ha hb⟩
  rw [r]
  exact runOps_append_same n a b ha hb ops (init n) rfl hv

/-- non-vacuity: the generated code on a concrete script (kernel-evaluated) -/
example : (do
    let (g, _) ← dsu_init default 5
    pure (genRun 8 g [.union 0 1, .union 3 4, .same 0 1, .same 1 3, .union 1 3, .same 0 4, .same 2 4, .same 7 0])) =
    some [some true, some false, some true, some false, none] := by decide +kernel

/-! ## pointer jumping (`base.get_dsu`), as translated -/

/-- the translated `get_dsu` equals the model on every table with distinct ids, with the model's own pass budget -/
theorem generated_getDsu_eq_model (ids pids : List Int) (hnd : ids.Nodup) (hl : ids.length = pids.length) :
    get_dsu (ids.length * ids.length + 2) ids pids = (getDsu ids pids).map RefineCheckers.castL := by
  rw [RefineCheckers.getDsu_refines ids pids hnd hl]
  rfl

/-- **The translated `get_dsu` terminates on EVERY table whose parents name rows (forests and tables with cycles
alike), within the modelled pass budget, and labels two rows equally exactly when they are weakly connected** -/
theorem generated_getDsu_total (pids : List Int)
    (hv : ∀ k (h : k < pids.length), pids[k] = -1 ∨ (0 ≤ pids[k] ∧ pids[k] < pids.length)) :
    ∃ l : List Nat, get_dsu (pids.length * pids.length + 2) ((List.range pids.length).map Int.ofNat) pids
        = some (RefineCheckers.castL l) ∧ l.length = pids.length ∧
      ∀ a b, a < pids.length → b < pids.length → (l.getD a 0 = l.getD b 0 ↔ WConn pids.length (ptr pids) a b) := by
  obtain ⟨l, hget, hlen, hlab⟩ := getDsu_total pids hv
  refine ⟨l, ?_, hlen, hlab⟩
  have := generated_getDsu_eq_model ((List.range pids.length).map Int.ofNat) pids (Py.range_nodup _) (by simp)
  simp only [List.length_map, List.length_range] at this
  rw [this, hget]
  rfl

/-! ## `has_cyclic`, as translated -/

/-- the translated `has_cyclic` equals the model on every valid table, hence (by `hasCyclic_spec`) answers `True` exactly when
some row joins two nodes that the earlier rows already connect, and always answers -/
theorem generated_hasCyclic_spec (ids pids : List Int) (hv : ValidTable ids pids) (F : Nat) :
    has_cyclic (ids.length + 1 + F) (ids, pids) = hasCyclic ids pids ∧
    (has_cyclic (ids.length + 1 + F) (ids, pids) = some true ↔
      ∃ k, ∃ h1 : k < ids.length, ∃ h2 : k < pids.length, pids[k] ≠ -1 ∧
        Conn (rowEdges (ids.take k) (pids.take k)) ids[k].toNat pids[k].toNat) ∧
    (has_cyclic (ids.length + 1 + F) (ids, pids) = some true ∨ has_cyclic (ids.length + 1 + F) (ids, pids) = some false) := by
  have e := RefineCheckers.hasCyclic_refines ids pids hv.1 hv.2.1 hv.2.2 F
  have h := hasCyclic_spec ids pids hv
  rw [e]
  exact ⟨rfl, h.1, h.2⟩

example : has_cyclic 9 ([0, 1, 2, 3], [-1, 0, 3, 2]) = some true ∧ has_cyclic 9 ([0, 1, 2, 3], [-1, 0, 1, 1]) = some false := by
  decide +kernel

/-! ## root repair and re-basing, as translated -/

/-- the translated `mark_roots_as_somas_` returns the model's columns on every table with a root; by `repair_somas` the result
is a single-rooted table that keeps the first root and every original edge -/
theorem generated_markRoots_eq_model (ids pids types : List Int) (ut : Option Int) (h1 : ids.length = pids.length)
    (hr : (-1 : Int) ∈ pids) :
    mark_roots_as_somas_ ids pids types ut =
      some ((markRootsAsSomas ids pids types ut).1, (markRootsAsSomas ids pids types ut).2, ()) :=
  RefineNorm.markRoots_refines ids pids types ut h1 hr

/-- the translated `reset_index_`: every id shifted by the first root's id; every parent too — **except the `-1` of every root**
(the clause D04 violated) -/
theorem generated_resetIndex (ids pids : List Int) (h1 : ids.length = pids.length) (hr : (-1 : Int) ∈ pids) :
    reset_index_ ids pids =
      some (ids.map (fun i => i - ids.getD (firstRootLoc pids) 0),
            pids.map (fun p => if p = -1 then -1 else p - ids.getD (firstRootLoc pids) 0), ()) :=
  RefineNorm.resetIndex_refines ids pids h1 hr

example : reset_index_ [5, 6, 7, 9] [-1, 5, -1, 7] = some ([0, 1, 2, 4], [-1, 0, -1, 2], ()) := by decide +kernel

/-! ## `is_bifurcate`, as translated -/

/-- the translated `is_bifurcate` equals the model on every table with equally long columns -/
theorem generated_isBifurcate_eq_model (ids pids : List Int) (hl : ids.length = pids.length) (excl : Bool) :
    is_bifurcate (ids, pids) excl = some (isBifurcate ids pids excl) :=
  RefineCheckers.isBifurcate_refines ids pids hl excl

example : is_bifurcate ([0, 1, 2, 3, 4], [-1, 0, 0, 0, 1]) true = some true ∧
          is_bifurcate ([0, 1, 2, 3, 4], [-1, 0, 0, 0, 1]) false = some false ∧
          is_bifurcate ([0, 1, 2, 3, 4, 5], [-1, 0, 1, 1, 1, 0]) true = some false := by decide +kernel

/-- non-vacuity: the translated `get_dsu` on a table with a cycle and a separate tree (kernel-evaluated) -/
example : get_dsu 40 [0, 1, 2, 3, 4, 5] [1, 2, 0, -1, 3, 3] = some [0, 0, 0, 3, 3, 3] ∨
          get_dsu 40 [0, 1, 2, 3, 4, 5] [1, 2, 0, -1, 3, 3] = some [1, 1, 1, 3, 3, 3] ∨
          get_dsu 40 [0, 1, 2, 3, 4, 5] [1, 2, 0, -1, 3, 3] = some [2, 2, 2, 3, 3, 3] := by decide +kernel

end C18
