import SwcVerif.Model.Asc
/-! # C15 — Neurolucida ASC conversion is faithful to the document

Theorems about the lexer/parser model `Model/Asc.lean`: the rows a rendered document converts to (`convert_faithful`),
what is skipped, and which token streams are rejected (`Closes`, `Nest`, `truncation_rejected`). The translated lexer and
parser are proved equal to this model in `Props/C15Gen.lean` and `Props/C15Lex.lean`.

The document grammar (single tree): a branch is a run of points, optionally followed by a split
`( alt | alt | … )` whose alternatives are branches; an alternative may be empty; a branch that splits
has at least one point. -/
namespace C15
open Asc
open SwcText (Sci)

structure Pt where
  x : Sci
  y : Sci
  z : Sci
  r : Sci
deriving Repr, DecidableEq

inductive Branch where
  | leaf (pts : List Pt)                                   -- no split; `leaf []` = empty alternative
  | fork (p : Pt) (pts : List Pt) (alts : List Branch)     -- ≥ 1 point, then `( alt | … )`

def ptToks (p : Pt) : List Tok := [.lp, .float p.x, .float p.y, .float p.z, .float p.r, .rp]

-- the tokens of a branch / of the alternatives of a split (separated by `|`)
mutual
def branchToks : Branch → List Tok
  | .leaf pts => pts.flatMap ptToks
  | .fork p pts alts => ptToks p ++ pts.flatMap ptToks ++ [.lp] ++ altsToks alts ++ [.rp]
def altsToks : List Branch → List Tok
  | [] => []
  | [a] => branchToks a
  | a :: b :: rest => branchToks a ++ [.bar] ++ altsToks (b :: rest)
end

-- number of points
mutual
def Branch.count : Branch → Nat
  | .leaf pts => pts.length
  | .fork _ pts alts => 1 + pts.length + countL alts
def countL : List Branch → Nat
  | [] => 0
  | a :: rest => a.count + countL rest
end

/-- rows of a run of points: the first hangs from `parent`, each next one from its predecessor;
ids are `next, next+1, …` -/
def chainRows (ty : Int) : List Pt → Int → Nat → List Row
  | [], _, _ => []
  | p :: ps, parent, next => ⟨ty, p.x, p.y, p.z, p.r, parent⟩ :: chainRows ty ps (next : Int) (next + 1)

-- **the table the property describes**: one row per point in document order, typed by the label; a
-- point's parent is the preceding point of its branch, or the last point before the enclosing split for
-- the first point of each alternative
mutual
def rowsOf (ty : Int) : Branch → Int → Nat → List Row
  | .leaf pts, parent, next => chainRows ty pts parent next
  | .fork p pts alts, parent, next =>
    chainRows ty (p :: pts) parent next ++ altsRows ty alts ((next + pts.length : Nat) : Int) (next + pts.length + 1)
def altsRows (ty : Int) : List Branch → Int → Nat → List Row
  | [], _, _ => []
  | a :: rest, parent, next => rowsOf ty a parent next ++ altsRows ty rest parent (next + a.count)
end

def docToks (label : SwcText.Str) (b : Branch) : List Tok :=
  [.lp, .lp, .literal label, .rp] ++ branchToks b ++ [.rp]

def labelType (label : SwcText.Str) : Int :=
  if upper label = "AXON".toList then Gen.Consts.type_axon else Gen.Consts.type_basal_dendrite

def NonEmpty : Branch → Prop
  | .leaf pts => pts ≠ []
  | .fork _ _ _ => True

theorem chainRows_length (ty : Int) : ∀ (pts : List Pt) (parent : Int) (next : Nat),
    (chainRows ty pts parent next).length = pts.length
  | [], _, _ => by simp [chainRows]
  | _ :: ps, _, next => by simp [chainRows, chainRows_length ty ps]

mutual
/-- one row per point -/
theorem rows_count (ty : Int) (b : Branch) (parent : Int) (next : Nat) :
    (rowsOf ty b parent next).length = b.count := by
  match b with
  | .leaf pts => simp [rowsOf, Branch.count, chainRows_length]
  | .fork p pts alts => simp [rowsOf, Branch.count, chainRows_length, altsRows_length ty alts]; omega
theorem altsRows_length (ty : Int) : ∀ (alts : List Branch) (parent : Int) (next : Nat),
    (altsRows ty alts parent next).length = countL alts
  | [], _, _ => by simp [altsRows, countL]
  | a :: rest, parent, next => by
    simp [altsRows, countL, rows_count ty a, altsRows_length ty rest]
end

theorem branchToks_fork (p : Pt) (pts : List Pt) (alts : List Branch) :
    branchToks (.fork p pts alts) = (p :: pts).flatMap ptToks ++ .lp :: (altsToks alts ++ [.rp]) := by
  simp [branchToks]

theorem altsToks_cons_cons (a b : Branch) (bs : List Branch) :
    altsToks (a :: b :: bs) = branchToks a ++ .bar :: altsToks (b :: bs) := by
  simp [altsToks]

@[simp] theorem ok_bind {α β : Type} (a : α) (k : α → Except Err β) : (Except.ok a >>= k) = k a := rfl
@[simp] theorem error_bind {α β : Type} (e : Err) (k : α → Except Err β) : (Except.error e >>= k) = .error e := rfl
@[simp] theorem error_map {α β : Type} (e : Err) (k : α → β) : (k <$> (Except.error e : Except Err α)) = .error e := rfl
@[simp] theorem ok_map {α β : Type} (a : α) (k : α → β) : (k <$> (Except.ok a : Except Err α)) = .ok (k a) := rfl

theorem error_of_not_ok {α : Type} {x : Except Err α} (h : ∀ a, x ≠ .ok a) : ∃ e, x = .error e := by
  cases x with
  | error e => exact ⟨e, rfl⟩
  | ok a => exact absurd rfl (h a)

theorem bind_ok_iff {α β : Type} (x : Except Err α) (k : α → Except Err β) (r : β) :
    (x >>= k) = .ok r ↔ ∃ a, x = .ok a ∧ k a = .ok r := by
  cases x with
  | error e => simp
  | ok a => simp

@[simp] theorem adv_single (x : Tok) : adv [x] = .ok [] := rfl
@[simp] theorem adv_nil : adv [] = .ok [] := rfl

-- the hypothesis is written `¬ _ = _` so that `simp` discharges it on a concrete next token
theorem adv_cons (x : Tok) (t : List Tok) (ht : ¬ t.head? = some .bad) : adv (x :: t) = .ok t := by
  cases t with
  | nil => rfl
  | cons y t => cases y <;> simp_all [adv]

theorem adv_ok {x : Tok} {t t' : List Tok} (h : adv (x :: t) = .ok t') : t' = t := by
  cases t with
  | nil => cases h; rfl
  | cons y t => cases y <;> cases h <;> rfl

theorem adv_bind_ok {β : Type} {x : Tok} {t : List Tok} {k : List Tok → Except Err β} {r : β}
    (h : (adv (x :: t) >>= k) = .ok r) : k t = .ok r := by
  obtain ⟨t', h1, h⟩ := (bind_ok_iff ..).1 h
  rwa [adv_ok h1] at h

theorem expectRp_cons (t : List Tok) (ht : ¬ t.head? = some .bad) : expectRp (.rp :: t) = .ok t := adv_cons .rp t ht
theorem expectLp_cons (t : List Tok) (ht : ¬ t.head? = some .bad) : expectLp (.lp :: t) = .ok t := adv_cons .lp t ht

theorem expectRp_ok {t t' : List Tok} (h : expectRp t = .ok t') : t = .rp :: t' := by
  unfold expectRp at h
  split at h
  · cases h
  · rw [adv_ok h]
  · cases h

theorem expectLp_ok {t t' : List Tok} (h : expectLp t = .ok t') : t = .lp :: t' := by
  unfold expectLp at h
  split at h
  · cases h
  · rw [adv_ok h]
  · cases h

theorem parseNode_point (x y z r : Sci) (rest : List Tok) (hr : rest.head? ≠ some .bad) :
    parseNode (.float x :: .float y :: .float z :: .float r :: .rp :: rest) = .ok ((x, y, z, r), rest) := by
  show (adv (.rp :: rest) >>= fun t5 => pure ((x, y, z, r), t5)) = _
  rw [adv_cons _ _ hr]
  rfl

theorem parseNode_ok {toks : List Tok} {v : Sci × Sci × Sci × Sci} {rest : List Tok} (h : parseNode toks = .ok (v, rest)) :
    toks = .float v.1 :: .float v.2.1 :: .float v.2.2.1 :: .float v.2.2.2 :: .rp :: rest := by
  unfold parseNode at h
  split at h
  · replace h := adv_bind_ok h
    split at h
    · replace h := adv_bind_ok h
      split at h
      · replace h := adv_bind_ok h
        split at h
        · replace h := adv_bind_ok h
          rw [bind_ok_iff] at h
          obtain ⟨t5, h5, h⟩ := h
          cases expectRp_ok h5
          cases h
          rfl
        all_goals cases h
      all_goals cases h
    all_goals cases h
  all_goals cases h

theorem parseColor_point (w col : SwcText.Str) (t : List Tok) (ht : t.head? ≠ some .bad) :
    parseColor (.literal w :: .literal col :: .rp :: t) = .ok t :=
  adv_cons .rp t ht

theorem parseColor_ok {toks rest : List Tok} (h : parseColor toks = .ok rest) :
    ∃ w col, toks = .literal w :: .literal col :: .rp :: rest := by
  unfold parseColor at h
  split at h
  · replace h := adv_bind_ok h
    split at h
    · cases expectRp_ok (adv_bind_ok h)
      exact ⟨_, _, rfl⟩
    all_goals cases h
  all_goals cases h

section
variable (ty : Int) (f : Nat) (t : List Tok) (root cur : Int) (rows : List Row)

theorem parseSubtree_nil (flag : Bool) : parseSubtree ty (f + 1) [] flag root cur rows = .ok ([], rows) := rfl

theorem parseSubtree_lp_true : parseSubtree ty (f + 1) (.lp :: t) true root cur rows
    = adv (.lp :: t) >>= fun t1 => parseSubtree ty f t1 false root cur rows := rfl

theorem parseSubtree_lp_false : parseSubtree ty (f + 1) (.lp :: t) false root cur rows
    = adv (.lp :: t) >>= fun t1 => parseSubtree ty f t1 false cur cur rows >>= fun r =>
        expectRp r.1 >>= fun t2 => parseSubtree ty f t2 true root cur r.2 := rfl

theorem parseSubtree_rp_true : parseSubtree ty (f + 1) (.rp :: t) true root cur rows = .ok (.rp :: t, rows) := rfl

theorem parseSubtree_rp_false : parseSubtree ty (f + 1) (.rp :: t) false root cur rows
    = adv (.rp :: t) >>= fun t1 => parseSubtree ty f t1 true root cur rows := rfl

theorem parseSubtree_float_false (v : Sci) : parseSubtree ty (f + 1) (.float v :: t) false root cur rows
    = parseNode (.float v :: t) >>= fun nr => parseSubtree ty f nr.2 true root (rows.length : Int)
        (rows ++ [⟨ty, nr.1.1, nr.1.2.1, nr.1.2.2.1, nr.1.2.2.2, cur⟩]) := rfl

theorem parseSubtree_literal (w : SwcText.Str) (flag : Bool) : parseSubtree ty (f + 1) (.literal w :: t) flag root cur rows
    = if upper w = "COLOR".toList then parseColor (.literal w :: t) >>= fun t1 => parseSubtree ty f t1 true root cur rows
      else .error .literal := rfl

theorem parseSubtree_bar_true : parseSubtree ty (f + 1) (.bar :: t) true root cur rows
    = adv (.bar :: t) >>= fun t1 => parseSubtree ty f t1 true root root rows := rfl

theorem parseSubtree_bar_false : parseSubtree ty (f + 1) (.bar :: t) false root cur rows
    = parseSubtree ty f (.bar :: t) true cur cur rows >>= fun r =>
        expectRp r.1 >>= fun t2 => parseSubtree ty f t2 true root cur r.2 := rfl

theorem parseSubtree_comment (c : SwcText.Str) (flag : Bool) : parseSubtree ty (f + 1) (.comment c :: t) flag root cur rows
    = adv (.comment c :: t) >>= fun t1 => parseSubtree ty f t1 flag root cur rows := rfl

end

/-- a comment token is skipped in every state of the subtree loop -/
theorem comment_skipped (ty : Int) (f : Nat) (c : SwcText.Str) (t : List Tok) (flag : Bool) (root cur : Int) (rows : List Row)
    (ht : t.head? ≠ some .bad) :
    parseSubtree ty (f + 1) (.comment c :: t) flag root cur rows = parseSubtree ty f t flag root cur rows := by
  rw [parseSubtree_comment, adv_cons _ t ht, ok_bind]

/-- a colour marker `( Color <word> )` between points changes nothing -/
theorem color_skipped (ty : Int) (f : Nat) (w col : SwcText.Str) (t : List Tok) (root cur : Int) (rows : List Row)
    (hw : upper w = "COLOR".toList) (ht : t.head? ≠ some .bad) :
    parseSubtree ty (f + 2) (.lp :: .literal w :: .literal col :: .rp :: t) true root cur rows
      = parseSubtree ty f t true root cur rows := by
  rw [parseSubtree_lp_true, adv_cons _ _ (by simp), ok_bind, parseSubtree_literal, if_pos hw, parseColor_point w col t ht,
    ok_bind]

/-- a point that lacks its opening bracket is rejected -/
theorem unbracketed_point_rejected (ty : Int) (f : Nat) (v : Sci) (rest : List Tok) (root cur : Int) (rows : List Row) :
    parseSubtree ty (f + 1) (.float v :: rest) true root cur rows = .error .tokenType := rfl

/-- an error inside a point is an error of the whole conversion step (nothing is converted in part) -/
theorem node_error_propagates (ty : Int) (f : Nat) (toks : List Tok) (v : Sci) (rest : List Tok) (flag : Bool)
    (root cur : Int) (rows : List Row) (er : Err) (ht : toks = .float v :: rest) (h : parseNode toks = .error er)
    (hf : flag = false) :
    parseSubtree ty (f + 1) toks flag root cur rows = .error er := by
  subst ht hf
  rw [parseSubtree_float_false, h, error_bind]

/-- a point with three numbers, with five numbers, or with a word inside is an error -/
theorem bad_point_rejected (a b c d e : Sci) (w : SwcText.Str) (t : List Tok) :
    (∃ er, parseNode (.float a :: .float b :: .float c :: .rp :: t) = .error er) ∧
    (∃ er, parseNode (.float a :: .float b :: .float c :: .float d :: .float e :: t) = .error er) ∧
    (∃ er, parseNode (.float a :: .literal w :: t) = .error er) ∧
    (∃ er, parseNode (.float a :: .float b :: .float c :: .float d :: []) = .error er) := by
  refine ⟨error_of_not_ok ?_, error_of_not_ok ?_, error_of_not_ok ?_, error_of_not_ok ?_⟩ <;>
    intro (v, rest) h <;> simpa using parseNode_ok h

/-! ## simulation of the subtree loop on rendered branches -/

theorem point_step (ty : Int) (g : Nat) (p : Pt) (rest : List Tok) (root cur : Int)
    (rows : List Row) (hr : rest.head? ≠ some .bad) :
    parseSubtree ty (g + 2) (ptToks p ++ rest) true root cur rows
      = parseSubtree ty g rest true root (rows.length : Int) (rows ++ [⟨ty, p.x, p.y, p.z, p.r, cur⟩]) := by
  simp only [ptToks, List.cons_append, List.nil_append]
  rw [parseSubtree_lp_true, adv_cons _ _ (by simp), ok_bind, parseSubtree_float_false, parseNode_point _ _ _ _ _ hr, ok_bind]

theorem chain_run (ty : Int) : ∀ (p : Pt) (pts : List Pt) (g : Nat) (rest : List Tok) (root cur : Int) (rows : List Row),
    rest.head? ≠ some .bad →
    parseSubtree ty (g + 2 * (pts.length + 1)) ((p :: pts).flatMap ptToks ++ rest) true root cur rows
      = parseSubtree ty g rest true root ((rows.length + pts.length : Nat) : Int) (rows ++ chainRows ty (p :: pts) cur rows.length)
  | p, [], g, rest, root, cur, rows, hr => by simpa [chainRows] using point_step ty g p rest root cur rows hr
  | p, q :: qs, g, rest, root, cur, rows, hr => by
    rw [List.flatMap_cons, List.append_assoc, List.length_cons, Nat.mul_add, ← Nat.add_assoc,
      point_step ty _ p _ root cur rows (by simp [ptToks]), chain_run ty q qs g rest root _ _ hr]
    simp [chainRows, Int.add_assoc, Int.add_comm 1]

/-- loop iterations spent on the branch by the call that meets it -/
def seq : Branch → Nat
  | .leaf pts => 2 * pts.length
  | .fork _ pts _ => 2 * (pts.length + 1) + 2

-- fuel that must be left after the branch so that the recursive calls inside it complete
mutual
def need : Branch → Nat
  | .leaf _ => 0
  | .fork _ _ alts => needL alts
def needL : List Branch → Nat
  | [] => 1
  | a :: rest => seq a + need a + 1 + needL rest
end

theorem branchToks_shape (b : Branch) :
    (branchToks b = [] ∧ b = .leaf []) ∨ ∃ v t, branchToks b = .lp :: .float v :: t := by
  cases b with
  | leaf pts =>
    cases pts with
    | nil => exact .inl ⟨rfl, rfl⟩
    | cons p ps => exact .inr ⟨p.x, _, rfl⟩
  | fork p pts alts => exact .inr ⟨p.x, _, rfl⟩

theorem altsToks_shape (alts : List Branch) :
    altsToks alts = [] ∨ (∃ v t, altsToks alts = .lp :: .float v :: t) ∨ (∃ t, altsToks alts = .bar :: t) := by
  match alts with
  | [] => exact .inl rfl
  | [a] => exact (branchToks_shape a).imp And.left .inl
  | a :: b :: rest =>
    rw [altsToks_cons_cons]
    rcases branchToks_shape a with ⟨h, _⟩ | ⟨v, t, h⟩
    · right; right; exact ⟨_, by rw [h]; rfl⟩
    · right; left; exact ⟨v, _, by rw [h]; rfl⟩

theorem altsToks_head (alts : List Branch) (rest : List Tok) :
    (altsToks alts ++ .rp :: rest).head? ≠ some .bad := by
  rcases altsToks_shape alts with h | ⟨v, t, h⟩ | ⟨t, h⟩ <;> simp [h]

/-- the `( alt | … )` part of a branch, given the behaviour of the recursive call on `alts` -/
theorem split_step (ty : Int) (alts : List Branch) (g : Nat) (rest : List Tok) (root cur : Int) (rows : List Row)
    (hr : rest.head? ≠ some .bad)
    (hQ : ∀ (f : Nat) (rest : List Tok) (par : Int) (rows : List Row), rest.head? ≠ some .bad → needL alts ≤ f →
      parseSubtree ty f (altsToks alts ++ .rp :: rest) true par par rows
        = .ok (.rp :: rest, rows ++ altsRows ty alts par rows.length))
    (hg : needL alts ≤ g) :
    parseSubtree ty (g + 2) (.lp :: (altsToks alts ++ .rp :: rest)) true root cur rows
      = parseSubtree ty g rest true root cur (rows ++ altsRows ty alts cur rows.length) := by
  rw [parseSubtree_lp_true, adv_cons _ _ (altsToks_head alts rest), ok_bind]
  rcases altsToks_shape alts with h | ⟨v, t, h⟩ | ⟨t, h⟩
  · -- no tokens between the brackets: the recursive call returns at once, so it adds no rows
    have hq := hQ (g + 1) rest cur rows hr (by omega)
    rw [h, List.nil_append, parseSubtree_rp_true] at hq
    injection hq with hq
    injection hq with _ hq
    rw [h, List.nil_append, parseSubtree_rp_false, adv_cons _ _ hr, ok_bind, ← hq]
  · have hq := hQ (g + 1) rest cur rows hr (by omega)
    rw [h, List.cons_append, parseSubtree_lp_true, adv_cons _ _ (by simp), ok_bind] at hq
    rw [h, List.cons_append, parseSubtree_lp_false, adv_cons _ _ (by simp), ok_bind, hq]
    simp only [ok_bind, expectRp_cons _ hr]
  · have hq := hQ g rest cur rows hr hg
    rw [h, List.cons_append] at hq
    simp only [h, List.cons_append, parseSubtree_bar_false, hq, ok_bind, expectRp_cons _ hr]

mutual
/-- which node is current afterwards does not matter, since `|` or `)` follows -/
theorem sim_branch (ty : Int) : ∀ (b : Branch) (g : Nat) (rest : List Tok) (root cur : Int) (rows : List Row),
    rest.head? ≠ some .bad → need b ≤ g →
    ∃ cur', parseSubtree ty (g + seq b) (branchToks b ++ rest) true root cur rows
      = parseSubtree ty g rest true root cur' (rows ++ rowsOf ty b cur rows.length)
  | .leaf [], g, rest, root, cur, rows, _, _ => ⟨cur, by simp [seq, branchToks, rowsOf, chainRows]⟩
  | .leaf (p :: ps), g, rest, root, cur, rows, hr, _ =>
    ⟨_, by simpa [seq, branchToks, rowsOf] using chain_run ty p ps g rest root cur rows hr⟩
  | .fork p pts alts, g, rest, root, cur, rows, hr, hg => by
    have h2 : g + seq (.fork p pts alts) = (g + 2) + 2 * (pts.length + 1) := by rw [seq]; omega
    refine ⟨((rows.length + pts.length : Nat) : Int), ?_⟩
    rw [branchToks_fork, List.append_assoc, List.cons_append, List.append_assoc, List.singleton_append, h2,
      chain_run ty p pts (g + 2) _ root cur rows (by simp),
      split_step ty alts g rest root _ _ hr (fun f rest par rows hr hf => sim_alts ty alts f rest par rows hr hf)
        (by simpa [need] using hg)]
    simp [rowsOf, chainRows_length, List.append_assoc, Nat.add_assoc]
theorem sim_alts (ty : Int) : ∀ (alts : List Branch) (f : Nat) (rest : List Tok) (par : Int) (rows : List Row),
    rest.head? ≠ some .bad → needL alts ≤ f →
    parseSubtree ty f (altsToks alts ++ .rp :: rest) true par par rows
      = .ok (.rp :: rest, rows ++ altsRows ty alts par rows.length)
  | [], 0, _, _, _, _, hf => by cases hf
  | [], f + 1, rest, par, rows, _, _ => by simp [altsToks, altsRows, parseSubtree_rp_true]
  | a :: tl, f, rest, par, rows, hr, hf => by
    rw [needL] at hf
    obtain ⟨g, rfl⟩ : ∃ g, f = (g + 1) + seq a := ⟨f - seq a - 1, by omega⟩
    cases tl with
    | nil =>
      obtain ⟨c, h⟩ := sim_branch ty a (g + 1) (.rp :: rest) par par rows (by simp) (by omega)
      simp only [altsToks]
      rw [h, parseSubtree_rp_true]
      simp [altsRows]
    | cons b bs =>
      obtain ⟨c, h⟩ := sim_branch ty a (g + 1) (.bar :: (altsToks (b :: bs) ++ .rp :: rest)) par par rows (by simp) (by omega)
      rw [altsToks_cons_cons, List.append_assoc, List.cons_append, h,
        parseSubtree_bar_true, adv_cons _ _ (altsToks_head (b :: bs) rest), ok_bind,
        sim_alts ty (b :: bs) g rest par _ hr (by omega)]
      simp [altsRows, rows_count, List.append_assoc]
end

/-! ## fuel bound and the document level -/

theorem flatMap_ptToks_length (pts : List Pt) : (pts.flatMap ptToks).length = 6 * pts.length := by
  induction pts with
  | nil => rfl
  | cons p ps ih => simp [List.flatMap_cons, ptToks, ih]; omega

mutual
theorem need_le : ∀ (b : Branch), seq b + need b ≤ (branchToks b).length
  | .leaf pts => by simp only [seq, need, branchToks, flatMap_ptToks_length]; omega
  | .fork p pts alts => by
    have := needL_le alts
    simp only [seq, need, branchToks, List.length_append, flatMap_ptToks_length, ptToks, List.length_cons,
      List.length_nil]; omega
theorem needL_le : ∀ (alts : List Branch), needL alts ≤ (altsToks alts).length + 2
  | [] => by simp [needL, altsToks]
  | [a] => by have := need_le a; simp [needL, altsToks]; omega
  | a :: b :: bs => by
    have := need_le a
    have := needL_le (b :: bs)
    simp only [needL, altsToks, List.length_append, List.length_cons, List.length_nil] at *; omega
end

/-- the call `_parse_tree` makes: the opening bracket of the first point is already consumed -/
theorem top_run (ty : Int) (b : Branch) (v : Sci) (t rest : List Tok) (par : Int) (rows : List Row) (f : Nat)
    (h : branchToks b = .lp :: .float v :: t) (hr : rest.head? ≠ some .bad)
    (hf : (branchToks b).length + 1 ≤ f) :
    parseSubtree ty f (.float v :: (t ++ .rp :: rest)) false par par rows
      = .ok (.rp :: rest, rows ++ rowsOf ty b par rows.length) := by
  have hq := sim_alts ty [b] (f + 1) rest par rows hr (by have := needL_le [b]; simp only [altsToks] at this; omega)
  rw [altsToks, h, List.cons_append, parseSubtree_lp_true, adv_cons _ _ (by simp), ok_bind] at hq
  simpa [altsRows] using hq

theorem skipComments_lp (f : Nat) (t : List Tok) : skipComments (f + 1) (.lp :: t) = .ok (.lp :: t) := rfl

theorem skipComments_run : ∀ (cs : List SwcText.Str) (f : Nat) (t : List Tok), cs.length < f →
    skipComments f (cs.map .comment ++ .lp :: t) = .ok (.lp :: t)
  | [], f + 1, t, _ => skipComments_lp f t
  | c :: cs, f + 1, t, h => by
    rw [List.map_cons, List.cons_append, skipComments, adv_cons _ _ (by cases cs <;> simp), ok_bind]
    exact skipComments_run cs f t (by simpa using h)

theorem parseTop_hdr (label : SwcText.Str) (T : List Tok) (f : Nat)
    (hl : upper label = "AXON".toList ∨ upper label = "DENDRITE".toList) (hT : T.head? ≠ some .bad) :
    parseTop (f + 1) (.lp :: .literal label :: .rp :: T) []
      = (skipComments f T >>= fun t4 => expectLp t4 >>= fun t5 =>
          parseSubtree (labelType label) f t5 false (-1) (-1) [] >>= fun r => parseTop f r.1 r.2) := by
  rw [parseTop]
  simp only [adv_cons _ _ (show ¬ (Tok.literal label :: Tok.rp :: T).head? = some .bad by simp), ok_bind]
  rw [if_pos (by rcases hl with h | h <;> simp [h])]
  simp only [adv_cons _ _ (show ¬ (Tok.rp :: T).head? = some .bad by simp), ok_bind, expectRp_cons _ hT, labelType]

theorem parseTop_tree (label : SwcText.Str) (cs : List SwcText.Str) (b : Branch) (extra : List Tok) (f : Nat)
    (hl : upper label = "AXON".toList ∨ upper label = "DENDRITE".toList) (hb : NonEmpty b)
    (hx : extra.head? ≠ some .bad) (hf : cs.length + (branchToks b).length + 2 ≤ f) :
    parseTop (f + 1) (.lp :: .literal label :: .rp :: (cs.map .comment ++ (branchToks b ++ .rp :: extra))) []
      = .ok (.rp :: extra, rowsOf (labelType label) b (-1) 0) := by
  obtain ⟨_, rfl⟩ | ⟨v, t, h⟩ := branchToks_shape b
  · exact absurd rfl hb
  obtain ⟨f, rfl⟩ : ∃ f', f = f' + 1 := ⟨f - 1, by omega⟩
  rw [h] at hf ⊢
  simp only [List.cons_append]
  have hrun := top_run (labelType label) b v t extra (-1) [] (f + 1) h hx (by rw [h]; omega)
  rw [parseTop_hdr label _ (f + 1) hl (by cases cs <;> simp),
    skipComments_run cs (f + 1) _ (by omega), ok_bind, expectLp_cons _ (by simp), ok_bind, hrun]
  rfl

/-- `convertTokens` with the fuel made explicit -/
def convertWith (N : Nat) (toks : List Tok) : Except Err (List Row) := do
  let t0 ← skipComments N toks
  let t1 ← expectLp t0
  let r ← parseTop N t1 []
  match r.1 with
  | [] => .error .eof
  | .rp :: _ => do
    let _ ← adv r.1
    pure r.2
  | _ => .error .tokenType

theorem convertTokens_eq (toks : List Tok) (h : toks.head? ≠ some .bad) :
    convertTokens toks = convertWith (2 * toks.length + 4) toks := by
  cases toks with
  | nil => rfl
  | cons x t => cases x <;> first | rfl | simp at h

theorem convertWith_doc (label : SwcText.Str) (cs1 cs2 : List SwcText.Str) (b : Branch) (extra : List Tok) (N : Nat)
    (hl : upper label = "AXON".toList ∨ upper label = "DENDRITE".toList) (hb : NonEmpty b)
    (hx : extra.head? ≠ some .bad) (hN : cs1.length + cs2.length + (branchToks b).length + 3 ≤ N) :
    convertWith N (cs1.map .comment ++ .lp :: .lp :: .literal label :: .rp ::
        (cs2.map .comment ++ (branchToks b ++ .rp :: extra)))
      = .ok (rowsOf (labelType label) b (-1) 0) := by
  obtain ⟨f, rfl⟩ : ∃ f', N = f' + 1 := ⟨N - 1, by omega⟩
  rw [convertWith, skipComments_run cs1 (f + 1) _ (by omega), ok_bind, expectLp_cons _ (by simp), ok_bind,
    parseTop_tree label cs2 b extra f hl hb hx (by omega)]
  simp only [ok_bind, adv_cons .rp _ hx]
  rfl

/-- **Conversion is faithful**, at any nesting depth and any branch length, with any number of comments in front of the
document and between the label and the first point, whatever follows the closing bracket (unless the very next word is a
malformed number): the result is exactly `rowsOf`. -/
theorem convert_doc (label : SwcText.Str) (cs1 cs2 : List SwcText.Str) (b : Branch) (extra : List Tok)
    (hl : upper label = "AXON".toList ∨ upper label = "DENDRITE".toList) (hb : NonEmpty b)
    (hx : extra.head? ≠ some .bad) :
    convertTokens (cs1.map .comment ++ [.lp, .lp, .literal label, .rp] ++ cs2.map .comment ++ branchToks b ++ .rp :: extra)
      = .ok (rowsOf (labelType label) b (-1) 0) := by
  rw [convertTokens_eq _ (by cases cs1 <;> simp)]
  simpa using convertWith_doc label cs1 cs2 b extra _ hl hb hx (by simp; omega)

/-- **Conversion is faithful**, at any nesting depth and any branch length: the document
`( (label) <branch> )` converts to exactly `rowsOf`. -/
theorem convert_faithful (label : SwcText.Str) (b : Branch)
    (hl : upper label = "AXON".toList ∨ upper label = "DENDRITE".toList) (hb : NonEmpty b) :
    convertTokens (docToks label b) = .ok (rowsOf (labelType label) b (-1) 0) := by
  simpa [docToks] using convert_doc label [] [] b [] hl hb (by simp)

/-- trailing text after the closing bracket of the document is never looked at (unless the very next
word is a malformed number) -/
theorem trailing_ignored (label : SwcText.Str) (b : Branch) (extra : List Tok)
    (hl : upper label = "AXON".toList ∨ upper label = "DENDRITE".toList) (hb : NonEmpty b)
    (hx : extra.head? ≠ some .bad) :
    convertTokens (docToks label b ++ extra) = .ok (rowsOf (labelType label) b (-1) 0) := by
  simpa [docToks] using convert_doc label [] [] b extra hl hb hx

/-- comments before the document, and between the label and the first point, are skipped -/
theorem leading_comment_skipped (c : SwcText.Str) (label : SwcText.Str) (b : Branch)
    (hl : upper label = "AXON".toList ∨ upper label = "DENDRITE".toList) (hb : NonEmpty b) :
    convertTokens (.comment c :: docToks label b) = .ok (rowsOf (labelType label) b (-1) 0) ∧
    convertTokens ([.lp, .lp, .literal label, .rp, .comment c] ++ branchToks b ++ [.rp]) = .ok (rowsOf (labelType label) b (-1) 0) := by
  exact ⟨by simpa [docToks] using convert_doc label [c] [] b [] hl hb (by simp),
    by simpa using convert_doc label [] [c] b [] hl hb (by simp)⟩

/-! ## rejection: an accepted stream closes its brackets

`parseSubtree` returns only at the end of the input or in front of a closing bracket that the tokens it consumed do not open
(`parseSubtree_closes`); so an accepted token stream has a closing bracket at depth 1 (`convert_ok_closes`), and a stream cut
before that bracket is rejected (`unclosed_rejected`), whatever it contains. -/

/-- bracket depth of a token list -/
def depth : List Tok → Int
  | [] => 0
  | .lp :: t => depth t + 1
  | .rp :: t => depth t - 1
  | _ :: t => depth t

theorem depth_append (a b : List Tok) : depth (a ++ b) = depth a + depth b := by
  induction a with
  | nil => simp [depth]
  | cons x a ih => cases x <;> simp only [List.cons_append, depth, ih] <;> omega

def Closes (d : Int) (toks rest : List Tok) : Prop :=
  rest = [] ∨ ∃ pre t, rest = .rp :: t ∧ toks = pre ++ rest ∧ depth pre ≤ d

theorem Closes.refl (t : List Tok) : Closes 0 (.rp :: t) (.rp :: t) := .inr ⟨[], t, rfl, rfl, Int.le_refl 0⟩

theorem Closes.mono {d d' : Int} {toks rest : List Tok} (h : Closes d toks rest) (hd : d ≤ d') : Closes d' toks rest :=
  h.imp_right fun ⟨pre, t, h1, h2, h3⟩ => ⟨pre, t, h1, h2, Int.le_trans h3 hd⟩

theorem Closes.prepend {d : Int} {toks rest : List Tok} (h : Closes d toks rest) (pre : List Tok) :
    Closes (depth pre + d) (pre ++ toks) rest := by
  rcases h with h | ⟨p, t, h1, rfl, h3⟩
  · exact .inl h
  · exact .inr ⟨pre ++ p, t, h1, (List.append_assoc ..).symm, by rw [depth_append]; omega⟩

theorem Closes.trans {d₁ d₂ : Int} {a b c : List Tok} (h₁ : Closes d₁ a b) (h₂ : Closes d₂ b c) : Closes (d₁ + d₂) a c := by
  rcases h₂ with h | ⟨p₂, t, h, rfl, hp₂⟩
  · exact .inl h
  · rcases h₁ with h' | ⟨p₁, _, _, rfl, hp₁⟩
    · rw [h] at h'; simp at h'
    · exact .inr ⟨p₁ ++ p₂, t, h, (List.append_assoc ..).symm, by rw [depth_append]; omega⟩

theorem parseSubtree_closes (ty : Int) : ∀ (f : Nat) (toks : List Tok) (flag : Bool) {root cur : Int} {rows : List Row}
    {r : List Tok × List Row}, parseSubtree ty f toks flag root cur rows = .ok r →
    Closes (if flag then 0 else -1) toks r.1
  | 0, _, _, _, _, _, _, h => by cases h
  | f + 1, [], _, _, _, _, _, h => by cases h; exact .inl rfl
  | f + 1, .lp :: t, true, _, _, _, _, h => by
    rw [parseSubtree_lp_true] at h
    exact (parseSubtree_closes ty f t false (adv_bind_ok h)).prepend [.lp]
  | f + 1, .lp :: t, false, _, _, _, _, h => by
    simp only [parseSubtree_lp_false, bind_ok_iff] at h
    obtain ⟨t1, h1, r1, h2, t2, h3, h⟩ := h
    cases adv_ok h1
    have c1 := parseSubtree_closes ty f t false h2
    rw [expectRp_ok h3] at c1
    exact ((c1.trans ((parseSubtree_closes ty f t2 true h).prepend [.rp])).prepend [.lp]).mono (by decide)
  | f + 1, .rp :: t, true, _, _, _, _, h => by cases h; exact .refl t
  | f + 1, .rp :: t, false, _, _, _, _, h => by
    rw [parseSubtree_rp_false] at h
    exact (parseSubtree_closes ty f t true (adv_bind_ok h)).prepend [.rp]
  | f + 1, .float v :: t, true, _, _, _, _, h => by cases h
  | f + 1, .float v :: t, false, _, _, _, _, h => by
    rw [parseSubtree_float_false, bind_ok_iff] at h
    obtain ⟨⟨v', t1⟩, h1, h⟩ := h
    rw [parseNode_ok h1]
    exact (parseSubtree_closes ty f t1 true h).prepend [.float _, .float _, .float _, .float _, .rp]
  | f + 1, .literal w :: t, flag, _, _, _, _, h => by
    rw [parseSubtree_literal] at h
    split at h
    · rw [bind_ok_iff] at h
      obtain ⟨t1, h1, h⟩ := h
      obtain ⟨w', col, h1⟩ := parseColor_ok h1
      rw [h1]
      exact ((parseSubtree_closes ty f t1 true h).prepend [.literal w', .literal col, .rp]).mono
        (by cases flag <;> simp [depth])
    · cases h
  | f + 1, .bar :: t, true, _, _, _, _, h => by
    rw [parseSubtree_bar_true] at h
    exact (parseSubtree_closes ty f t true (adv_bind_ok h)).prepend [.bar]
  | f + 1, .bar :: t, false, _, _, _, _, h => by
    simp only [parseSubtree_bar_false, bind_ok_iff] at h
    obtain ⟨r1, h2, t2, h3, h⟩ := h
    have c1 := parseSubtree_closes ty f _ true h2
    rw [expectRp_ok h3] at c1
    exact c1.trans ((parseSubtree_closes ty f t2 true h).prepend [.rp])
  | f + 1, .comment c :: t, flag, _, _, _, _, h => by
    rw [parseSubtree_comment] at h
    exact ((parseSubtree_closes ty f t flag (adv_bind_ok h)).prepend [.comment c]).mono (by simp [depth])
  | f + 1, .bad :: t, _, _, _, _, _, h => by cases h

theorem skipComments_ok : ∀ (f : Nat) (toks rest : List Tok), skipComments f toks = .ok rest →
    ∃ pre, toks = pre ++ rest ∧ depth pre = 0
  | 0, _, _, h => by cases h
  | f + 1, toks, rest, h => by
    unfold skipComments at h
    split at h
    · rw [bind_ok_iff] at h
      obtain ⟨t1, h1, h⟩ := h
      cases adv_ok h1
      obtain ⟨pre, rfl, hp⟩ := skipComments_ok f _ rest h
      exact ⟨_ :: pre, rfl, hp⟩
    · cases h
      exact ⟨[], rfl, rfl⟩

theorem parseTop_closes : ∀ (f : Nat) (toks : List Tok) (rows : List Row) (r : List Tok × List Row),
    parseTop f toks rows = .ok r → Closes 0 toks r.1
  | 0, _, _, _, h => by cases h
  | f + 1, [], _, _, h => by cases h; exact .inl rfl
  | f + 1, .comment c :: t, _, _, h => by
    rw [parseTop] at h
    exact (parseTop_closes f t _ _ (adv_bind_ok h)).prepend [.comment c]
  | f + 1, .rp :: t, _, _, h => by cases h; exact .refl t
  | f + 1, .lp :: t, rows, r, h => by
    rw [parseTop] at h
    replace h := adv_bind_ok h
    split at h
    · cases h
    · dsimp only at h
      split at h
      · -- `(label) ; comments (` and the subtree: depth 1 - 1 + 0 + 1 - 1
        simp only [bind_ok_iff] at h
        obtain ⟨t2, h2, t3, h3, t4, h4, t5, h5, r1, h6, h⟩ := h
        cases adv_ok h2
        cases expectRp_ok h3
        obtain ⟨cs, rfl, hcs⟩ := skipComments_ok f _ _ h4
        cases expectLp_ok h5
        have c := (((parseSubtree_closes _ f t5 false h6).trans (parseTop_closes f _ _ _ h)).prepend [.lp]).prepend cs
        exact (c.prepend [.lp, .literal _, .rp]).mono (by simp [hcs, depth])
      · split at h
        · rw [bind_ok_iff] at h
          obtain ⟨t2, h2, h⟩ := h
          obtain ⟨w', col, h2⟩ := parseColor_ok h2
          rw [h2]
          exact (parseTop_closes f t2 _ _ h).prepend [.lp, .literal w', .literal col, .rp]
        · cases h
    · cases h
  | f + 1, .float v :: t, _, _, h => by cases h
  | f + 1, .literal w :: t, _, _, h => by cases h
  | f + 1, .bar :: t, _, _, h => by cases h
  | f + 1, .bad :: t, _, _, h => by cases h

/-- **an accepted token stream closes the bracket it opens**: it has a closing bracket in front of which the brackets are
at depth 1 at most -/
theorem convert_ok_closes {toks : List Tok} {rows : List Row} (h : convertTokens toks = .ok rows) :
    ∃ pre t, toks = pre ++ .rp :: t ∧ depth pre ≤ 1 := by
  have hb : toks.head? ≠ some .bad := by
    intro hb
    cases toks with
    | nil => cases hb
    | cons x t => cases hb; cases h
  rw [convertTokens_eq _ hb] at h
  simp only [convertWith, bind_ok_iff] at h
  obtain ⟨t0, h0, t1, h1, r, h2, h⟩ := h
  obtain ⟨cs, rfl, hcs⟩ := skipComments_ok _ _ _ h0
  cases expectLp_ok h1
  rcases parseTop_closes _ _ _ _ h2 with h3 | ⟨pre, t, h3, rfl, hp⟩
  · rw [h3] at h; cases h
  · exact ⟨cs ++ .lp :: pre, t, by rw [h3]; simp, by rw [depth_append, hcs, depth]; omega⟩

/-- **a stream whose brackets stay open is rejected**: if every non-empty prefix has more opening than closing brackets,
the conversion fails, whatever the tokens are -/
theorem unclosed_rejected {toks : List Tok} (h : ∀ q, q <+: toks → q ≠ [] → 1 ≤ depth q) :
    ∃ er, convertTokens toks = .error er := by
  refine error_of_not_ok fun rows hc => ?_
  obtain ⟨pre, t, rfl, hp⟩ := convert_ok_closes hc
  have := h (pre ++ [.rp]) ⟨t, by simp⟩ (by simp)
  rw [depth_append] at this
  simp only [depth] at this
  omega

def Nest (l : List Tok) : Prop := depth l = 0 ∧ ∀ q, q <+: l → 0 ≤ depth q

theorem Nest.nil : Nest [] := ⟨rfl, fun q hq => by rw [List.prefix_nil.1 hq]; decide⟩

theorem Nest.cons {x : Tok} {l : List Tok} (hx : depth [x] = 0) (hl : Nest l) : Nest (x :: l) := by
  have hd (t : List Tok) : depth (x :: t) = depth t := (depth_append [x] t).trans (by rw [hx, Int.zero_add])
  refine ⟨by rw [hd, hl.1], fun q hq => ?_⟩
  rcases List.prefix_cons_iff.1 hq with rfl | ⟨t, rfl, ht⟩
  · decide
  · rw [hd]; exact hl.2 t ht

theorem Nest.append {a b : List Tok} (ha : Nest a) (hb : Nest b) : Nest (a ++ b) := by
  refine ⟨by rw [depth_append, ha.1, hb.1]; rfl, fun q hq => ?_⟩
  rcases List.prefix_or_prefix_of_prefix hq (List.prefix_append a b) with h | ⟨t, rfl⟩
  · exact ha.2 q h
  · have := hb.2 t ((List.prefix_append_right_inj a).1 hq)
    rw [depth_append, ha.1]
    omega

theorem Nest.open_prefix {a q : List Tok} (ha : Nest a) (hq : q <+: .lp :: a) (hne : q ≠ []) : 1 ≤ depth q := by
  rcases List.prefix_cons_iff.1 hq with rfl | ⟨t, rfl, ht⟩
  · exact absurd rfl hne
  · have := ha.2 t ht
    rw [depth]
    omega

theorem Nest.paren {a : List Tok} (ha : Nest a) : Nest (.lp :: (a ++ [.rp])) := by
  have hd : depth (.lp :: (a ++ [.rp])) = 0 := by rw [depth, depth_append, ha.1]; rfl
  refine ⟨hd, fun q hq => ?_⟩
  rcases List.prefix_concat_iff.1 (show q <+: (.lp :: a) ++ [.rp] from hq) with rfl | h
  · exact Int.le_of_eq hd.symm
  · by_cases hne : q = []
    · rw [hne]; decide
    · have := ha.open_prefix h hne
      omega

theorem nest_ptToks (p : Pt) : Nest (ptToks p) :=
  Nest.paren (a := [.float p.x, .float p.y, .float p.z, .float p.r]) (.cons rfl (.cons rfl (.cons rfl (.cons rfl .nil))))

theorem nest_flatMap (pts : List Pt) : Nest (pts.flatMap ptToks) := by
  induction pts with
  | nil => exact .nil
  | cons p ps ih => exact .append (nest_ptToks p) ih

mutual
theorem nest_branchToks : ∀ b : Branch, Nest (branchToks b)
  | .leaf pts => by rw [branchToks]; exact nest_flatMap pts
  | .fork p pts alts => by rw [branchToks_fork]; exact .append (nest_flatMap _) (.paren (nest_altsToks alts))
theorem nest_altsToks : ∀ alts : List Branch, Nest (altsToks alts)
  | [] => by rw [altsToks]; exact .nil
  | [a] => by rw [altsToks]; exact nest_branchToks a
  | a :: b :: bs => by
    rw [altsToks_cons_cons]
    exact .append (nest_branchToks a) (.cons rfl (nest_altsToks (b :: bs)))
end

/-- **a document that stops before its final closing bracket is rejected**, whatever the label and the branch -/
theorem open_doc_rejected (label : SwcText.Str) (b : Branch) {T : List Tok}
    (hT : T <+: [.lp, .lp, .literal label, .rp] ++ branchToks b) : ∃ er, convertTokens T = .error er :=
  unclosed_rejected fun q hq hne =>
    Nest.open_prefix (.append (Nest.paren (a := [.literal label]) (.cons rfl .nil)) (nest_branchToks b))
      (show q <+: .lp :: ([.lp, .literal label, .rp] ++ branchToks b) from hq.trans hT) hne

theorem take_concat_prefix {α : Type} (l : List α) (x : α) (k : Nat) (hk : k < (l ++ [x]).length) :
    (l ++ [x]).take k <+: l := by
  rw [List.take_append_of_le_length (by simpa using Nat.le_of_lt_succ (by simpa using hk))]
  exact List.take_prefix k l

theorem take_docToks_rejected (label : SwcText.Str) (b : Branch) (k : Nat) (hk : k < (docToks label b).length) :
    ∃ er, convertTokens ((docToks label b).take k) = .error er :=
  open_doc_rejected label b (take_concat_prefix _ _ k hk)

/-- **a document that ends prematurely is rejected**, part 1: the token stream cut anywhere inside the tree's
points — every proper prefix that still contains the header (cuts inside the header: `header_truncation_rejected`;
both together: `truncation_rejected`) -/
theorem truncation_rejected_body (label : SwcText.Str) (b : Branch) (k : Nat)
    (hl : upper label = "AXON".toList ∨ upper label = "DENDRITE".toList) (hb : NonEmpty b)
    (hk : k < (branchToks b ++ [Tok.rp]).length) :
    ∃ er, convertTokens ([.lp, .lp, .literal label, .rp] ++ (branchToks b ++ [Tok.rp]).take k) = .error er :=
  open_doc_rejected label b ((List.prefix_append_right_inj _).2 (take_concat_prefix _ _ k hk))

/-- **a document cut inside its header is rejected**: every proper prefix of `( ( label )` — together with
`truncation_rejected_body` every proper prefix of the token stream of a well-formed document is rejected -/
theorem header_truncation_rejected (label : SwcText.Str) (k : Nat) (hk : k < 4)
    (hl : upper label = "AXON".toList ∨ upper label = "DENDRITE".toList) :
    ∃ er, convertTokens (([.lp, .lp, .literal label, .rp] : List Tok).take k) = .error er :=
  open_doc_rejected label (.leaf []) ((List.take_prefix k _).trans (List.prefix_append _ _))

/-- **every proper prefix of the token stream of a well-formed single-tree document is rejected** -/
theorem truncation_rejected (label : SwcText.Str) (b : Branch) (k : Nat)
    (hl : upper label = "AXON".toList ∨ upper label = "DENDRITE".toList) (hb : NonEmpty b)
    (hk : k < ([Tok.lp, Tok.lp, Tok.literal label, Tok.rp] ++ (branchToks b ++ [Tok.rp])).length) :
    ∃ er, convertTokens (([Tok.lp, Tok.lp, Tok.literal label, Tok.rp] ++ (branchToks b ++ [Tok.rp])).take k) = .error er := by
  rw [← List.append_assoc] at hk ⊢
  exact take_docToks_rejected label b k hk

/-- the call did not stop at a closing bracket: it failed or ran out of input -/
def Fail (r : Except Err (List Tok × List Row)) : Prop := ∀ t rows, r = .ok (t, rows) → t = []

@[simp] theorem fail_error (e : Err) : Fail (.error e) := by intro t rows h; cases h
@[simp] theorem fail_nil (rows : List Row) : Fail (.ok ([], rows)) := by intro t rows h; cases h; rfl

theorem fail_of_nest {l q : List Tok} (hl : Nest l) (hq : q <+: l) (ty : Int) (f : Nat) (root cur : Int) (rows : List Row) :
    Fail (parseSubtree ty f q true root cur rows) := by
  intro t rows' h
  rcases parseSubtree_closes ty f q true h with h0 | ⟨pre, t', h1, rfl, hp⟩
  · exact h0
  · have := hl.2 (pre ++ [.rp]) (.trans ⟨t', by rw [h1]; simp⟩ hq)
    rw [depth_append] at this
    simp only [depth] at this hp
    omega

theorem fail_alts (ty : Int) : ∀ (alts : List Branch) (q : List Tok), q <+: altsToks alts →
    ∀ (f : Nat) (root cur : Int) (rows : List Row), Fail (parseSubtree ty f q true root cur rows) :=
  fun alts _ hq => fail_of_nest (nest_altsToks alts) hq ty

/-! ## the lexer -/

theorem skipSpaces_append (ws s : SwcText.Str) (hws : ∀ c ∈ ws, isSpace c = true) :
    skipSpaces (ws ++ s) = skipSpaces s := by
  induction ws with
  | nil => rfl
  | cons c ws ih =>
    have h1 : isSpace c = true := hws c (by simp)
    simp only [List.cons_append, skipSpaces, h1, if_true]
    exact ih (fun c hc => hws c (by simp [hc]))

/-- blanks, tabs and line breaks between words are irrelevant -/
theorem lex_skips_blanks (f : Nat) (ws s : SwcText.Str) (hws : ∀ c ∈ ws, isSpace c = true) :
    lex (f + 1) (ws ++ s) = lex (f + 1) s := by
  simp only [lex, skipSpaces_append ws s hws]

/-- brackets and `|` are tokens of their own even without surrounding blanks -/
theorem lex_structural (f : Nat) (s : SwcText.Str) :
    lex (f + 1) ('(' :: s) = .lp :: lex f s ∧ lex (f + 1) (')' :: s) = .rp :: lex f s ∧ lex (f + 1) ('|' :: s) = .bar :: lex f s :=
  ⟨rfl, rfl, rfl⟩

-- non-vacuity / concrete behaviour (kernel-evaluated); `p` is `C15.p`, a point, in every file that opens `C15`
def p (n : Nat) : Pt := ⟨⟨false, n, 0⟩, ⟨false, 0, 0⟩, ⟨false, 0, 0⟩, ⟨false, 1, 0⟩⟩
def exB : Branch := .fork (p 1) [] [.fork (p 2) [] [.leaf [p 3], .leaf [p 4]], .leaf [], .leaf [p 5]]
example : tokens "( (Axon) (1 0 0 1) ( (2 0 0 1) ( (3 0 0 1) | (4 0 0 1) ) | | (5 0 0 1) ) )".toList = docToks "Axon".toList exB := by
  decide +kernel
example : (convert "( (Axon) (1 0 0 1) ( (2 0 0 1) ( (3 0 0 1) | (4 0 0 1) ) | | (5 0 0 1) ) )".toList).toOption
    = some (rowsOf 2 exB (-1) 0) := by decide +kernel
example : (rowsOf 2 exB (-1) 0).map (·.pid) = [-1, 0, 1, 1, 0] := by decide +kernel
example : (convert "( (Axon) (1 0 0 1) ( (2 0 0 1) ".toList).toOption = none := by decide +kernel
example : (convert "( (Axon) ; c\n (1 0 0 1) )".toList).toOption.map List.length = some 1 := by decide +kernel

end C15
