import SwcVerif.Refine.LmGeo
import SwcVerif.Refine.NodeBranch
/-! # C10, geometric L-Measure functions, tied to the source by the translator

`LMeasure.path_distance / euc_distance / diameter / _rall_power_d / pk_2 / _bif_vector_local / bif_ampl_local / _bif_vector_remote / bif_ampl_remote /
branch_pathlength / contraction / taper_1 / taper_2 / length / section_area / surface / volume` of `swcgeom/analysis/lmeasure.py`, with `Node.xyz`, `Node.distance` (`swcgeom/core/node.py`) and `Path.length`
(`swcgeom/core/path.py`), are regenerated on every run (`Gen/AlgoLmGeo.lean`) over a numeric type parameter `K`; the Euclidean norm is the
pure parameter `norm`.  The theorems state that the definitions AS TRANSLATED compute the quantities of `Model/LmGeo.lean` (written from the
L-Measure manual) for EVERY `K`, EVERY `norm`, every well-formed tree object (ids = positions, `C07.WF pids`, geometry columns of the length of
`pids`) and every node / bifurcation / branch in the function's domain, and raise (`none`) outside it.  What they pin is WHICH nodes, vectors and
radii each function reads, and in which order the lengths are added. -/
namespace C10
open Gen.Algo LmGeo RefineLmGeo
variable {K : Type} [Inhabited K] [Add K] [Sub K] [Mul K] [OfNat K 0] [OfNat K 1] [LT K] [DecidableLT K] [LE K] [DecidableLE K]

/-- **PathDistance**: `LMeasure.path_distance` as translated returns the sum of `norm (pos c − pos parent(c))` over the compartments of the
root path of the node, added from the node upwards, at every node of every well-formed tree, for every fuel `≥ n + 2` -/
theorem generated_path_distance (norm : List K → K) {xs ys zs : List K} (pids : List Int) (hw : C07.WF pids)
    (hx : xs.length = pids.length) (hy : ys.length = pids.length) (hz : zs.length = pids.length) (k : Nat) (hk : k < pids.length) (F : Nat) :
    lm_path_distance norm (pids.length + 2 + F) pids xs ys zs (k : Int) =
      some (sumFrom 0 ((steps (Redir.rootPath pids pids.length (k : Int))).map fun e => norm (vsub (pos xs ys zs e.1) (pos xs ys zs e.2)))) :=
  pathDistance_refines norm pids hw ⟨hx, hy, hz⟩ k hk F

/-- **EucDistance**: `LMeasure.euc_distance` as translated returns `norm (pos node − pos 0)` when the first row is typed as soma, and raises
otherwise (`Tree.soma`'s ValueError) -/
theorem generated_euc_distance (norm : List K → K) {xs ys zs : List K} (ids pids types : List Int)
    (hx : xs.length = pids.length) (hy : ys.length = pids.length) (hz : zs.length = pids.length) (k : Nat) (hk : k < pids.length) :
    (types.head? = some Gen.Consts.type_soma →
      lm_euc_distance norm ids pids types xs ys zs (k : Int) = some (norm (vsub (pos xs ys zs (k : Int)) (pos xs ys zs 0)))) ∧
    (types.head? ≠ some Gen.Consts.type_soma → lm_euc_distance norm ids pids types xs ys zs (k : Int) = none) := by
  rw [eucDistance_refines norm ids pids types ⟨hx, hy, hz⟩ k hk]
  exact ⟨fun h => if_pos h, fun h => if_neg h⟩

/-- **Diameter** = 2 · radius of the node -/
theorem generated_diameter (F : Py.Fld K) (rs : List K) (k : Nat) (hk : k < rs.length) :
    lm_diameter F rs (k : Int) = some ((Py.Fld.ofInt 2 : K) * rs.getD k default) := by
  simpa [diameter] using diameter_refines F rs k hk

/-- **`_rall_power_d`** (the diameters Rall_Power / Pk are computed from): at a node with exactly two children `a`, `b` (table order) and parent
`p`, `(2·r[p], 2·r[a], 2·r[b])`; it raises when the node has another number of children, and at the root -/
theorem generated_rall_power_d (F : Py.Fld K) (pids : List Int) (rs : List K) (hr : rs.length = pids.length) (k : Nat) (hk : k < pids.length) :
    (∀ a b : Int, kids pids (k : Int) = [a, b] → ∀ p : Nat, pids.getD k (-1) = (p : Int) → p < pids.length →
      lm_rall_power_d F (Sub.rangeI pids.length) pids rs (k : Int) = some (diameter F rs (p : Int), diameter F rs a, diameter F rs b)) ∧
    ((kids pids (k : Int)).length ≠ 2 → lm_rall_power_d F (Sub.rangeI pids.length) pids rs (k : Int) = none) ∧
    (pids.getD k (-1) = -1 → lm_rall_power_d F (Sub.rangeI pids.length) pids rs (k : Int) = none) :=
  ⟨fun a b h p hp hpv => rallPowerD_refines F pids rs hr k hk a b h p hp hpv, rallPowerD_not_bif F pids rs k hk, rallPowerD_root F pids rs k hk⟩

/-- **Pk_2** = (d_a² + d_b²) / d_p² on those diameters -/
theorem generated_pk_2 (F : Py.Fld K) (pids : List Int) (rs : List K) (hr : rs.length = pids.length) (k : Nat) (hk : k < pids.length)
    (a b : Int) (hkids : kids pids (k : Int) = [a, b]) (p : Nat) (hp : pids.getD k (-1) = (p : Int)) (hpv : p < pids.length) :
    lm_pk_2 F (Sub.rangeI pids.length) pids rs (k : Int) = pk2 F rs (p : Int) a b :=
  pk2_refines F pids rs hr k hk a b hkids p hp hpv

/-- **Bif_ampl_local**: at a bifurcation `v` with children `a`, `b` the angle is taken between `pos a − pos v` and `pos b − pos v`
(`_bif_vector_local`), and `bif_ampl_local` is `degrees (angle …)` of exactly these; both raise when the node does not have two children -/
theorem generated_bif_ampl_local (angle : List K → List K → Option K) (degrees : K → K) {xs ys zs : List K} (pids : List Int)
    (hx : xs.length = pids.length) (hy : ys.length = pids.length) (hz : zs.length = pids.length) (k : Nat) (hk : k < pids.length) :
    (∀ a b : Int, kids pids (k : Int) = [a, b] →
      lm_bif_vector_local (Sub.rangeI pids.length) pids xs ys zs (k : Int) =
        some (vsub (pos xs ys zs a) (pos xs ys zs (k : Int)), vsub (pos xs ys zs b) (pos xs ys zs (k : Int))) ∧
      lm_bif_ampl_local angle degrees (Sub.rangeI pids.length) pids xs ys zs (k : Int) =
        (angle (vsub (pos xs ys zs a) (pos xs ys zs (k : Int))) (vsub (pos xs ys zs b) (pos xs ys zs (k : Int)))).map degrees) ∧
    ((kids pids (k : Int)).length ≠ 2 → lm_bif_vector_local (Sub.rangeI pids.length) pids xs ys zs (k : Int) = none) :=
  ⟨fun a b h => ⟨bifVectorLocal_refines pids ⟨hx, hy, hz⟩ k hk a b h, bifAmplLocal_refines angle degrees pids ⟨hx, hy, hz⟩ k hk a b h⟩,
   bifVectorLocal_not_bif pids k hk⟩

/-- **Bif_ampl_remote**: at a bifurcation `v` with children `a`, `b` of a well-formed tree the vectors of `_bif_vector_remote` are
(point of the LAST node of `Tree.Node.branch` of `a` − point of `v`, the same for `b`) — "between two bifurcation points or between bifurcation point
and terminal point" — and `bif_ampl_remote` is `degrees (angle …)` of exactly these, for every fuel `≥ n + 1`; not a bifurcation → raises -/
theorem generated_bif_ampl_remote (angle : List K → List K → Option K) (degrees : K → K) {xs ys zs : List K} (pids : List Int) (hw : C07.WF pids)
    (hx : xs.length = pids.length) (hy : ys.length = pids.length) (hz : zs.length = pids.length) (k : Nat) (hk : k < pids.length) (Fu : Nat)
    (hF : pids.length + 1 ≤ Fu) :
    (∀ a b : Int, kids pids (k : Int) = [a, b] → ∃ la lb : Nat,
      (RefineNodeBranch.nodeBranch pids Fu a).getLast? = some (la : Int) ∧ (RefineNodeBranch.nodeBranch pids Fu b).getLast? = some (lb : Int) ∧
      lm_bif_vector_remote Fu (Sub.rangeI pids.length) pids xs ys zs (k : Int) =
        some (vsub (pos xs ys zs (la : Int)) (pos xs ys zs (k : Int)), vsub (pos xs ys zs (lb : Int)) (pos xs ys zs (k : Int))) ∧
      lm_bif_ampl_remote angle degrees Fu (Sub.rangeI pids.length) pids xs ys zs (k : Int) =
        (angle (vsub (pos xs ys zs (la : Int)) (pos xs ys zs (k : Int))) (vsub (pos xs ys zs (lb : Int)) (pos xs ys zs (k : Int)))).map degrees) ∧
    ((kids pids (k : Int)).length ≠ 2 → lm_bif_vector_remote Fu (Sub.rangeI pids.length) pids xs ys zs (k : Int) = none) := by
  refine ⟨fun a b h => ?_, fun h => bifVectorRemote_not_bif pids k hk h Fu⟩
  obtain ⟨la, lb, hla, hlb, e⟩ := bifVectorRemote_refines pids hw ⟨hx, hy, hz⟩ k hk a b h Fu hF
  exact ⟨la, lb, hla, hlb, e, by rw [bifAmplRemote_eq, e]; rfl⟩

/-- **Branch_pathlength / Contraction / Taper_1 / Taper_2** on any branch given as the list of its node indices: path length = the sum in order of
`norm (pos later − pos earlier)`; contraction = distance(first, last) / path length; taper_1 = (2r[first] − 2r[last]) / path length;
taper_2 = (2r[first] − 2r[last]) / 2r[first]; `none` (the source raises / yields inf, nan) on an empty branch or a zero divisor -/
theorem generated_branch_measures (F : Py.Fld K) (norm : List K → K) {n : Nat} {xs ys zs rs : List K}
    (hx : xs.length = n) (hy : ys.length = n) (hz : zs.length = n) (hr : rs.length = n) (br : List Int) (hb : ∀ i ∈ br, 0 ≤ i ∧ i < (n : Int)) :
    path_length norm xs ys zs br = some (branchLength norm xs ys zs br) ∧
    lm_branch_pathlength norm xs ys zs br = some (branchLength norm xs ys zs br) ∧
    lm_contraction F norm xs ys zs br = contraction F norm xs ys zs br ∧
    lm_taper_1 F norm xs ys zs rs br = taper1 F norm xs ys zs rs br ∧
    lm_taper_2 F rs br = taper2 F rs br :=
  ⟨pathLength_refines norm ⟨hx, hy, hz⟩ br hb, branchPathlength_refines norm ⟨hx, hy, hz⟩ br hb, contraction_refines F norm ⟨hx, hy, hz⟩ br hb,
   taper1_refines F norm ⟨hx, hy, hz⟩ hr br hb, taper2_refines F hr br hb⟩

/-- **Length / SectionArea / Surface / Volume** of a compartment `[a, b]` (parent `a`, node `b`): length = `0 + norm (pos b − pos a)`; section area of a
node = π·r²; with the option `compartment_point = 0` the radius of surface / volume is read at `a`, with `-1` (the default) at `b`:
surface = 2·π·r·length, volume = π·r²·length -/
theorem generated_compartment_measures (F : Py.Fld K) (norm : List K → K) (pi : K) {n : Nat} {xs ys zs rs : List K}
    (hx : xs.length = n) (hy : ys.length = n) (hz : zs.length = n) (hr : rs.length = n) (a b : Int)
    (ha : 0 ≤ a ∧ a < (n : Int)) (hb : 0 ≤ b ∧ b < (n : Int)) :
    lm_length norm xs ys zs [a, b] = some ((0 : K) + norm (vsub (pos xs ys zs b) (pos xs ys zs a))) ∧
    lm_surface F norm pi 0 xs ys zs rs [a, b] = some (surface F norm pi xs ys zs rs [a, b] a) ∧
    lm_surface F norm pi (-1) xs ys zs rs [a, b] = some (surface F norm pi xs ys zs rs [a, b] b) ∧
    lm_volume norm pi 0 xs ys zs rs [a, b] = some (volume norm pi xs ys zs rs [a, b] a) ∧
    lm_volume norm pi (-1) xs ys zs rs [a, b] = some (volume norm pi xs ys zs rs [a, b] b) ∧
    (∀ k : Nat, k < n → lm_section_area pi rs (k : Int) = some (pi * ((1 : K) * rs.getD k default * rs.getD k default))) := by
  have hv : ValidBranch n [a, b] := by
    intro i hi; rcases List.mem_pair.1 hi with rfl | rfl <;> assumption
  have hc : Cols n xs ys zs := ⟨hx, hy, hz⟩
  exact ⟨length_refines norm hc _ hv, surface_refines F norm pi 0 hc hr _ hv a (comp_point a b).1,
    surface_refines F norm pi (-1) hc hr _ hv b (comp_point a b).2, volume_refines norm pi 0 hc hr _ hv a (comp_point a b).1,
    volume_refines norm pi (-1) hc hr _ hv b (comp_point a b).2, fun k hk => sectionArea_refines pi rs k (hr ▸ hk)⟩

/-- the branch-level theorems apply to the branch the GENERATED `Tree.Node.branch` returns for any node of a well-formed tree (its members are
nodes of the tree): **contraction of a node's branch** = distance(first, last) / path length of `nodeBranch` -/
theorem generated_contraction_of_node_branch (F : Py.Fld K) (norm : List K → K) {xs ys zs : List K} (pids : List Int) (hw : C07.WF pids)
    (hx : xs.length = pids.length) (hy : ys.length = pids.length) (hz : zs.length = pids.length) (k : Int) (h0 : 0 ≤ k) (hk : k < pids.length)
    (Fu : Nat) (hF : pids.length + 1 ≤ Fu) :
    (node_branch Fu (Sub.rangeI pids.length) pids k).bind (lm_contraction F norm xs ys zs) =
      contraction F norm xs ys zs (RefineNodeBranch.nodeBranch pids Fu k) := by
  rw [RefineNodeBranch.nodeBranch_refines hw k h0 hk Fu hF, Option.bind_some]
  exact contraction_refines F norm ⟨hx, hy, hz⟩ _ (RefineNodeBranch.nodeBranch_valid hw Fu k h0 hk)

/-! non-vacuity (kernel-evaluated at `K = Int`, `norm` = sum of squares, integer division) on the tree `0 → 1 → {2, 3 → 4}` -/
section examples
def lgNorm (v : List Int) : Int := v.foldl (fun acc x => acc + x * x) 0
@[instance_reducible] def lgF : Py.Fld Int := ⟨fun a b => a / b, fun i => i, fun x => x⟩
def lgP : List Int := [-1, 0, 1, 1, 3]
def lgX : List Int := [0, 1, 1, 2, 4]
def lgY : List Int := [0, 0, 2, 0, 0]
def lgZ : List Int := [0, 0, 0, 0, 1]
def lgR : List Int := [3, 2, 1, 2, 1]

example : lm_path_distance lgNorm 7 lgP lgX lgY lgZ 4 = some 7 ∧ pathDistance lgNorm lgP lgX lgY lgZ 4 = 7 ∧
    lm_euc_distance lgNorm (Sub.rangeI 5) lgP [1, 3, 3, 3, 3] lgX lgY lgZ 4 = some 17 ∧
    lm_euc_distance lgNorm (Sub.rangeI 5) lgP [3, 3, 3, 3, 3] lgX lgY lgZ 4 = none ∧
    lm_diameter lgF lgR 0 = some 6 := by decide +kernel
example : lm_rall_power_d lgF (Sub.rangeI 5) lgP lgR 1 = some (6, 2, 4) ∧ lm_rall_power_d lgF (Sub.rangeI 5) lgP lgR 0 = none ∧
    lm_rall_power_d lgF (Sub.rangeI 5) lgP lgR 3 = none ∧ lm_pk_2 lgF (Sub.rangeI 5) lgP lgR 1 = some 0 ∧
    lm_bif_vector_local (Sub.rangeI 5) lgP lgX lgY lgZ 1 = some ([0, 2, 0], [1, 0, 0]) ∧
    lm_bif_vector_local (Sub.rangeI 5) lgP lgX lgY lgZ 3 = none ∧
    lm_bif_vector_remote 7 (Sub.rangeI 5) lgP lgX lgY lgZ 1 = some ([0, 2, 0], [3, 0, 1]) ∧
    lm_bif_vector_remote 7 (Sub.rangeI 5) lgP lgX lgY lgZ 3 = none := by decide +kernel
example : path_length lgNorm lgX lgY lgZ [1, 3, 4] = some 6 ∧ branchLength lgNorm lgX lgY lgZ [1, 3, 4] = 6 ∧
    lm_contraction lgF lgNorm lgX lgY lgZ [1, 3, 4] = some 1 ∧ lm_contraction lgF lgNorm lgX lgY lgZ [] = none ∧
    lm_contraction lgF lgNorm lgX lgY lgZ [2] = none ∧
    lm_taper_1 lgF lgNorm lgX lgY lgZ lgR [0, 1] = some 2 ∧ lm_taper_2 lgF lgR [0, 1] = some 0 := by decide +kernel
example : lm_length lgNorm lgX lgY lgZ [3, 4] = some 5 ∧ lm_section_area 3 lgR 1 = some 12 ∧
    lm_volume lgNorm 3 0 lgX lgY lgZ lgR [3, 4] = some 60 ∧ lm_volume lgNorm 3 (-1) lgX lgY lgZ lgR [3, 4] = some 15 ∧
    lm_surface lgF lgNorm 3 0 lgX lgY lgZ lgR [3, 4] = some 60 ∧ lm_surface lgF lgNorm 3 (-1) lgX lgY lgZ lgR [3, 4] = some 30 := by decide +kernel
example : C07.WF lgP := by unfold C07.WF; decide +kernel
end examples

end C10
