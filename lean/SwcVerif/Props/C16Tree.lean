import SwcVerif.Props.C16AsmGen
import SwcVerif.Refine.ResampleTree
/-! # C16 — the tree-level resampling driver, tied to the source by the translator

`Gen.Algo.resam_tree` is regenerated on every run from `swcgeom/transforms/tree.py::Resampler.__call__`; it CALLS the generated
`BranchTree.from_tree`, a state-passing branch-resampler callback and the generated `BranchTreeAssembler.__call__`.
`RefineResamTree.resam_tree_eq` shows it is exactly their composition; composed with `C16Asm.generated_assemble_wf` the table the
generated driver returns is a well-formed, parent-before-child tree whenever the resampled branch tree represents a rose tree. -/
namespace C16Tree
open Asm Gen.Algo RefineAsm RefineResamTree C16Asm

section
variable {σ : Type} [Inhabited σ] (resample : σ → List Int → σ × List Int)
  (pair : σ → List (List Int) → List Int → σ × List ((List Int) × Int)) (dupFirst dupLast : List Int → Int → Bool)

/-- **generated driver = composition of the generated pieces** (every callback, fuel, input) -/
theorem generated_resample_tree_eq_compose (fuel : Nat) (ids pids : List Int) (cbs : σ) :
    resam_tree resample pair dupFirst dupLast fuel ids pids cbs
      = (bt_from_tree fuel ids pids).bind fun t =>
          bt_assemble pair dupFirst dupLast fuel t.id t.pid (mapDict resample cbs [] t.branches).2 (mapDict resample cbs [] t.branches).1 :=
  resam_tree_eq resample pair dupFirst dupLast fuel ids pids cbs

/-- **the resampled tree is a well-formed sorted tree** (`generated_assemble_wf` composed through the generated driver): if the generated
`from_tree` returns the branch tree `t` and `t` with every branch replaced by what the resampler callback returns represents the rose
tree `root` (`Rep`: children of every key node in pairing order, sample counts after trimming the duplicated end points), then the
generated `Resampler.__call__` returns a table with ids `0 .. n-1`, root first, every parent an earlier row, `1 + weight root` rows
(one per key node and per kept sample), for every fuel ≥ number of key nodes + 1.
`Rep` of the resampled branch tree is a hypothesis here; `Props/C16Tree2.lean` derives it from the well-formedness of the input tree
(`generated_resample_tree_wf`). -/
theorem generated_resample_tree_wf_partial (root : BT) (fuel : Nat) (ids pids : List Int) (cbs : σ) (t : BranchTreeObj)
    (ht : bt_from_tree fuel ids pids = some t) (hf : root.size + 1 ≤ fuel)
    (hrep : Rep pair dupFirst dupLast t.id t.pid (mapDict resample cbs [] t.branches).2 root 0) :
    ∃ s' nid npid, resam_tree resample pair dupFirst dupLast fuel ids pids cbs = some (s', (nid, npid)) ∧
      C07.WF npid ∧ npid.length = 1 + weight root ∧ nid = (List.range npid.length).map (fun (k : Nat) => (k : Int)) ∧
      npid.head? = some (-1) ∧ ∀ k (h : k < npid.length), 0 < k → 0 ≤ npid[k] ∧ npid[k] < (k : Int) := by
  rw [resam_tree_eq, ht]
  exact C16Asm.generated_assemble_wf pair dupFirst dupLast t.id t.pid _ root _ fuel hf hrep

end

/-- non-vacuity (kernel-evaluated): the generated driver on the Y-shaped tree `0 ← 1 ← {2, 3}` with a resampler that returns 3, 2, 2
samples (handles 100.., 200.., 300..), pairing in branch order, all end samples duplicates: 1 + (1+1) + (0+1) + (0+1) = 5 rows -/
example :
    resam_tree (σ := Nat)
      (fun s br => (s + 1, (List.range (if s = 0 then 3 else 2)).map fun (k : Nat) => (100 * (s + 1) + k : Int)))
      (fun s bs cs => (s, List.zip bs cs)) (fun _ _ => true) (fun _ _ => true) 9 [0, 1, 2, 3] [-1, 0, 1, 1] 0
      = some (3, ([0, 1, 2, 3, 4], [-1, 0, 1, 2, 2])) := by decide +kernel

end C16Tree
