import SwcVerif.Props.C10
import SwcVerif.Refine.Sholl
/-! # C10, Sholl analysis and the feature front end, tied to the source by the translator

`Gen/AlgoSholl.lean` is regenerated on every run from `swcgeom/analysis/sholl.py` (`Sholl.__init__`, `intersect`, `get`, `get_rs`, `_get_rs`),
`core/tree.py` (`Tree.get_segments`, `get_compartments`) and `core/compartment.py` (`Compartments.get_ndata`, `Compartment.get_ndata`);
`Gen/AlgoFeatFront.lean` from `analysis/feature_extractor.py` (`PopulationFeatureExtractor._get_impl`, `PopulationsFeatureExtractor._get_impl`).
The theorems below are about those definitions AS TRANSLATED, run at `K = Rat`; the per-node root distances `rad` and the per-tree value
vectors are data (the geometry glue is listed in `harness/algo_specs/45_sholl.py`). -/
namespace C10
open Feat Gen.Algo RefineSholl

/-- the end radii of the segments `(pid[i], i)`, `i = 1 .. n-1`, as pairs (parent, child) -/
def segPairs (pids : List Int) (rad : List Rat) : List (Rat × Rat) :=
  (List.range (pids.length - 1)).map fun (k : Nat) => (rad.getD (pids.getD (k + 1) 0).toNat 0, rad.getD (k + 1) 0)

theorem segRadii_rows (pids : List Int) (rad : List Rat) : segRadii pids rad = rows (segPairs pids rad) := by
  simp only [segRadii, rows, segPairs, List.map_map]
  rfl

/-- the translated straddle count over the segment pairs is the hand-written model's `Feat.shollCount` -/
theorem count_eq_shollCount (pids : List Int) (rad : List Rat) :
    count (segPairs pids rad) = fun r => ((shollCount pids (fun i => rad.getD i.toNat 0) r : Nat) : Int) := by
  funext r
  unfold count shollCount segPairs
  congr 1
  rw [FeatP.rangeI_eq, FeatP.rangeI_drop_one, List.filter_map, List.filter_map, List.length_map, List.length_map]
  congr 1

/-- **`Sholl(tree)` as translated** (every tree table with ids = positions and at least two nodes, every assignment of root distances):
nothing raises, `rs` holds for every segment `(pid[i], i)` the root distances of its parent end and its child end, in row order -/
theorem generated_sholl_init (pids : List Int) (rad : List Rat) (step : Option Rat) (hp : ParentsInRange pids)
    (hl : rad.length = pids.length) (hn : 2 ≤ pids.length) :
    ∃ m, sholl_init (Py.range pids.length) pids rad step
      = some (rows (segPairs pids rad), m, step, (if step.isSome then [stepWarning] else []), .ok ()) := by
  obtain ⟨m, _, h⟩ := init_refines pids rad step hp hl hn
  exact ⟨m, by rw [h, segRadii_rows]⟩

/-- **a single-node tree is refused** with `ValueError("invalid tree: …")` -/
theorem generated_sholl_init_single (p : Int) (r0 : Rat) (step : Option Rat) :
    (sholl_init (Py.range 1) [p] [r0] step).map (fun r => r.2.2.2.2) = some (.error ⟨"ValueError", "invalid tree: {tree.source or ''}", []⟩) :=
  init_single p r0 step

/-- **`Sholl(tree).intersect(r)` as translated is the model's straddle count, for every tree and every radius**: the number of parent–child
pairs with `rad parent ≤ r < rad child` or `rad child ≤ r < rad parent` (`sholl_eq_straddle_count`) -/
theorem generated_sholl_intersect (pids : List Int) (rad : List Rat) (step : Option Rat) (hp : ParentsInRange pids)
    (hl : rad.length = pids.length) (hn : 2 ≤ pids.length) :
    ∃ rs m w, sholl_init (Py.range pids.length) pids rad step = some (rs, m, step, w, .ok ()) ∧
      ∀ r, sholl_intersect rs r = some ((shollCount pids (fun i => rad.getD i.toNat 0) r : Nat) : Int) ∧
        shollCount pids (fun i => rad.getD i.toNat 0) r =
          (((rangeI pids.length).drop 1).filter fun i =>
            decide ((rad.getD (pids.getD i.toNat 0).toNat 0 ≤ r ∧ r < rad.getD i.toNat 0) ∨
                    (rad.getD i.toNat 0 ≤ r ∧ r < rad.getD (pids.getD i.toNat 0).toNat 0))).length := by
  obtain ⟨m, h⟩ := generated_sholl_init pids rad step hp hl hn
  refine ⟨_, m, _, h, fun r => ⟨?_, sholl_eq_straddle_count pids _ r⟩⟩
  rw [intersect_refines]; exact congrArg some (congrFun (count_eq_shollCount pids rad) r)

/-- **`Sholl.get(steps=[r₀, r₁, …])` as translated is `intersect` at every radius, in order** (= the model's counts); an empty list raises -/
theorem generated_sholl_get (pids : List Int) (rad : List Rat) (rmax : Rat) (steps : List Rat) (hs : steps ≠ []) :
    sholl_get_arr Py.ratFld (rows (segPairs pids rad)) rmax none steps
      = some (steps.map fun r => ((shollCount pids (fun i => rad.getD i.toNat 0) r : Nat) : Int)) ∧
    sholl_get_arr Py.ratFld (rows (segPairs pids rad)) rmax none steps = steps.mapM (sholl_intersect (rows (segPairs pids rad))) ∧
    sholl_get_arr Py.ratFld (rows (segPairs pids rad)) rmax none [] = none := by
  refine ⟨?_, get_arr_eq_intersect _ _ _ _ hs, by rw [get_arr_refines]; rfl⟩
  rw [get_arr_refines, if_neg hs, count_eq_shollCount]

/-- **`Sholl.get(steps=k)` as translated** (an integer step count, or the legacy `Sholl(x, step=…)`): the counts at the radii `_get_rs`
computes — `np.arange(s, rmax, s)` with `s = rmax / (k + 1)`, resp. `np.arange(step, ceil(rmax), step)` -/
theorem generated_sholl_get_steps (pids : List Int) (rad : List Rat) (rmax : Rat) (sstep : Option Rat) (k : Int) :
    sholl_get_int Py.ratFld (rows (segPairs pids rad)) rmax sstep k =
      (match sstep with
        | some st => Py.Sh.arange st ((Py.Fld.ceil rmax : Int) : Rat) st
        | none => (Py.fdiv rmax ((k + 1 : Int) : Rat)).bind fun s => Py.Sh.arange s rmax s).bind fun radii =>
      if radii = [] then none else some (radii.map fun r => ((shollCount pids (fun i => rad.getD i.toNat 0) r : Nat) : Int)) := by
  rw [get_int_refines, get_rs_self_int_eq, count_eq_shollCount]
  cases sstep <;> rfl

/-! ## the front end -/

theorem padRows_eq_stackRows (vals : List (List Rat)) : padRows vals = stackRows vals := by
  unfold padRows stackRows
  apply List.map_congr_left
  intro v hv
  exact (FeatP.pad_eq _ _ (maxLen_ge vals v hv)).symm

/-- **`extract_feature(population).get(f)` as translated** (`PopulationFeatureExtractor._get_impl` on the trees' value vectors): for EVERY
non-empty population and value vectors of any lengths (empty ones included) nothing raises and the answer is the model's `stackRows` —
one row per tree, row `i` = tree `i`'s vector followed by zeros, width = the longest vector (`population_rows`) -/
theorem generated_population_rows (vals : List (List Rat)) (hne : vals ≠ []) :
    population_get_impl vals = some (stackRows vals) ∧
    (stackRows vals).length = vals.length ∧
    ∀ k (h : k < vals.length) (h' : k < (stackRows vals).length),
      ∃ m, (∀ v ∈ vals, v.length ≤ m) ∧ (stackRows vals)[k] = vals[k] ++ List.replicate (m - vals[k].length) 0 := by
  refine ⟨?_, population_rows vals⟩
  rw [population_refines, if_neg hne, padRows_eq_stackRows]

/-- **`extract_feature(populations).get(f)` as translated** (`PopulationsFeatureExtractor._get_impl` on the trees' value vectors): for EVERY
collection with at least one tree in total — one population with one tree included (the case of finding D31, DESIGN.md §6); populations of
different sizes, empty populations, empty vectors — nothing raises and the answer has one block per population, every block has as many
rows as the largest population, row `j` of block `i` is tree `j` of population `i`'s vector followed by zeros up to the longest vector of
the whole collection, and the rows beyond a population's trees are zero -/
theorem generated_populations_blocks (vals : List (List (List Rat))) (hne : vals.flatten ≠ []) :
    ∃ out, populations_get_impl vals = some out ∧ out.length = vals.length ∧
      ∀ i (hi : i < vals.length) (hi' : i < out.length),
        out[i].length = maxLen vals ∧
        (∀ j (hj : j < vals[i].length) (hj' : j < out[i].length),
          out[i][j] = vals[i][j] ++ List.replicate (maxLen vals.flatten - vals[i][j].length) 0) ∧
        (∀ j (hj' : j < out[i].length), vals[i].length ≤ j → out[i][j] = List.replicate (maxLen vals.flatten) 0) := by
  refine ⟨_, by rw [populations_refines, if_neg hne], List.length_map _, ?_⟩
  intro i hi hi'
  have hle : vals[i].length ≤ maxLen vals := maxLen_ge vals _ (List.getElem_mem hi)
  simp only [List.getElem_map, blockOf]
  refine ⟨by rw [List.length_append, List.length_map, List.length_replicate]; omega, ?_, ?_⟩
  · intro j hj hj'
    rw [List.getElem_append_left (by rwa [List.length_map]), List.getElem_map]; rfl
  · intro j hj' hge
    rw [List.getElem_append_right (by rwa [List.length_map]), List.getElem_replicate]

/-- with no tree at all the call raises (`max()` of an empty sequence) -/
theorem generated_populations_empty (vals : List (List (List Rat))) (h : vals.flatten = []) : populations_get_impl vals = none := by
  rw [populations_refines, if_pos h]

-- non-vacuity (kernel-evaluated): the tree of `C10.exP` with root distances 0, 2, 3, 5, 1
def exRad : List Rat := [0, 2, 3, 5, 1]
example : (match sholl_init (Py.range 5) exP exRad none with
    | some (rs, m, s, w, .ok _) => decide (rs = [[0, 2], [2, 3], [2, 5], [0, 1]] ∧ m = 5 ∧ s = none ∧ w = [])
    | _ => false) = true := by decide +kernel
example : (match sholl_init (Py.range 1) [-1] [(0 : Rat)] none with | some (_, _, _, _, .error e) => e.kind == "ValueError" | _ => false) = true := by
  decide +kernel
example : [1, 2, 5/2, 3, 5, 6].map (sholl_intersect (K := Rat) [[0, 2], [2, 3], [2, 5], [0, 1]]) = [some 1, some 2, some 2, some 1, some 0, some 0] := by
  decide +kernel
example : sholl_get_arr Py.ratFld [[0, 2], [2, 3], [2, 5], [0, 1]] 5 none [5/2, 1] = some [2, 1] ∧
          sholl_get_int Py.ratFld [[0, 2], [2, 3], [2, 5], [0, 1]] 8 none 3 = some [2, 1, 0] ∧
          sholl_get_rs_self_int Py.ratFld (8 : Rat) none 3 = some [2, 4, 6] ∧
          sholl_get_rs_self_int Py.ratFld (8 : Rat) (some (3/2)) 3 = some [3/2, 3, 9/2, 6, 15/2] := by decide +kernel
example : ParentsInRange exP := by unfold ParentsInRange exP; decide +kernel
example : population_get_impl (K := Rat) [[1, 2, 3], [4], []] = some [[1, 2, 3], [4, 0, 0], [0, 0, 0]] ∧
          population_get_impl (K := Rat) [[], []] = some [[], []] ∧ population_get_impl (K := Rat) [] = none := by decide +kernel
example : populations_get_impl (K := Rat) [[[1, 2], [3]], [[4]]] = some [[[1, 2], [3, 0]], [[4, 0], [0, 0]]] ∧
          populations_get_impl (K := Rat) [[[5]]] = some [[[5]]] ∧ populations_get_impl (K := Rat) [[], [[1]]] = some [[[0]], [[1]]] := by decide +kernel

end C10
