import SwcVerif.Proofs.AffineMat
import Mathlib.Tactic.Ring
import Mathlib.Tactic.LinearCombination
import Mathlib.Tactic.FieldSimp
import Mathlib.Algebra.Order.Field.Basic
/-! # C12 — geometric transforms apply the stated affine map about the stated centre

All theorems are about the matrices GENERATED from `swcgeom/utils/transforms.py` and the
conjugation / point application GENERATED from `swcgeom/transforms/geometry.py`
(`Gen.Mat.*`, `Gen.Affine.aboutRoot`, `Gen.Affine.applyPoint`), over an arbitrary linearly ordered
field `K`; `c s` stand for `cos θ`, `sin θ` with the only fact used about them, `c² + s² = 1`. -/
namespace C12
open Gen.Mat Gen.Affine

variable {K : Type} [Field K] [LinearOrder K]

/-- what `linear_combination` asks of `K`, found here once: with an order on `K` in scope its own search goes through the order
classes first, at every call -/
local instance (priority := high) cancelAdd : IsRightCancelAdd K := inferInstance

/-- squared Euclidean distance -/
def d2 (p q : K × K × K) : K := (p.1 - q.1)^2 + (p.2.1 - q.2.1)^2 + (p.2.2 - q.2.2)^2


/-- the matrices of the affine maps whose linear part preserves the Euclidean norm -/
inductive Rigid : List (List K) → Prop
  | mk {a0 a1 a2 a3 b0 b1 b2 b3 c0 c1 c2 c3 : K}
      (h : ∀ u v w : K, (a0 * u + (a1 * v + a2 * w)) ^ 2 + (b0 * u + (b1 * v + b2 * w)) ^ 2 + (c0 * u + (c1 * v + c2 * w)) ^ 2
        = u ^ 2 + v ^ 2 + w ^ 2) : Rigid (aff a0 a1 a2 a3 b0 b1 b2 b3 c0 c1 c2 c3)

theorem Rigid.isometry {M : List (List K)} (h : Rigid M) (x y z x' y' z' : K) :
    d2 (applyPoint M x y z) (applyPoint M x' y' z') = d2 (x, y, z) (x', y', z') := by
  obtain ⟨hA⟩ := h
  have e : ∀ a b c d : K, a * x + (b * y + (c * z + d)) - (a * x' + (b * y' + (c * z' + d)))
      = a * (x - x') + (b * (y - y') + c * (z - z')) := fun a b c d => by ring
  rw [applyPoint_aff, applyPoint_aff]
  simp only [d2, e]
  exact hA ..

theorem Rigid.aboutRoot {M : List (List K)} (h : Rigid M) (cx cy cz : K) : Rigid (aboutRoot M cx cy cz) := by
  obtain ⟨hA⟩ := h
  rw [aboutRoot_aff]
  exact .mk hA

theorem rigid_translate3d (tx ty tz : K) : Rigid (translate3d tx ty tz) :=
  .mk fun u v w => by ring

theorem rigid_rotate3d_x {c s : K} (h : c * c + s * s = 1) : Rigid (rotate3d_x c s) :=
  .mk fun u v w => by linear_combination (v ^ 2 + w ^ 2) * h

theorem rigid_rotate3d_y {c s : K} (h : c * c + s * s = 1) : Rigid (rotate3d_y c s) :=
  .mk fun u v w => by linear_combination (u ^ 2 + w ^ 2) * h

theorem rigid_rotate3d_z {c s : K} (h : c * c + s * s = 1) : Rigid (rotate3d_z c s) :=
  .mk fun u v w => by linear_combination (u ^ 2 + v ^ 2) * h

/-- `Translate(tx,ty,tz)` moves every node by exactly the vector. -/
theorem translate_moves (tx ty tz x y z : K) :
    applyPoint (translate3d tx ty tz) x y z = (x + tx, y + ty, z + tz) :=
  (applyPoint_aff ..).trans (by simp)

/-- `TranslateOrigin`: translating by minus the root's position puts the root at the origin. -/
theorem translate_origin_root (rx ry rz : K) :
    applyPoint (translate3d (-rx) (-ry) (-rz)) rx ry rz = (0, 0, 0) := by
  rw [translate_moves]; simp

/-- `Scale(sx,sy,sz, center="origin")` multiplies coordinates per axis. -/
theorem scale_origin (sx sy sz x y z : K) :
    applyPoint (scale3d sx sy sz) x y z = (sx * x, sy * y, sz * z) :=
  (applyPoint_aff ..).trans (by simp)

/-- `Scale(..., center="root")`: root-relative offsets are multiplied per axis. -/
theorem scale_about_root (sx sy sz cx cy cz x y z : K) :
    applyPoint (aboutRoot (scale3d sx sy sz) cx cy cz) x y z
      = (cx + sx * (x - cx), cy + sy * (y - cy), cz + sz * (z - cz)) :=
  (applyPoint_aboutRoot_aff ..).trans (by simp)

theorem aboutRoot_linear_fixed (a0 a1 a2 b0 b1 b2 c0 c1 c2 cx cy cz : K) :
    applyPoint (aboutRoot (aff a0 a1 a2 0 b0 b1 b2 0 c0 c1 c2 0) cx cy cz) cx cy cz = (cx, cy, cz) :=
  (applyPoint_aboutRoot_aff ..).trans (by simp)

/-- the root stays fixed under scaling about the root -/
theorem scale_root_fixed (sx sy sz cx cy cz : K) :
    applyPoint (aboutRoot (scale3d sx sy sz) cx cy cz) cx cy cz = (cx, cy, cz) :=
  aboutRoot_linear_fixed ..

/-- the root stays fixed under every axis rotation about the root -/
theorem rotate_root_fixed (c s cx cy cz : K) :
    applyPoint (aboutRoot (rotate3d_x c s) cx cy cz) cx cy cz = (cx, cy, cz) ∧
    applyPoint (aboutRoot (rotate3d_y c s) cx cy cz) cx cy cz = (cx, cy, cz) ∧
    applyPoint (aboutRoot (rotate3d_z c s) cx cy cz) cx cy cz = (cx, cy, cz) :=
  ⟨aboutRoot_linear_fixed .., aboutRoot_linear_fixed .., aboutRoot_linear_fixed ..⟩

/-- axis rotations (about the origin or about the root) preserve all inter-node distances -/
theorem rotate_axis_isometry (c s cx cy cz x y z x' y' z' : K) (h : c * c + s * s = 1) :
    d2 (applyPoint (aboutRoot (rotate3d_x c s) cx cy cz) x y z) (applyPoint (aboutRoot (rotate3d_x c s) cx cy cz) x' y' z')
      = d2 (x, y, z) (x', y', z') ∧
    d2 (applyPoint (aboutRoot (rotate3d_y c s) cx cy cz) x y z) (applyPoint (aboutRoot (rotate3d_y c s) cx cy cz) x' y' z')
      = d2 (x, y, z) (x', y', z') ∧
    d2 (applyPoint (aboutRoot (rotate3d_z c s) cx cy cz) x y z) (applyPoint (aboutRoot (rotate3d_z c s) cx cy cz) x' y' z')
      = d2 (x, y, z) (x', y', z') :=
  ⟨((rigid_rotate3d_x h).aboutRoot ..).isometry .., ((rigid_rotate3d_y h).aboutRoot ..).isometry ..,
    ((rigid_rotate3d_z h).aboutRoot ..).isometry ..⟩

theorem rotate_axis_isometry_origin (c s x y z x' y' z' : K) (h : c * c + s * s = 1) :
    d2 (applyPoint (rotate3d_x c s) x y z) (applyPoint (rotate3d_x c s) x' y' z') = d2 (x, y, z) (x', y', z') ∧
    d2 (applyPoint (rotate3d_y c s) x y z) (applyPoint (rotate3d_y c s) x' y' z') = d2 (x, y, z) (x', y', z') ∧
    d2 (applyPoint (rotate3d_z c s) x y z) (applyPoint (rotate3d_z c s) x' y' z') = d2 (x, y, z) (x', y', z') :=
  ⟨(rigid_rotate3d_x h).isometry .., (rigid_rotate3d_y h).isometry .., (rigid_rotate3d_z h).isometry ..⟩

theorem rotate_x_apply (c s x y z : K) : applyPoint (rotate3d_x c s) x y z = (x, c * y - s * z, s * y + c * z) :=
  (applyPoint_aff ..).trans (by simp [sub_eq_add_neg])

theorem rotate_y_apply (c s x y z : K) : applyPoint (rotate3d_y c s) x y z = (s * z + c * x, y, c * z - s * x) :=
  (applyPoint_aff ..).trans (by simp [sub_eq_add_neg, add_comm])

theorem rotate_z_apply (c s x y z : K) : applyPoint (rotate3d_z c s) x y z = (c * x - s * y, s * x + c * y, z) :=
  (applyPoint_aff ..).trans (by simp [sub_eq_add_neg])

/-- right-handed sense and stated axis: the axis is fixed and the next basis vector turns towards
the third one by the angle (x̂ ↦ (c, s, 0) about ẑ, cyclically). -/
theorem rotate_axis_right_handed (c s t : K) :
    applyPoint (rotate3d_z c s) 0 0 t = (0, 0, t) ∧ applyPoint (rotate3d_z c s) 1 0 0 = (c, s, 0) ∧
    applyPoint (rotate3d_x c s) t 0 0 = (t, 0, 0) ∧ applyPoint (rotate3d_x c s) 0 1 0 = (0, c, s) ∧
    applyPoint (rotate3d_y c s) 0 t 0 = (0, t, 0) ∧ applyPoint (rotate3d_y c s) 0 0 1 = (s, 0, c) := by
  simp [rotate_x_apply, rotate_y_apply, rotate_z_apply]

theorem rodrigues_apply (nx ny nz c s x y z : K) :
    applyPoint (rotate3d nx ny nz c s) x y z =
      (c * x + (1 - c) * (nx * x + ny * y + nz * z) * nx + s * (ny * z - nz * y),
       c * y + (1 - c) * (nx * x + ny * y + nz * z) * ny + s * (nz * x - nx * z),
       c * z + (1 - c) * (nx * x + ny * y + nz * z) * nz + s * (nx * y - ny * x)) := by
  rw [rotate3d_eq_aff, applyPoint_aff]
  refine Prod.ext ?_ (Prod.ext ?_ ?_) <;> ring

/-- `rotate3d(n, θ)` (Rodrigues) about a unit axis `n`: every point of the axis is fixed. -/
theorem rodrigues_fixes_axis (nx ny nz c s t : K) (hn : nx * nx + ny * ny + nz * nz = 1) :
    applyPoint (rotate3d nx ny nz c s) (t * nx) (t * ny) (t * nz) = (t * nx, t * ny, t * nz) := by
  rw [rodrigues_apply]
  refine Prod.ext ?_ (Prod.ext ?_ ?_)
  · linear_combination (t * nx * (1 - c)) * hn
  · linear_combination (t * ny * (1 - c)) * hn
  · linear_combination (t * nz * (1 - c)) * hn

/-- the Rodrigues matrix of a unit axis is rigid: with `m = n · v`, `|R v|² = (c² + s²)(|v|² − m²) + m²` -/
theorem rigid_rotate3d {nx ny nz c s : K} (hn : nx * nx + ny * ny + nz * nz = 1) (h : c * c + s * s = 1) :
    Rigid (rotate3d nx ny nz c s) := by
  rw [rotate3d_eq_aff]
  exact .mk fun u v w => by
    linear_combination (u ^ 2 + v ^ 2 + w ^ 2 - (nx * u + ny * v + nz * w) ^ 2) * h
      + ((1 - c) ^ 2 * (nx * u + ny * v + nz * w) ^ 2 + s * s * (u ^ 2 + v ^ 2 + w ^ 2)) * hn

/-- Rodrigues rotation about a unit axis preserves all distances. -/
theorem rodrigues_isometry (nx ny nz c s x y z x' y' z' : K)
    (hn : nx * nx + ny * ny + nz * nz = 1) (h : c * c + s * s = 1) :
    d2 (applyPoint (rotate3d nx ny nz c s) x y z) (applyPoint (rotate3d nx ny nz c s) x' y' z')
      = d2 (x, y, z) (x', y', z') :=
  (rigid_rotate3d hn h).isometry ..

/-- about the z axis Rodrigues' matrix is the `rotate3d_z` matrix (so the sense is right-handed) -/
theorem rodrigues_z (c s x y z : K) :
    applyPoint (rotate3d 0 0 1 c s) x y z = applyPoint (rotate3d_z c s) x y z := by
  rw [rodrigues_apply, rotate_z_apply]
  refine Prod.ext ?_ (Prod.ext ?_ ?_) <;> ring

/-- in a coordinate plane, turning by `(c, s)` and then by `(c, −s)` gives the point back -/
theorem rot2_inverse {c s : K} (h : c * c + s * s = 1) (a b : K) :
    c * (c * a - s * b) - -s * (s * a + c * b) = a ∧ -s * (c * a - s * b) + c * (s * a + c * b) = b :=
  ⟨by linear_combination a * h, by linear_combination b * h⟩

/-- a transform followed by its inverse restores the coordinates -/
theorem inverse_restores (tx ty tz sx sy sz c s x y z : K) (hx : sx ≠ 0) (hy : sy ≠ 0) (hz : sz ≠ 0)
    (h : c * c + s * s = 1) :
    (let p := applyPoint (translate3d tx ty tz) x y z
     applyPoint (translate3d (-tx) (-ty) (-tz)) p.1 p.2.1 p.2.2 = (x, y, z)) ∧
    (let p := applyPoint (scale3d sx sy sz) x y z
     applyPoint (scale3d (1 / sx) (1 / sy) (1 / sz)) p.1 p.2.1 p.2.2 = (x, y, z)) ∧
    (let p := applyPoint (rotate3d_z c s) x y z
     applyPoint (rotate3d_z c (-s)) p.1 p.2.1 p.2.2 = (x, y, z)) ∧
    (let p := applyPoint (rotate3d_x c s) x y z
     applyPoint (rotate3d_x c (-s)) p.1 p.2.1 p.2.2 = (x, y, z)) ∧
    (let p := applyPoint (rotate3d_y c s) x y z
     applyPoint (rotate3d_y c (-s)) p.1 p.2.1 p.2.2 = (x, y, z)) := by
  simp only [translate_moves, scale_origin, rotate_x_apply, rotate_y_apply, rotate_z_apply, (rot2_inverse h _ _).1, (rot2_inverse h _ _).2,
    one_div, inv_mul_cancel_left₀ hx, inv_mul_cancel_left₀ hy, inv_mul_cancel_left₀ hz, add_neg_cancel_right, and_self]

/-- the defaults the classes use: scaling and rotating are about the root unless told otherwise -/
theorem default_centres :
    defaultCenterScale = "root" ∧ defaultCenterRotate = "root" ∧ defaultCenterRotateX = "root" ∧
    defaultCenterRotateY = "root" ∧ defaultCenterRotateZ = "root" ∧ defaultCenterAffineTransform = "origin" := by
  decide

-- non-vacuity / concrete instances over ℚ
example : applyPoint (aboutRoot (scale3d (2 : ℚ) 2 2) 5 5 5) 5 5 5 = (5, 5, 5) := by
  rw [scale_root_fixed]
example : applyPoint (aboutRoot (rotate3d_z (0 : ℚ) 1) 5 5 5) 6 5 5 = (5, 6, 5) := by decide +kernel
example : ((3 : ℚ) / 5) * (3 / 5) + (4 / 5) * (4 / 5) = 1 := by norm_num
end C12
