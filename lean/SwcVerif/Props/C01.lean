import SwcVerif.Proofs.SwcText
/-! # C01 — SWC write → read round trip reproduces the tree

Theorems about the writer model (`SwcText.formatRow`, `commentLine`, `writeLines`, `writeSwc` =
`io.to_swc` + `SWCLike.to_swc`) composed with the reader model (`classify`, `readLines`, `resetIndex` =
`parse_swc` + `reset_index_`).  Coordinates enter the writer as the integer `k` with `value ≈ k·10⁻⁴`
(the float → 4-decimal rounding is CPython's `format`, computed by the harness with `decimal`) plus the
sign bit; they come back exactly as `⟨sign, k, -4⟩ = ±k·10⁻⁴`.  Id offsets are the non-negative ones
(a negative offset would write negative ids, which are not SWC). -/
namespace C01
open SwcText

/-- the writer's format strings, as the models were written for (regenerated from `io.py` every run) -/
theorem writer_consts_pinned :
    Gen.Consts.writerFStrings = ["f'# {' '.join(cols)}\\n'", "f'{v:.4f}'", "f'# {c.lstrip()}\\n'", "f'.4f'"] ∧
    Gen.Consts.writerBlankCommentYield = "yield '#\\n'" ∧
    Gen.Consts.writerOffsetRule = "k == names.id or (k == names.pid and v != -1) => v += id_offset" ∧
    Gen.Consts.writerIdOffsetDefault = 1 ∧
    headerText = "id type x y z r pid".toList := by
  exact ⟨rfl, rfl, rfl, rfl, by rfl⟩

/-- `str(n)` reads back as `n` (any following non-digit text is left alone) -/
theorem digits_parse (n : Nat) (rest : Str) (h : ∀ c, rest.head? = some c → isDig c = false) :
    intTok (digits n ++ rest) = some (n, rest) := by
  rw [intTok_append _ _ h, intTok_digits]; rfl

/-- **`%.4f` text parses back to the same grid value**, sign included, for every magnitude -/
theorem fmt4_parse (neg : Bool) (k : Nat) (rest : Str) (h : ∀ c, rest.head? = some c → isWs c = true) :
    floatPrefix (fmt4 neg k ++ rest) = some (⟨neg, k, -4⟩, rest) := by
  exact floatPrefix_recog.step (floatPrefix_fmt4 neg k) (WsHead.noNum h)

/-- the row the reader must see for a written row: ids shifted by the offset, a root's `-1` kept -/
def shifted (off : Nat) (w : WRow) : Row :=
  ⟨w.id + off, w.type, ⟨w.x.1, w.x.2, -4⟩, ⟨w.y.1, w.y.2, -4⟩, ⟨w.z.1, w.z.2, -4⟩, ⟨w.r.1, w.r.2, -4⟩,
   if w.pid = -1 then -1 else w.pid + off, []⟩

theorem classify_formatRow (off : Nat) (w : WRow) : classify 0 (formatRow off w) = .data (shifted off w) false := by
  have hb : Blanks [' '] := ⟨by simp, by simp; decide⟩
  have := classify_seven_tail [] [' '] [' '] [' '] [' '] [' '] [' '] ['\n'] _ _ _ _ _ _ _ _ _ _ _ _ _ _ false (by simp) rfl
    hb hb hb hb hb hb (intTok_digits (w.id + off)) (intTok_digits w.type) (floatPrefix_fmt4 w.x.1 w.x.2) (floatPrefix_fmt4 w.y.1 w.y.2)
    (floatPrefix_fmt4 w.z.1 w.z.2) (floatPrefix_fmt4 w.r.1 w.r.2) (pidTok_showInt (if w.pid = -1 then -1 else w.pid + off))
  -- the same line as `formatRow off w`, up to the bracketing of `++` and `::`
  simpa only [formatRow, shifted, List.append_assoc, List.nil_append, List.cons_append] using this

/-- **row round trip, every offset ≥ 0** -/
theorem row_roundtrip (off : Nat) (w : WRow) (hp : w.pid = -1 ∨ 0 ≤ w.pid) :
    classify 0 (formatRow off w) = .data (shifted off w) false :=
  classify_formatRow off w

/-- what a written comment reads back as -/
def readBack (c : Str) : Str := if isSpaceStr c then [] else ' ' :: dropWs c

theorem classify_commentLine (nx : Nat) (c : Str) : classify nx (commentLine c) = .comment (readBack c) := by
  unfold commentLine readBack
  split
  · exact classify_hash nx _ ['\n'] rfl
  · rw [classify_hash nx _ (' ' :: dropWs c ++ ['\n']) rfl, stripNl_append_nl]

/-- **comment round trip**: a comment (any text without a line break) is written as one `#` line and
read back as the comment `readBack c` -/
theorem comment_roundtrip (nx : Nat) (c : Str) (hnl : '\n' ∉ c) :
    classify nx (commentLine c) = .comment (readBack c) := by
  exact classify_commentLine nx c
theorem comment_text_same (c : Str) : dropWs (readBack c) = dropWs c := by
  unfold readBack
  split
  · rename_i h
    rw [dropWs_allWs c (List.all_eq_true.1 (Bool.and_eq_true_iff.1 h).2)]; rfl
  · exact dropWs_idem c

/-- the writer's own column header is a comment line that the reader drops -/
theorem header_dropped (nx : Nat) :
    classify nx headerLine = .comment (' ' :: headerText) ∧ keepComment (' ' :: headerText) = false := by
  constructor
  · rw [classify_hash nx headerLine (' ' :: headerText ++ ['\n']) rfl, stripNl_append_nl]
  · unfold keepComment; rw [headerText_eq]; decide

/-- the comment list handed to `io.to_swc`: optional `source: …` + empty line, then the tree's comments -/
def written (source : Option Str) (wc : Bool) (comments : List Str) : List Str :=
  (match source with
    | some s => ["source: ".toList ++ s, []]
    | none => []) ++ (if wc then comments else [])

theorem writeSwc_eq (off : Nat) (source : Option Str) (wc : Bool) (comments : List Str) (rows : List WRow) :
    writeSwc off source wc comments rows = writeLines off (written source wc comments) rows := by
  cases source <;> rfl

theorem written_no_nl (source : Option Str) (wc : Bool) (comments : List Str)
    (hc : ∀ c ∈ comments, '\n' ∉ c) (hs : ∀ s, source = some s → '\n' ∉ s) :
    ∀ c ∈ written source wc comments, '\n' ∉ c := by
  intro c hm
  rcases List.mem_append.1 hm with hm | hm
  · cases source with
    | none => cases hm
    | some s =>
      simp only [List.mem_cons, List.not_mem_nil, or_false] at hm
      rcases hm with rfl | rfl
      · simp [hs s rfl]
      · simp
  · cases wc
    · cases hm
    · exact hc c hm

theorem writeLines_isLine (off : Nat) (cs : List Str) (rows : List WRow) (hc : ∀ c ∈ cs, '\n' ∉ c) :
    ∀ l ∈ writeLines off cs rows, IsLine l := by
  intro l hl
  simp only [writeLines, List.mem_append, List.mem_map, List.mem_cons] at hl
  rcases hl with ⟨c, hc', rfl⟩ | rfl | ⟨w, -, rfl⟩
  · exact isLine_commentLine c (hc c hc')
  · exact isLine_headerLine
  · exact isLine_formatRow off w

/-- the written lines really are the lines of the written text: joining them and iterating over the text
line by line (as file iteration does) gives them back — this is where "no line break inside a comment /
source string" is needed -/
theorem written_lines_are_lines (off : Nat) (source : Option Str) (wc : Bool) (comments : List Str) (rows : List WRow)
    (hc : ∀ c ∈ comments, '\n' ∉ c) (hs : ∀ s, source = some s → '\n' ∉ s) :
    splitLines (writeSwc off source wc comments rows).flatten = writeSwc off source wc comments rows := by
  rw [writeSwc_eq]
  exact splitLines_flatten _ (writeLines_isLine off _ rows (written_no_nl source wc comments hc hs))

theorem writeLines_kinds (off : Nat) (cs : List Str) (rows : List WRow) :
    (writeLines off cs rows).map (classify 0) =
      cs.map (fun c => .comment (readBack c)) ++ .comment (' ' :: headerText) :: rows.map (fun w => .data (shifted off w) false) := by
  simp only [writeLines, List.map_append, List.map_cons, List.map_map, Function.comp_def, classify_commentLine, classify_formatRow,
    (header_dropped 0).1]

/-- reading the written lines back, whatever `__exit__` returns -/
theorem read_writeLines (sw : Bool) (off : Nat) (cs : List Str) (rows : List WRow) :
    readLinesWith sw 0 (writeLines off cs rows) = .ok ⟨rows.map (shifted off), (cs.map readBack).filter keepComment, false⟩ := by
  have hk := writeLines_kinds off cs rows
  rw [readLinesWith_valid, hk]
  · simp [resultOf, List.filterMap_append, List.filterMap_cons, List.filterMap_map, Function.comp_def, Kind.row, Kind.cmt, Kind.tl,
      (header_dropped 0).2]
    rw [← List.filterMap_eq_filter, List.filterMap_map, List.filterMap_eq_nil_iff.2 fun _ _ => rfl, List.append_nil]
    simp only [Function.comp_def, Option.guard]
  · intro l hl hc
    have := List.mem_map_of_mem (f := classify 0) hl
    rw [hk, hc] at this
    simp at this

/-- **table round trip.**  For every row list, offset ≥ 0, source header choice and comment list (no line
breaks inside a comment): reading the written TEXT succeeds, returns exactly the written rows (shifted)
in order, raises no "fields ignored" warning, and returns the written comments in order — those that do
not themselves start with the column-header text. -/
theorem table_roundtrip (off : Nat) (source : Option Str) (wc : Bool) (comments : List Str) (rows : List WRow)
    (hc : ∀ c ∈ comments, '\n' ∉ c) (hs : ∀ s, source = some s → '\n' ∉ s)
    (hp : ∀ w ∈ rows, w.pid = -1 ∨ 0 ≤ w.pid) :
    readLines 0 (splitLines (writeSwc off source wc comments rows).flatten)
      = .ok ⟨rows.map (shifted off),
             ((written source wc comments).map readBack).filter keepComment, false⟩ := by
  rw [written_lines_are_lines off source wc comments rows hc hs, readLines_eq, writeSwc_eq, read_writeLines]

/-- **nothing is added to the comments but the optional source header**: when no written comment starts
with the column-header text, the comments come back one for one, with the same text (leading blanks aside) -/
theorem comments_roundtrip (off : Nat) (source : Option Str) (wc : Bool) (comments : List Str) (rows : List WRow)
    (hc : ∀ c ∈ comments, '\n' ∉ c) (hs : ∀ s, source = some s → '\n' ∉ s)
    (hp : ∀ w ∈ rows, w.pid = -1 ∨ 0 ≤ w.pid)
    (hk : ∀ c ∈ written source wc comments, keepComment (readBack c) = true) :
    ∃ res, readLines 0 (splitLines (writeSwc off source wc comments rows).flatten) = .ok res ∧
      res.comments.map dropWs = (written source wc comments).map dropWs := by
  refine ⟨_, table_roundtrip off source wc comments rows hc hs hp, ?_⟩
  simp only [List.filter_eq_self.2 (List.forall_mem_map.2 hk), List.map_map]
  exact List.map_congr_left fun c _ => comment_text_same c

/-- the tree the reader builds after `reset_index_` -/
def original (w : WRow) : IRow :=
  ⟨w.id, w.type, ⟨w.x.1, w.x.2, -4⟩, ⟨w.y.1, w.y.2, -4⟩, ⟨w.z.1, w.z.2, -4⟩, ⟨w.r.1, w.r.2, -4⟩, w.pid⟩

/-- **re-basing undoes the offset**: for a table whose first row is the root with id 0 (a well-formed
tree) and whose other parents are node ids (≥ 0), `reset_index_` of the shifted rows gives back every
id and parent; with `table_roundtrip` this is: same node count, same parent of every node, same types,
coordinates and radii on the 4-decimal grid — for every offset. -/
theorem reset_restores (off : Nat) (w0 : WRow) (rest : List WRow) (h0 : w0.id = 0 ∧ w0.pid = -1)
    (hp : ∀ w ∈ rest, w.pid = -1 ∨ 0 ≤ w.pid) :
    resetIndex ((w0 :: rest).map (shifted off)) = (w0 :: rest).map original := by
  have hb : firstRootId ((w0 :: rest).map (shifted off)) = (off : Int) := by
    simp [firstRootId, shifted, h0.1, h0.2]
  rw [resetIndex, hb, List.map_map]
  refine List.map_congr_left fun w hw => ?_
  have hw : w.pid = -1 ∨ 0 ≤ w.pid := (List.mem_cons.1 hw).elim (fun e => .inl (e ▸ h0.2)) (hp w)
  simp only [Function.comp, shifted, original]
  congr 1
  · omega
  · rcases hw with h | h
    · simp [h]
    · have h1 : w.pid ≠ -1 := by omega
      have h2 : w.pid + (off : Int) ≠ -1 := by omega
      simp [h1, h2]

-- non-vacuity: a concrete table written with offset 7 and read back
def exRows : List WRow :=
  [⟨0, 1, (false, 0), (true, 0), (false, 12345), (false, 10000), -1⟩,
   ⟨1, 3, (true, 250001), (false, 5), (false, 0), (false, 2500), 0⟩]
example : (writeSwc 7 none true ["  hello".toList, " ".toList] exRows).map String.ofList
    = ["# hello\n", "#\n", "# id type x y z r pid\n", "7 1 0.0000 -0.0000 1.2345 1.0000 -1\n", "8 3 -25.0001 0.0005 0.0000 0.2500 7\n"] := by
  decide +kernel
example : (readLines 0 (splitLines (writeSwc 7 none true ["  hello".toList, " ".toList] exRows).flatten)).toOption.map (fun r => resetIndex r.rows)
    = some (exRows.map original) := by decide +kernel

end C01
