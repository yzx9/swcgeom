import SwcVerif.Refine.NodeFeat
import SwcVerif.Gen.AlgoBranchTree
import SwcVerif.Props.C10
/-! # C10 / C11, the feature classes and geometry helpers, tied to the source by the translator

`Tree.length` (core/tree.py), `Path.length / straight_line_distance / tortuosity` (core/path.py), `Node.distance` (core/node.py) and the
classes behind the feature names (`NodeFeatures`, `FurcationFeatures` / `TipFeatures`, `PathFeatures`, `BranchFeatures` of
analysis/features.py) are regenerated on every run (`Gen/AlgoNodeFeat.lean`) over a numeric type `K`; the Euclidean norm is the function
parameter `norm` (no square root exists in `K`): the theorems pin WHICH vectors it is applied to and in which order, for every table.
This file: `Tree.length`, `Path.tortuosity / straight_line_distance`, `NodeFeatures.get_radial_distance / get_count`; the furcation / tip
features, `get_branch_order`, `Path.length`, `BranchFeatures.get_length / calc_angle` are in `C10NodeFeat2.lean`. -/
namespace C10
open Gen.Algo RefineNf

variable {K : Type} [Inhabited K] [Add K] [Sub K] [Mul K] [OfNat K 0] [OfNat K 1] [LT K] [DecidableLT K] [LE K] [DecidableLE K]

/-- a tree object with coordinates: ids = positions, every parent of a non-root row is a row, every coordinate row has `d` entries -/
structure GeoTree (pids : List Int) (axyz : List (List K)) (d : Nat) : Prop where
  len : axyz.length = pids.length
  par : ∀ k : Nat, k + 1 < pids.length → 0 ≤ pids.getD (k + 1) 0 ∧ (pids.getD (k + 1) 0).toNat < pids.length
  dim : ∀ r ∈ axyz, r.length = d

theorem GeoTree.row_len {pids : List Int} {axyz : List (List K)} {d : Nat} (h : GeoTree pids axyz d) (i : Int) (hi : Valid axyz i) :
    (row axyz i).length = d :=
  h.dim _ (row_mem axyz i hi)

/-- **`Tree.length` as translated is the sum over the non-root nodes `1 .. n-1`, in order, of `norm (xyz[i] − xyz[pid i])`** (the sum of the
Euclidean parent–child distances), on every tree object with coordinates -/
theorem generated_tree_length (norm : List K → K) (pids : List Int) (axyz : List (List K)) (d : Nat) (h : GeoTree pids axyz d) :
    nf_tree_length norm (Sub.rangeI pids.length) pids axyz
      = some (Py.Nf.sumK ((List.range (pids.length - 1)).map fun (k : Nat) =>
          Py.Nf.sumK [norm (vec axyz (pids.getD (k + 1) 0) ((k + 1 : Nat) : Int))])) := by
  have hlen : (Sub.rangeI pids.length).length = pids.length := by rw [Sub.rangeI, List.length_map, List.length_range]
  have hr : ∀ k : Nat, k + 1 < pids.length → (Sub.rangeI pids.length).getD (k + 1) 0 = ((k + 1 : Nat) : Int) := by
    intro k hk
    rw [Py.getD_eq_getElem _ _ (hlen.symm ▸ hk : k + 1 < (Sub.rangeI pids.length).length)]
    simp only [Sub.rangeI, List.getElem_map, List.getElem_range]; rfl
  rw [tree_length_refines norm (Sub.rangeI pids.length) pids axyz hlen.symm (by
    intro k hk
    rw [hlen] at hk
    rw [hr k hk]
    have hp : Valid axyz (pids.getD (k + 1) 0) := ⟨(h.par k hk).1, h.len ▸ (h.par k hk).2⟩
    have hc : Valid axyz ((k + 1 : Nat) : Int) := ⟨Int.natCast_nonneg _, by rw [h.len, Int.toNat_natCast]; exact hk⟩
    exact ⟨hp, hc, by rw [h.row_len _ hc, h.row_len _ hp]⟩), hlen]
  refine congrArg (fun l => some (Py.Nf.sumK l)) (List.map_congr_left fun k hk => ?_)
  rw [hr k (by have := List.mem_range.1 hk; omega)]

/-- **`Path.tortuosity` as translated is straight-line distance / path length, with the source's zero-length guard**: `1` when the
translated `Path.length` `L` is neither below nor above `0`, otherwise `S / L` for the translated `straight_line_distance` `S` -/
theorem generated_tortuosity (F : Py.Fld K) (norm : List K → K) (axyz : List (List K)) (idx : List Int) :
    nf_path_tortuosity F norm axyz idx =
      (nf_path_length norm axyz idx).bind fun L =>
        if ¬ (L < 0) ∧ ¬ (0 < L) then some 1
        else (nf_path_straight norm axyz idx).bind fun S => some (F.div S L) :=
  tortuosity_refines F norm axyz idx

/-- **`Path.straight_line_distance` as translated is `norm (xyz[last] − xyz[first])`** -/
theorem generated_straight_line_distance (norm : List K → K) (axyz : List (List K)) (a : Int) (mid : List Int) (b : Int)
    (ha : Valid axyz a) (hb : Valid axyz b) (hd : (row axyz b).length = (row axyz a).length) :
    nf_path_straight norm axyz (a :: (mid ++ [b])) = some (norm (vec axyz a b)) :=
  straight_refines norm axyz a mid b ha hb hd

/-- **`NodeFeatures.get_radial_distance` as translated is `norm (xyz[i] − xyz[root])` for every node `i`, in order** (the first row must be
typed as soma: otherwise `Tree.soma` raises and so does the feature) -/
theorem generated_radial_distance (norm : List K → K) (ids pids types : List Int) (axyz : List (List K)) (h0 : 0 < axyz.length)
    (hd : ∀ r ∈ axyz, r.length = (row axyz 0).length) :
    (types.head? = some Gen.Consts.type_soma →
      nf_radial_distance norm ids pids types axyz
        = some (axyz.map fun r => norm (List.zipWith (fun x y => x - y) r (row axyz 0)))) ∧
    (types.head? ≠ some Gen.Consts.type_soma → nf_radial_distance norm ids pids types axyz = none) :=
  radial_refines norm ids pids types axyz h0 hd

/-- **`NodeFeatures.get_count` as translated is the number of nodes** (as a one-element float array) -/
theorem generated_node_count (F : Py.Fld K) (ids : List Int) : nf_node_count F ids = some [F.ofInt (ids.length : Int)] :=
  node_count_refines F ids

-- non-vacuity (kernel-evaluated, at `Int` with the squared norm): the tree of `C10.exP` at (0,0,0), (3,4,0), (3,4,5), (6,8,0), (0,0,2)
def nfSq (v : List Int) : Int := v.foldl (fun a x => a + x * x) 0
def exXYZ : List (List Int) := [[0, 0, 0], [3, 4, 0], [3, 4, 5], [6, 8, 0], [0, 0, 2]]
example : GeoTree exP exXYZ 3 := ⟨rfl, by
  intro k hk
  simp [exP] at hk
  have : k = 0 ∨ k = 1 ∨ k = 2 ∨ k = 3 := by omega
  rcases this with rfl | rfl | rfl | rfl <;> decide, by decide⟩
example : nf_tree_length nfSq (Sub.rangeI 5) exP exXYZ = some (25 + 25 + 25 + 4) ∧
          nf_radial_distance nfSq (Sub.rangeI 5) exP [1, 3, 3, 3, 3] exXYZ = some [0, 25, 50, 100, 4] ∧
          nf_radial_distance nfSq (Sub.rangeI 5) exP [3, 3, 3, 3, 3] exXYZ = none ∧
          nf_path_straight nfSq exXYZ [0, 1, 3] = some 100 ∧ nf_path_length nfSq exXYZ [0, 1, 3] = some 50 ∧
          nf_bf_length nfSq 14 (Sub.rangeI 5) exP exXYZ = some [25, 25, 25, 4] := by decide +kernel
/-- `NodeFeatures.get_branch_order` (depth in the branch tree: the root is 0, a furcation does not count itself) and
`LMeasure.branch_order` (furcations on the root path, the node and the root included: `C10.generated_branch_order`) are DIFFERENT
quantities: on `exP` the former gives 0, 1, 2, 2, 1 for the critical nodes 0, 1, 3, 2, 4 (branch-tree order), the latter 1, 2, 2, 2, 1 -/
example : (bt_from_tree 14 (Sub.rangeI 5) exP).bind (fun bt => (nf_branch_order 14 bt.id bt.pid).map fun o => (bt.src, o))
            = some ([0, 1, 3, 2, 4], [0, 1, 2, 2, 1]) ∧
          (Sub.rangeI 5).map (lm_branch_order 7 (Sub.rangeI 5) exP) = [some 1, some 2, some 2, some 2, some 1] := by decide +kernel

end C10
