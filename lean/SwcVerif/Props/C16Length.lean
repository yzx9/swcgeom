import SwcVerif.Proofs.Polyline
import SwcVerif.Props.C16
/-! # C16 — "total length never grows"

The resamplers (`BranchIsometricResampler`, `BranchLinearResampler`) apply `np.interp` column by column with
the cumulated segment lengths as abscissae.  Here the three coordinate columns of the rational model
(`Resample.interp`) are read as points of Euclidean 3-space, and the polyline through the resampled points is
shown to be no longer — in the Euclidean norm, with real square roots — than the polyline through the
original points.  The abscissae `xp` only have to be sorted: the statement does not depend on how exactly the
code's floating-point arc lengths approximate the true ones. -/
set_option linter.unusedVariables false
namespace C16
open Resample Polyline

abbrev E3 := EuclideanSpace ℝ (Fin 3)

/-- the point with rational coordinates `(a, b, c)` -/
noncomputable def pt (a b c : ℚ) : E3 := !₂[(a : ℝ), (b : ℝ), (c : ℝ)]

/-- the points whose coordinate columns are `X`, `Y`, `Z` -/
noncomputable def pts : List ℚ → List ℚ → List ℚ → List E3
  | a :: X, b :: Y, c :: Z => pt a b c :: pts X Y Z
  | _, _, _ => []

/-- Euclidean length of the polyline whose coordinate columns are `X`, `Y`, `Z` -/
noncomputable def polylineLength (X Y Z : List ℚ) : ℝ := plen (pts X Y Z)

private theorem pt_seg (a b c a' b' c' x xa xb : ℚ) :
    pt a b c + (((x : ℝ) - xa) / ((xb : ℝ) - xa)) • (pt a' b' c' - pt a b c) =
      pt (a + (x - xa) * ((a' - a) / (xb - xa))) (b + (x - xa) * ((b' - b) / (xb - xa))) (c + (x - xa) * ((c' - c) / (xb - xa))) := by
  ext i
  fin_cases i <;> exact (seg_cast ..).symm

private theorem mono_cast : ∀ l : List ℚ, Mono l → MonoR (l.map fun q : ℚ => (q : ℝ))
  | [], _ => trivial
  | [_], _ => trivial
  | a :: b :: t, h => ⟨Rat.cast_le.mpr h.1, mono_cast (b :: t) h.2⟩

private theorem list3_ind {P : List ℚ → List ℚ → List ℚ → Prop} (nil : P [] [] [])
    (cons : ∀ a b c X Y Z, X.length = Y.length → Y.length = Z.length → P X Y Z → P (a :: X) (b :: Y) (c :: Z)) :
    ∀ X Y Z : List ℚ, X.length = Y.length → Y.length = Z.length → P X Y Z
  | [], [], [], _, _ => nil
  | a :: X, b :: Y, c :: Z, h1, h2 =>
    cons a b c X Y Z (Nat.succ.inj h1) (Nat.succ.inj h2) (list3_ind nil cons X Y Z (Nat.succ.inj h1) (Nat.succ.inj h2))
  | [], _ :: _, _, h, _ | _ :: _, [], _, h, _ | [], [], _ :: _, _, h | _ :: _, _ :: _, [], _, h => by cases h

/-- the column-wise rational interpolation is the point-wise one -/
private theorem go_pts (x : ℚ) : ∀ X Y Z : List ℚ, X.length = Y.length → Y.length = Z.length →
    ∀ (xr : List ℚ) (xa a b c : ℚ), goV (x : ℝ) (xa : ℝ) (pt a b c) (xr.map fun q : ℚ => (q : ℝ)) (pts X Y Z) =
      pt (interp1.go x xa a xr X) (interp1.go x xa b xr Y) (interp1.go x xa c xr Z) := by
  apply list3_ind
  · intro xr _ _ _ _
    cases xr <;> rfl
  · intro a' b' c' X Y Z _ _ ih xr xa a b c
    cases xr with
    | nil => rfl
    | cons xb xr =>
      rw [pts, List.map_cons, goV, go_cons, go_cons, go_cons]
      by_cases h : x < xb
      · rw [if_pos h, if_pos h, if_pos h, if_pos (Rat.cast_lt.mpr h), pt_seg]
      · rw [if_neg h, if_neg h, if_neg h, if_neg (mt Rat.cast_lt.mp h)]
        exact ih xr xb a' b' c'

private theorem interp_pts (x : ℚ) : ∀ X Y Z : List ℚ, X.length = Y.length → Y.length = Z.length →
    ∀ xp : List ℚ, X.length = xp.length →
      pt (interp1 xp X x) (interp1 xp Y x) (interp1 xp Z x) = interpV (xp.map fun q : ℚ => (q : ℝ)) (pts X Y Z) (x : ℝ) := by
  apply list3_ind
  · intro xp hX
    cases xp with
    | nil => ext i; fin_cases i <;> exact Rat.cast_zero
    | cons _ _ => cases hX
  · intro a b c X Y Z hXY hYZ _ xp hX
    cases xp with
    | nil => cases hX
    | cons x0 xr =>
      rw [interp1, interp1, interp1, pts, List.map_cons, interpV]
      by_cases h : x < x0
      · rw [if_pos h, if_pos h, if_pos h, if_pos (Rat.cast_lt.mpr h)]
      · rw [if_neg h, if_neg h, if_neg h, if_neg (mt Rat.cast_lt.mp h)]
        exact (go_pts x X Y Z hXY hYZ xr x0 a b c).symm

private theorem pts_interp (xp X Y Z : List ℚ) (hXY : X.length = Y.length) (hYZ : Y.length = Z.length)
    (hX : X.length = xp.length) : ∀ pos : List ℚ,
    pts (interp pos xp X) (interp pos xp Y) (interp pos xp Z) =
      (pos.map fun q : ℚ => (q : ℝ)).map (interpV (xp.map fun q : ℚ => (q : ℝ)) (pts X Y Z))
  | [] => rfl
  | x :: pos => by
    simp only [interp, List.map_cons, pts]
    rw [interp_pts x X Y Z hXY hYZ xp hX]
    congr 1
    exact pts_interp xp X Y Z hXY hYZ hX pos

/-- **resampling never makes a branch longer**: for sorted abscissae `xp` (the code's cumulated segment
lengths) and sorted sample positions `pos` starting at or after `xp`'s first entry, the polyline through the
points `np.interp(pos, xp, ·)` of the three coordinate columns is no longer than the polyline through the
original points — in true Euclidean length -/
theorem resample_length_le (xp X Y Z pos : List ℚ) (hXY : X.length = Y.length) (hYZ : Y.length = Z.length)
    (hX : X.length = xp.length) (hxp : Mono xp) (hpos : Mono pos)
    (h0 : ∀ x0 ∈ xp.head?, ∀ a ∈ pos.head?, x0 ≤ a) :
    polylineLength (interp pos xp X) (interp pos xp Y) (interp pos xp Z) ≤ polylineLength X Y Z := by
  unfold polylineLength
  rw [pts_interp xp X Y Z hXY hYZ hX pos]
  refine plen_samples_le _ _ (mono_cast xp hxp) _ (mono_cast pos hpos) fun x0 hx0 a ha => ?_
  rw [List.head?_map, Option.mem_def, Option.map_eq_some_iff] at hx0 ha
  obtain ⟨q, hq, rfl⟩ := hx0
  obtain ⟨p, hp, rfl⟩ := ha
  exact Rat.cast_le.mpr (h0 q hq p hp)

private theorem mono_of_steps : ∀ (l : List ℚ), (∀ i (h : i + 1 < l.length), l[i]'(Nat.lt_of_succ_lt h) ≤ l[i + 1]) → Mono l
  | [], _ => trivial
  | [_], _ => trivial
  | a :: b :: t, h => ⟨h 0 (Nat.succ_lt_succ (Nat.succ_pos _)), mono_of_steps (b :: t) fun i hi => h (i + 1) (Nat.succ_lt_succ hi)⟩

theorem linspace_mono (L : ℚ) (hL : 0 ≤ L) (n : Nat) :
    Mono (linspace L n) ∧ ∀ a ∈ (linspace L n).head?, (0 : ℚ) ≤ a :=
  match n with
  | 0 => ⟨trivial, nofun⟩
  | 1 => ⟨trivial, fun _ ha => (Option.some.inj ha).le⟩
  | n + 2 => by
    have hn : 2 ≤ n + 2 := Nat.le_add_left 2 n
    refine ⟨mono_of_steps _ fun i hi => ?_, fun a ha => ?_⟩
    · rw [linspace_getElem L _ hn, linspace_getElem L _ hn]
      exact mul_le_mul_of_nonneg_right (Nat.cast_le.mpr (Nat.le_succ i)) (div_nonneg hL (Nat.cast_nonneg _))
    · rw [(linspace_spec L _ hn).2.1] at ha
      exact (Option.some.inj ha).le

/-- the isometric positions are sorted and start at 0, with or without `adjust_last_gap` -/
theorem isoPositions_mono (L d : ℚ) (hL : 0 ≤ L) (hd : 0 < d) (adj : Bool) :
    Mono (isoPositions L d adj) ∧ ∀ a ∈ (isoPositions L d adj).head?, (0 : ℚ) ≤ a := by
  rcases eq_or_lt_of_le hL with h0 | hpos
  · subst h0
    rw [isoPositions_zero d hd adj]
    exact ⟨trivial, fun _ ha => (Option.some.inj ha).le⟩
  · cases adj with
    | true => rw [isoPositions_adjust L d hpos hd]; exact linspace_mono L hL _
    | false =>
      obtain ⟨_, _, _, hstep⟩ := isoPositions_noadjust L d hpos hd
      refine ⟨mono_of_steps _ fun i h => sub_nonneg.mp (hstep i h).2, ?_⟩
      obtain ⟨m, hm⟩ := Nat.exists_eq_add_of_le' (ceil_steps hpos hd).1
      simp [show isoPositions L d false = arange L d ++ [L] from rfl, arange, hm, List.range_succ_eq_map]

theorem cumdist_length_le (lens X Y Z pos : List ℚ) (hl : ∀ l ∈ lens, 0 ≤ l) (hXY : X.length = Y.length) (hYZ : Y.length = Z.length)
    (hX : X.length = lens.length + 1) (hpos : Mono pos ∧ ∀ a ∈ pos.head?, (0 : ℚ) ≤ a) :
    polylineLength (interp pos (cumdist lens) X) (interp pos (cumdist lens) Y) (interp pos (cumdist lens) Z) ≤ polylineLength X Y Z := by
  obtain ⟨hlen, hhead, _, hmono⟩ := cumdist_spec lens hl
  refine resample_length_le _ X Y Z pos hXY hYZ (hX.trans hlen.symm) hmono hpos.1 fun x0 hx0 => ?_
  cases Option.some.inj (hhead.symm.trans hx0)
  exact hpos.2

/-- **`BranchLinearResampler` never makes a branch longer** (every `n`, every branch with segment lengths `≥ 0`) -/
theorem linearResample_length_le (lens X Y Z : List ℚ) (n : Nat) (hl : ∀ l ∈ lens, 0 ≤ l)
    (hXY : X.length = Y.length) (hYZ : Y.length = Z.length) (hX : X.length = lens.length + 1) :
    ∀ X' Y' Z', linearResample lens [X, Y, Z] n = [X', Y', Z'] →
      polylineLength X' Y' Z' ≤ polylineLength X Y Z := by
  intro X' Y' Z' h
  cases h
  exact cumdist_length_le lens X Y Z _ hl hXY hYZ hX (linspace_mono _ (cumdist_last_nonneg lens hl) n)

/-- **`BranchIsometricResampler` never makes a branch longer** (every spacing `d > 0`, both gap modes, every
branch with segment lengths `≥ 0`) -/
theorem isoResample_length_le (lens X Y Z : List ℚ) (d : ℚ) (hd : 0 < d) (adj : Bool) (hl : ∀ l ∈ lens, 0 ≤ l)
    (hXY : X.length = Y.length) (hYZ : Y.length = Z.length) (hX : X.length = lens.length + 1) :
    ∀ X' Y' Z', isoResample lens [X, Y, Z] d adj = [X', Y', Z'] →
      polylineLength X' Y' Z' ≤ polylineLength X Y Z := by
  intro X' Y' Z' h
  cases h
  exact cumdist_length_le lens X Y Z _ hl hXY hYZ hX (isoPositions_mono _ d (cumdist_last_nonneg lens hl) hd adj)

-- non-vacuity: the right-angled path (0,0,0) → (3,0,0) → (3,4,0) resampled with `n = 2` is its two end points (a chord of length 5
-- for a path of length 7; the lengths themselves are not evaluated)
example : linearResample [3, 4] [[0, 3, 3], [0, 0, 4], [0, 0, 0]] 2 = [[0, 3], [0, 4], [0, 0]] := by decide +kernel

end C16
