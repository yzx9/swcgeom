import SwcVerif.Props.C04Gen
import SwcVerif.Refine.TravFront
import SwcVerif.Proofs.Represent
/-! # C04 for the three public entry points, tied to the source by the translator

`Gen/AlgoTravFront.lean` is regenerated on every run from `swcgeom/core/swc_utils/base.py::traverse`, `swcgeom/core/tree.py::Tree.traverse`
(with its closure factory `wrap`, `Tree.__getitem__`, `SWCLike.__len__`) and `Tree.Node.traverse`, one definition per keyword set of the call.
`RefineTravFront.*_refines` prove each of them equal to the structural recursion `Trav.spec` with the USER's callbacks (`Py.absent2` for a
callback that is not passed); below, the clauses of the property are restated for them, for every well-formed tree and every start node. -/
namespace C04
open Trav Gen.Algo RefineTravFront

variable {σ T K : Type} [Inhabited σ] [Inhabited T] [Inhabited K]

/-- a callback that is not passed neither logs nor changes the state -/
theorem absent2_noLogL : (Py.absent2 : σ × List Int → Int → List Unit → (σ × List Int) × Unit) = noLogL Py.absent2 := rfl
theorem absent2_noLogE : (Py.absent2 : σ × List Int → Int → Option Unit → (σ × List Int) × Unit) = noLogE Py.absent2 := rfl

/-! ## every entry point is the structural recursion -/

/-- **The three translated entry points, every keyword set, on every table and subtree whose nodes are rows**: each returns (never raises,
never runs out of fuel) the value and final callback state of `spec` with the user's callbacks; a callback that is not passed is never
called (`Py.absent2`) and the value returned is then `None` (`Unit`). -/
theorem generated_entry_points_eq_spec (ids pids : List Int) (r : Rose) (h : Represents r ids pids)
    (enter : σ → Int → Option T → σ × T) (leave : σ → Int → List K → σ × K) (s : σ) (F : Nat) :
    -- swc_utils.traverse(topology, …, root=r.id)
    traverse_el_r enter leave (2 * r.size + F + 1) (ids, pids) r.id s = some (spec enter leave r none s) ∧
    traverse_e_r enter (2 * r.size + F + 1) (ids, pids) r.id s = some (spec enter Py.absent2 r none s) ∧
    traverse_l_r leave (2 * r.size + F + 1) (ids, pids) r.id s = some (spec Py.absent2 leave r none s) ∧
    -- Tree.traverse(…, root=r.id) and Tree.Node.traverse(…) on the node handle r.id, when the nodes of the subtree are rows of the tree
    (Rows r ids →
      tree_traverse_el_r enter leave (2 * r.size + F + 1) ids pids r.id s = some (spec enter leave r none s) ∧
      tree_traverse_e_r enter (2 * r.size + F + 1) ids pids r.id s = some (spec enter Py.absent2 r none s) ∧
      tree_traverse_l_r leave (2 * r.size + F + 1) ids pids r.id s = some (spec Py.absent2 leave r none s) ∧
      node_traverse_el enter leave (2 * r.size + F + 1) ids pids r.id s = some (spec enter leave r none s) ∧
      node_traverse_e enter (2 * r.size + F + 1) ids pids r.id s = some (spec enter Py.absent2 r none s) ∧
      node_traverse_l leave (2 * r.size + F + 1) ids pids r.id s = some (spec Py.absent2 leave r none s)) ∧
    -- `root` not passed: the start node is `_traverse_dfs`'s default, node 0
    (r.id = 0 →
      traverse_el enter leave (2 * r.size + F + 1) (ids, pids) s = some (spec enter leave r none s) ∧
      traverse_e enter (2 * r.size + F + 1) (ids, pids) s = some (spec enter Py.absent2 r none s) ∧
      traverse_l leave (2 * r.size + F + 1) (ids, pids) s = some (spec Py.absent2 leave r none s) ∧
      (Rows r ids →
        tree_traverse_el enter leave (2 * r.size + F + 1) ids pids s = some (spec enter leave r none s) ∧
        tree_traverse_e enter (2 * r.size + F + 1) ids pids s = some (spec enter Py.absent2 r none s) ∧
        tree_traverse_l leave (2 * r.size + F + 1) ids pids s = some (spec Py.absent2 leave r none s))) :=
  ⟨traverse_el_r_refines enter leave ids pids r h s F, traverse_e_r_refines enter ids pids r h s F, traverse_l_r_refines leave ids pids r h s F,
   fun hok => ⟨tree_traverse_el_r_refines enter leave ids pids r h hok s F, tree_traverse_e_r_refines enter ids pids r h hok s F,
     tree_traverse_l_r_refines leave ids pids r h hok s F, node_traverse_el_refines enter leave ids pids r h hok s F,
     node_traverse_e_refines enter ids pids r h hok s F, node_traverse_l_refines leave ids pids r h hok s F⟩,
   fun h0 => ⟨traverse_el_refines enter leave ids pids r h h0 s F, traverse_e_refines enter ids pids r h h0 s F,
     traverse_l_refines leave ids pids r h h0 s F,
     fun hok => ⟨tree_traverse_el_refines enter leave ids pids r h h0 hok s F, tree_traverse_e_refines enter ids pids r h h0 hok s F,
       tree_traverse_l_refines leave ids pids r h h0 hok s F⟩⟩⟩

/-- **Every well-formed tree, every start node**: a `Tree` object's ids are its row indices (`rangeI n`); for every node `k` of every
well-formed parent table there is the rose `sub` of the subtree at `k` such that `Tree.traverse(root=k, …)` and `tree.node(k).traverse(…)`,
as translated, are `spec` on `sub` for all callbacks — the hypotheses of `generated_entry_points_eq_spec` are not a restriction. -/
theorem generated_tree_entry_points_every_tree (pids : List Int) (hw : C07.WF pids) (k : Nat) (hk : k < pids.length) :
    ∃ sub : Rose, sub.id = (k : Int) ∧ Represents sub (Sub.rangeI pids.length) pids ∧ sub.ids.Nodup ∧ (∀ i ∈ sub.ids, 0 ≤ i ∧ i.toNat < pids.length) ∧
      ∀ {σ T K : Type} [Inhabited σ] [Inhabited T] [Inhabited K] (enter : σ → Int → Option T → σ × T) (leave : σ → Int → List K → σ × K) (s : σ) (F : Nat),
        tree_traverse_el_r enter leave (2 * sub.size + F + 1) (Sub.rangeI pids.length) pids k s = some (spec enter leave sub none s) ∧
        tree_traverse_e_r enter (2 * sub.size + F + 1) (Sub.rangeI pids.length) pids k s = some (spec enter Py.absent2 sub none s) ∧
        tree_traverse_l_r leave (2 * sub.size + F + 1) (Sub.rangeI pids.length) pids k s = some (spec Py.absent2 leave sub none s) ∧
        node_traverse_el enter leave (2 * sub.size + F + 1) (Sub.rangeI pids.length) pids k s = some (spec enter leave sub none s) ∧
        node_traverse_e enter (2 * sub.size + F + 1) (Sub.rangeI pids.length) pids k s = some (spec enter Py.absent2 sub none s) ∧
        node_traverse_l leave (2 * sub.size + F + 1) (Sub.rangeI pids.length) pids k s = some (spec Py.absent2 leave sub none s) ∧
        (k = 0 →
          tree_traverse_el enter leave (2 * sub.size + F + 1) (Sub.rangeI pids.length) pids s = some (spec enter leave sub none s) ∧
          tree_traverse_e enter (2 * sub.size + F + 1) (Sub.rangeI pids.length) pids s = some (spec enter Py.absent2 sub none s) ∧
          tree_traverse_l leave (2 * sub.size + F + 1) (Sub.rangeI pids.length) pids s = some (spec Py.absent2 leave sub none s)) := by
  obtain ⟨sub, hid, hR, hrows⟩ := Represent.wf_subtree_represented pids hw k hk
  have hok : Rows sub (Sub.rangeI pids.length) := fun j hj => by
    have := hrows j hj
    simp only [Sub.rangeI, List.length_map, List.length_range]
    omega
  refine ⟨sub, hid, hR, hR.2, hrows, fun enter leave s F => ?_⟩
  obtain ⟨-, -, -, ht, h0⟩ := hid ▸ generated_entry_points_eq_spec (Sub.rangeI pids.length) pids sub hR enter leave s F
  obtain ⟨a, b, c, d, e, f⟩ := ht hok
  exact ⟨a, b, c, d, e, f, fun hk0 => (h0 (by omega)).2.2.2 hok⟩

/-! ## the clauses of the property, for the entry points -/

/-- **`enter` exactly once per node of the subtree, after its parent, nowhere else** — for `Tree.traverse` / `Tree.Node.traverse` /
`swc_utils.traverse` as translated, with both callbacks and with `enter` alone (the callback state is the call log) -/
theorem generated_entry_points_enter_once (ids pids : List Int) (r : Rose) (h : Represents r ids pids) (hok : Rows r ids)
    (enter : σ → Int → Option T → σ × T) (leave : σ → Int → List K → σ × K) (s : σ) :
    ∃ res res', 
      traverse_el_r (enterI enter) (noLogL leave) (2 * r.size + 1) (ids, pids) r.id (s, ([] : List Int)) = some res ∧
      tree_traverse_el_r (enterI enter) (noLogL leave) (2 * r.size + 1) ids pids r.id (s, ([] : List Int)) = some res ∧
      node_traverse_el (enterI enter) (noLogL leave) (2 * r.size + 1) ids pids r.id (s, ([] : List Int)) = some res ∧
      traverse_e_r (enterI enter) (2 * r.size + 1) (ids, pids) r.id (s, ([] : List Int)) = some res' ∧
      tree_traverse_e_r (enterI enter) (2 * r.size + 1) ids pids r.id (s, ([] : List Int)) = some res' ∧
      node_traverse_e (enterI enter) (2 * r.size + 1) ids pids r.id (s, ([] : List Int)) = some res' ∧
      (res.1.2.reverse = enterOrder r ∧ res.1.2.Perm r.ids ∧ res.1.2.Nodup ∧ (∀ j, j ∉ r.ids → j ∉ res.1.2)) ∧
      (res'.1.2.reverse = enterOrder r ∧ res'.1.2.Perm r.ids ∧ res'.1.2.Nodup ∧ (∀ j, j ∉ r.ids → j ∉ res'.1.2)) := by
  have H := generated_entry_points_eq_spec ids pids r h (enterI enter) (noLogL leave) (s, ([] : List Int)) 0
  obtain ⟨a, b, _, ht, _⟩ := H
  obtain ⟨c, d, _, e, f, _⟩ := ht hok
  rw [absent2_noLogL] at b d f
  exact ⟨_, _, a, c, e, b, d, f, enter_log_facts r h.2 enter leave s,
    enter_log_facts r h.2 enter (Py.absent2 : σ → Int → List Unit → σ × Unit) s⟩

/-- **`leave` exactly once per node of the subtree, after all of its children; the value returned is the start node's** -/
theorem generated_entry_points_leave_once (ids pids : List Int) (r : Rose) (h : Represents r ids pids) (hok : Rows r ids)
    (enter : σ → Int → Option T → σ × T) (leave : σ → Int → List K → σ × K) (s : σ) :
    ∃ res res',
      traverse_el_r (noLogE enter) (leaveI leave) (2 * r.size + 1) (ids, pids) r.id (s, ([] : List Int)) = some res ∧
      tree_traverse_el_r (noLogE enter) (leaveI leave) (2 * r.size + 1) ids pids r.id (s, ([] : List Int)) = some res ∧
      node_traverse_el (noLogE enter) (leaveI leave) (2 * r.size + 1) ids pids r.id (s, ([] : List Int)) = some res ∧
      traverse_l_r (leaveI leave) (2 * r.size + 1) (ids, pids) r.id (s, ([] : List Int)) = some res' ∧
      tree_traverse_l_r (leaveI leave) (2 * r.size + 1) ids pids r.id (s, ([] : List Int)) = some res' ∧
      node_traverse_l (leaveI leave) (2 * r.size + 1) ids pids r.id (s, ([] : List Int)) = some res' ∧
      (res.1.2.reverse = leaveOrder r ∧ res.1.2.Perm r.ids ∧ res.1.2.Nodup ∧ (∀ j, j ∉ r.ids → j ∉ res.1.2) ∧
        res.2 = (spec enter leave r none s).2) ∧
      (res'.1.2.reverse = leaveOrder r ∧ res'.1.2.Perm r.ids ∧ res'.1.2.Nodup ∧ (∀ j, j ∉ r.ids → j ∉ res'.1.2) ∧
        res'.2 = (spec Py.absent2 leave r none s).2) := by
  have H := generated_entry_points_eq_spec ids pids r h (noLogE enter) (leaveI leave) (s, ([] : List Int)) 0
  obtain ⟨a, _, b, ht, _⟩ := H
  obtain ⟨c, _, d, e, _, f⟩ := ht hok
  rw [absent2_noLogE] at b d f
  exact ⟨_, _, a, c, e, b, d, f, leave_log_facts r h.2 enter leave s,
    leave_log_facts r h.2 (Py.absent2 : σ → Int → Option Unit → σ × Unit) leave s⟩

/-- non-vacuity: the translated entry points on the concrete table of `C04.lean`, kernel-evaluated (the tree's own ids are its rows) -/
example : Rows exRose exIds := by
  intro j hj
  have : j = 0 ∨ j = 2 ∨ j = 3 ∨ j = 1 ∨ j = 4 := by simpa [exRose, Rose.ids, idsL] using hj
  simp only [exIds, List.length]
  omega
example : (tree_traverse_el logEnter logLeave (2 * exRose.size + 1) exIds exPids ([] : List Ev)).map
      (fun r => (r.1.reverse.map Ev.show, r.2))
    = some (["E0:N", "E3:217", "E4:6730", "L4:[]", "E1:6730", "L1:[]", "L3:[1,4]", "E2:217", "L2:[]", "L0:[2,888]"],
            (spec logEnter logLeave exRose none []).2) := by
  decide +kernel
example : (node_traverse_e logEnter (2 * 3 + 1) exIds exPids 3 ([] : List Ev)).map (fun r => (r.1.reverse.map Ev.show, r.2))
    = some (["E3:N", "E4:220", "E1:220"], ()) := by
  decide +kernel
example : (traverse_l_r logLeave (2 * 3 + 1) (exIds, exPids) 3 ([] : List Ev)).map (fun r => r.1.reverse.map Ev.show)
    = some ["L4:[]", "L1:[]", "L3:[1,4]"] := by
  decide +kernel
/-- a start node that is no row of the tree: the wrapped `enter` raises (`Tree.__getitem__`'s IndexError) -/
example : tree_traverse_e_r logEnter 9 exIds exPids 7 ([] : List Ev) = none := by decide +kernel

end C04
