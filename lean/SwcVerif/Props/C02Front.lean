import SwcVerif.Refine.ReadFront
import SwcVerif.Props.C02Gen
/-! # C02, the whole of `read_swc` as translated: front end + read loop + tail

`ReadFront.readSwcFull` (Model/AlgoRunReadFront.lean) chains the definitions regenerated on every run from
`utils/file.py::FileReader.__init__ / __enter__ / __exit__`, `detect_encoding`, `io.py::parse_swc` (the `extras` statement, the read loop)
and `io.py::read_swc` (from `# fix swc` to the end).  The source is a `Py.Src` (a text stream with its encoding, a `BytesIO`, a name); the
world is `linesOf` - what iterating the text stream `__enter__` returned yields.  Everything below holds for EVERY source kind, every
`encoding` / `extra_cols` / `fix_roots` / `sort_nodes` / `reset_index`, every chardet answer and every list of lines (domain as in
`Props/C02Gen.lean`: seven standard column names, `7 + |extras|` converted groups per matched row; distinct column keys where a column
is looked up by its key). -/
namespace C02
open Gen.Algo RefineParse RefineReadFront ReadFront Py

variable {F : Type} [Inhabited F] [Add F] [Sub F] [Mul F] [OfNat F 0] [OfNat F 1] [LT F] [DecidableLT F] [LE F] [DecidableLE F]
variable {L Val C σ : Type} [Inhabited L] [Inhabited Val] [Inhabited C] [Inhabited σ]
variable (linesOf : Src → Py.Stream L) (rowOf : L → Option ((List Val) × Bool)) (commentOf : L → Option C) (isHeader : C → Bool)
  (blank : L → Bool)

/-- `detect_encoding` as translated: a text stream's own encoding, else chardet's answer (`utf-8` for None / ""), with the warning exactly
when the confidence is below `low_confidence` -/
theorem generated_detect_encoding (src : Src) (lowc : F) (chardet : Option String × F) (ws : List Int) :
    detect_encoding src lowc chardet ws =
      some (match src.encoding with
        | some e => (ws, e)
        | none => (if chardet.2 < lowc then ws ++ [0] else ws, strOr chardet.1 "utf-8")) :=
  detect_encoding_eq src lowc chardet ws

/-- `FileReader(fname, encoding=…)` + `__enter__()` as translated: never fails, exactly one slot holds the source, the stream returned
is the caller's text stream / a `TextIOWrapper` over the caller's `BytesIO` / the file opened by name, with the effective encoding -/
theorem generated_open_reader (src : Src) (encoding : String) (lowc : F) (chardet : Option String × F) :
    openReader src encoding lowc chardet =
      some (detectWarn src encoding lowc chardet,
        { initSpec src encoding chardet.1 with f := some (streamOf src (effEncoding src encoding chardet.1)) },
        streamOf src (effEncoding src encoding chardet.1)) :=
  openReader_eq src encoding lowc chardet

/-- `extras = list(extra_cols) if extra_cols else []` as translated -/
theorem generated_extras (xs : Option (List String)) : parse_swc_extras xs = some (normExtras xs, ()) := parse_swc_extras_eq xs

/-- `SWCNames.cols` and `get_names` as translated: the seven names in the order id, type, x, y, z, r, pid; `None` = the class defaults -/
theorem generated_names (nm : SWCNames7) (names : Option SWCNames7) :
    swc_names_cols nm = some [nm.id, nm.type, nm.x, nm.y, nm.z, nm.r, nm.pid] ∧ get_names names = some (names.getD defaultNames) ∧
    namesCols defaultNames = ["id", "type", "x", "y", "z", "r", "pid"] :=
  ⟨rfl, rfl, rfl⟩

/-- the first half of `read_swc` as translated: `parse_swc` is called with the file, the DEFAULTED names, `extra_cols` and `encoding` -/
theorem generated_read_swc_front {DF CM : Type} [Inhabited DF] [Inhabited CM]
    (P : Src → SWCNames7 → Option (List String) → String → Option (DF × CM)) (src : Src) (xs : Option (List String)) (encoding : String)
    (names : Option SWCNames7) :
    read_swc_front P src xs encoding names =
      (P src (names.getD defaultNames) xs encoding).map fun r => (names.getD defaultNames, r.1, r.2, ()) :=
  read_swc_front_eq P src xs encoding names

/-- **the prologue of `parse_swc` as translated**: the conversions `int, int, float, float, float, float, int` + `float` per extra column
(0 / 1: the dtype of the column), the regular-expression TEXT for `k` extras (`reSwcText k`: the seven pinned groups + `k` times `RE_FLOAT`,
joined by `\s+`, then the optional tail), the trailing group `7 + k + 1`, the header comment `' '.join(names.cols())` -/
theorem generated_prologue (nm : SWCNames7) (extras : List String) :
    parse_swc_prologue nm extras =
      some ([0, 0, 1, 1, 1, 1, 0] ++ List.replicate extras.length 1, reSwcText extras.length, 7 + (extras.length : Int) + 1,
        Py.strJoin " " (namesCols nm), ()) :=
  parse_swc_prologue_eq nm extras

/-- the regular expression without extras is the one the hand-written recogniser was written for (`C02.consts_pinned`), as TEXT -/
example : reSwcText 0 = "^\\s*([0-9]+)\\s+([0-9]+)\\s+" ++ Gen.Consts.reFloat ++ "\\s+" ++ Gen.Consts.reFloat ++ "\\s+" ++ Gen.Consts.reFloat ++ "\\s+" ++
    Gen.Consts.reFloat ++ "\\s+(-?[0-9]+)((?:\\s+[+-.0-9eE]+)*)\\s*$" := by decide +kernel

/-- **`Tree.from_swc` as translated**: a failed read raises `ValueError("fails to read swc: …")` - never a tree from a partial table -;
a successful one hands `from_data_frame` exactly what `read_swc` returned, with `source` = the absolute path of a `str` name -/
theorem generated_tree_from_swc {KW DF CM T : Type} [Inhabited KW] [Inhabited DF] [Inhabited CM] [Inhabited T]
    (R : Src → KW → Except Py.Exc (DF × CM)) (Fd : DF → String → CM → Except Py.Exc T) (abspath : String → String) (src : Src) (kw : KW) :
    tree_from_swc R Fd abspath src kw =
      some (match R src kw with
        | .error e => if e.isA "Exception" then .error wrapExc else .error e
        | .ok r => Fd r.1 (sourceOf abspath src) r.2) :=
  tree_from_swc_eq R Fd abspath src kw

/-- **`Tree.from_eswc` as translated**: `extra_cols` = the caller's (none for `None`) followed by the five eswc columns -/
theorem generated_from_eswc_extras (xs : Option (List String)) : from_eswc_extras xs = some (normExtras xs ++ eswcNames, ()) :=
  from_eswc_extras_eq xs

example : (match tree_from_swc (KW := Unit) (fun _ _ => (.error ⟨"KeyError", "x", []⟩ : Except Py.Exc (Nat × Nat)))
      (fun a _ _ => (.ok a : Except Py.Exc Nat)) id (.bytes 1) () with
    | some (.error e) => decide (e = wrapExc)
    | _ => false) = true := by decide +kernel
example : from_eswc_extras (some ["a"]) = some (["a", "level", "mode", "timestamp", "teraflyindex", "feature_value"], ()) := by rfl

/-- **which list becomes which column**: under DISTINCT keys, the column stored under the `j`-th key (`names.cols()` then the extras, in
order) holds the `j`-th field of every data row, in file order -/
theorem table_column (cols extras : List String) (rows : List (List Val)) (hnd : (cols ++ extras).Nodup)
    (hrows : ∀ fs ∈ rows, cols.length + extras.length ≤ fs.length) (j : Nat) (hj : j < (cols ++ extras).length) :
    Dict.get? (tableOf cols extras rows) (cols ++ extras)[j] = some (rows.filterMap (·[j]?)) ∧
      (rows.filterMap (·[j]?)).map some = rows.map (·[j]?) := by
  have hj' : j < cols.length + extras.length := by simpa using hj
  obtain ⟨h1, h2⟩ := columns (cols.length + extras.length) rows (List.replicate (cols.length + extras.length) []) (by simp) hrows
  refine ⟨?_, column_length _ rows hrows j hj'⟩
  unfold tableOf
  rw [Dict.get?_ofZip _ _ hnd (by rw [h1]; simp) _ (List.getElem_mem hj), hnd.idxOf_getElem, h2 j hj', List.getElem?_replicate, if_pos hj']
  rfl

/-- the integer column `names.<k>` that the tail of `read_swc` works on -/
def colOf (intOf : Val → Int) (rows : List (List Val)) (j : Nat) : List Int := (rows.filterMap (·[j]?)).map intOf

theorem colInt_table (intOf : Val → Int) (cols extras : List String) (rows : List (List Val)) (hnd : (cols ++ extras).Nodup)
    (hrows : ∀ fs ∈ rows, cols.length + extras.length ≤ fs.length) (j : Nat) (hj : j < (cols ++ extras).length) :
    colInt intOf (tableOf cols extras rows) (cols ++ extras)[j] = some (colOf intOf rows j) := by
  rw [colInt, (table_column cols extras rows hnd hrows j hj).1]; rfl

/-- **`read_swc` on a file whose lines are all valid** (any source kind, any options): one row per data line in file order - column
`(cols ++ extras)[j]` of the table is field `j` of every data line (`table_column`) -, the kept comments in order, the warning for the
first row with ignored fields; then the tail runs on the columns id / pid / type / r of exactly these rows: repair (`fix_roots`), then
`sort_nodes_` if `sort_nodes` ELSE `reset_index_` if `reset_index`, then the three checks. -/
theorem generated_read_swc_rows (intOf : Val → Int) (norm : σ → Int → σ × List Int) (fuel : Nat) (src : Src)
    (xs : Option (List String)) (mode : Option String) (srt rst : Bool) (encoding : String) (names : Option SWCNames7) (lowc : F)
    (chardet : Option String × F) (cbs : σ)
    (ls : List L) (hnd : (namesCols (names.getD defaultNames) ++ normExtras xs).Nodup)
    (hk : ∀ l fs t, rowOf l = some (fs, t) → 7 + (normExtras xs).length ≤ fs.length)
    (hlines : linesRead linesOf src encoding chardet.1 = ⟨ls, none⟩)
    (hvalid : ∀ l ∈ ls, isInvalid rowOf commentOf blank l = false) :
    readSwcFull linesOf rowOf commentOf isHeader blank intOf norm fuel src xs mode srt rst encoding names lowc chardet cbs =
      let rows := ls.filterMap (rowAt rowOf)
      let ids := colOf intOf rows 0; let pids := colOf intOf rows 6; let types := colOf intOf rows 1; let rs := colOf intOf rows 5
      (RefineRepair.fixStage norm fuel ids pids types mode cbs).bind fun f =>
        (RefineRepair.normStage fuel ids f.1 f.2.1 rs srt rst).bind fun g =>
          (RefineRepair.checkStage fuel g.1 g.2.1 g.2.2.2).map fun w =>
            .ok ⟨tableOf (namesCols (names.getD defaultNames)) (normExtras xs) rows, ls.filterMap (keptComment rowOf commentOf isHeader),
              g.1, g.2.1, g.2.2.1, g.2.2.2,
              detectWarn src encoding lowc chardet, (match firstTail rowOf ls 0 with | some n => [warnExc n] | none => []), w, f.2.2⟩ := by
  have hj : ∀ j < 7, j < (namesCols (names.getD defaultNames) ++ normExtras xs).length := fun j hj => by
    rw [List.length_append, namesCols_length]; omega
  have c := colInt_table intOf (namesCols (names.getD defaultNames)) (normExtras xs) (ls.filterMap (rowAt rowOf)) hnd
    (rows_long rowOf (normExtras xs) ls hk)
  rw [readSwcFull_eq, hlines, generated_valid rowOf commentOf isHeader blank _ _ _ ls none (namesCols_length _) hk hvalid]
  simp only [Option.bind_some, backStages]
  -- the keys `names.id`, `names.pid`, `names.type`, `names.r` are keys 0, 6, 1, 5 of `names.cols()`
  rw [show colInt intOf _ (names.getD defaultNames).id = _ from c 0 (hj 0 (by decide)),
    show colInt intOf _ (names.getD defaultNames).pid = _ from c 6 (hj 6 (by decide)),
    show colInt intOf _ (names.getD defaultNames).type = _ from c 1 (hj 1 (by decide)),
    show colInt intOf _ (names.getD defaultNames).r = _ from c 5 (hj 5 (by decide))]
  rfl

/-- **never a shortened or partially filled table**: a line that is neither a data row, a comment nor blank - after any valid prefix,
before any suffix, with or without a later decode failure - makes `read_swc` raise `ValueError("invalid row n")` for the FIRST such line,
for every source kind and whatever `extra_cols` / `fix_roots` / `sort_nodes` / `reset_index` / `encoding` are -/
theorem generated_read_swc_invalid (intOf : Val → Int) (norm : σ → Int → σ × List Int) (fuel : Nat) (src : Src)
    (xs : Option (List String)) (mode : Option String) (srt rst : Bool) (encoding : String) (names : Option SWCNames7) (lowc : F)
    (chardet : Option String × F) (cbs : σ)
    (pre : List L) (bad : L) (post : List L) (fail : Option Py.Exc)
    (hk : ∀ l fs t, rowOf l = some (fs, t) → 7 + (normExtras xs).length ≤ fs.length)
    (hlines : linesRead linesOf src encoding chardet.1 = ⟨pre ++ bad :: post, fail⟩)
    (hpre : ∀ l ∈ pre, isInvalid rowOf commentOf blank l = false) (hbad : isInvalid rowOf commentOf blank bad = true) :
    readSwcFull linesOf rowOf commentOf isHeader blank intOf norm fuel src xs mode srt rst encoding names lowc chardet cbs =
      some (.error (invalidExc (pre.length + 1))) := by
  obtain ⟨ws, hp⟩ := generated_never_partial rowOf commentOf isHeader blank (namesCols (names.getD defaultNames)) (normExtras xs) ⟨some (), false⟩ pre bad post fail
    (namesCols_length _) hk hpre hbad
  rw [readSwcFull_eq, hlines, hp]
  rfl

/-- **bytes that cannot be decoded**: the call raises (never a table); `ValueError("decode failed …")` when every line before the failure
is valid and the failure is a `UnicodeDecodeError` -/
theorem generated_read_swc_decode (intOf : Val → Int) (norm : σ → Int → σ × List Int) (fuel : Nat) (src : Src)
    (xs : Option (List String)) (mode : Option String) (srt rst : Bool) (encoding : String) (names : Option SWCNames7) (lowc : F)
    (chardet : Option String × F) (cbs : σ)
    (ls : List L) (e : Py.Exc)
    (hk : ∀ l fs t, rowOf l = some (fs, t) → 7 + (normExtras xs).length ≤ fs.length)
    (hlines : linesRead linesOf src encoding chardet.1 = ⟨ls, some e⟩) :
    ∃ e', readSwcFull linesOf rowOf commentOf isHeader blank intOf norm fuel src xs mode srt rst encoding names lowc chardet cbs = some (.error e') ∧
      ((∀ l ∈ ls, isInvalid rowOf commentOf blank l = false) → e.kind = "UnicodeDecodeError" → e' = decodeExc) := by
  obtain ⟨ws, e', hp, he⟩ := generated_decode_fails_loudly rowOf commentOf isHeader blank (namesCols (names.getD defaultNames)) (normExtras xs) ⟨some (), false⟩ ls e
    (namesCols_length _) hk
  refine ⟨e', ?_, he⟩
  rw [readSwcFull_eq, hlines, hp]
  rfl

/-- **the dispatch order**: with `sort_nodes` the generated `sort_nodes_` runs INSTEAD of `reset_index_` (the `reset_index` argument is
not looked at); without it `reset_index_` runs exactly when `reset_index`; with neither the columns are left alone -/
theorem generated_norm_dispatch (fuel : Nat) (ids pids types rs : List Int) (rst : Bool) :
    RefineRepair.normStage fuel ids pids types rs true rst = (sort_nodes_ fuel ids pids types rs).map (fun r => (r.1, r.2.1, r.2.2.1, r.2.2.2.1)) ∧
    RefineRepair.normStage fuel ids pids types rs false true = (reset_index_ ids pids).map (fun r => (r.1, r.2.1, types, rs)) ∧
    RefineRepair.normStage fuel ids pids types rs false false = some (ids, pids, types, rs) := by
  simp [RefineRepair.normStage]

/-- … hence the whole call does not depend on `reset_index` when `sort_nodes` is set -/
theorem generated_read_swc_sort_ignores_reset (intOf : Val → Int) (norm : σ → Int → σ × List Int) (fuel : Nat) (src : Src)
    (xs : Option (List String)) (mode : Option String) (rst : Bool) (encoding : String) (names : Option SWCNames7) (lowc : F)
    (chardet : Option String × F) (cbs : σ) :
    readSwcFull linesOf rowOf commentOf isHeader blank intOf norm fuel src xs mode true rst encoding names lowc chardet cbs =
      readSwcFull linesOf rowOf commentOf isHeader blank intOf norm fuel src xs mode true false encoding names lowc chardet cbs := by
  simp only [readSwcFull_eq, backStages, RefineRepair.normStage, if_true]

/-! non-vacuity (kernel-evaluated): a line is `(i, p)`: `i ≥ 0` a data row `[i, 1, 0, 0, 0, 1, p]`, `i = -1` the comment `p` (header iff
`p = 0`), `i = -2` blank, anything else invalid.  A `BytesIO` read with `encoding="detect"`, chardet without an answer and confidence
below the threshold. -/
section
def fxRow (l : Int × Int) : Option (List Int × Bool) := if 0 ≤ l.1 then some ([l.1, 1, 0, 0, 0, 1, l.2], false) else none
def fxCmt (l : Int × Int) : Option Int := if l.1 = -1 then some l.2 else none
def fxLines (good : Bool) : Src → Py.Stream (Int × Int)
  | .wrapped 1 "utf-8" => ⟨[(-1, 7), (0, -1), (1, 0), (-2, 0)] ++ (if good then [] else [(-3, 0)]) ++ [(2, 1)], none⟩
  | _ => ⟨[], none⟩
def fxNorm : Unit → Int → Unit × List Int := fun _ _ => ((), [])

example : (match readSwcFull (F := Int) (fxLines true) fxRow fxCmt (· = 0) (·.1 = -2) id fxNorm 20 (.bytes 1) none none false true
      "detect" none 9 (none, 5) () with
    | some (.ok o) => decide (o.ids = [0, 1, 2] ∧ o.pids = [-1, 0, 1] ∧ o.comments = [7] ∧ o.warnDetect = [0] ∧ o.warnCheck = [] ∧
        Dict.get? o.df "pid" = some [-1, 0, 1])
    | _ => false) = true := by decide +kernel
example : (match readSwcFull (F := Int) (fxLines false) fxRow fxCmt (· = 0) (·.1 = -2) id fxNorm 20 (.bytes 1) (some []) (some "somas") true true
      "detect" none 9 (none, 5) () with
    | some (.error e) => decide (e = invalidExc 5)
    | _ => false) = true := by decide +kernel
end

end C02
