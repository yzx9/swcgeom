import SwcVerif.Refine.Parse
import SwcVerif.Props.C02
/-! # C02, tied to the source by the imperative translator

`Gen.Algo.parse_swc` and `Gen.Algo.file_reader_exit` are regenerated on every run from `swcgeom/core/swc_utils/io.py::parse_swc` (the
`with FileReader(...) as f:` block, `try … except UnicodeDecodeError`, the `for i, line in enumerate(f)` loop with its three-way
classification, the once-only warning, the per-column `vals[i].append(...)`, the `raise ValueError`) and from
`swcgeom/utils/file.py::FileReader.__exit__`.  The text level is abstracted: a line is an opaque value, `rowOf` is `re_swc.search`
(converted groups + "the trailing group is non-empty"), `commentOf` is `RE_COMMENT.match` + the comment text, `isHeader` the
`startswith(ignored_comment)` test, `blank` is `str.isspace`; the file is the list of lines its iterator yields, optionally followed by
the exception it raises.  The theorems below hold for EVERY such list, every failure and every four functions (domain: the seven
standard column names, and at least `7 + |extras|` converted groups per matched row — what the regular expression provides). -/
namespace C02
open Gen.Algo RefineParse

variable {L Val C : Type} [Inhabited L] [Inhabited Val] [Inhabited C]
variable (rowOf : L → Option ((List Val) × Bool)) (commentOf : L → Option C) (isHeader : C → Bool) (blank : L → Bool)

/-- **the generated function is the fold `RefineParse.parseSpec`** (never an untracked exception) -/
theorem generated_parse_eq_spec (cols extras : List String) (reader : FileReader) (stream : Py.Stream L)
    (hc : cols.length = 7) (hk : ∀ l fs t, rowOf l = some (fs, t) → 7 + extras.length ≤ fs.length) :
    parse_swc rowOf commentOf isHeader blank cols extras reader stream
      = some (parseSpec rowOf commentOf isHeader blank cols extras reader stream) :=
  parse_refines rowOf commentOf isHeader blank cols extras reader stream hc hk

/-- the table the generated function returns for the data rows `rows`: one column per key, filled row by row -/
def tableOf (cols extras : List String) (rows : List (List Val)) : Py.Dict String (List Val) :=
  Py.Dict.ofZip (cols ++ extras) (rows.foldl appendRow (List.replicate (cols.length + extras.length) []))

/-- **no invalid line**: whatever the stream does at its end, the call issues the one warning for the first row with ignored fields (none if
there is no such row), closes the file, and returns the table of ALL data rows in file order with the kept comments - or raises the
stream's failure, a `UnicodeDecodeError` as the `ValueError("decode failed …")` of the handler -/
theorem generated_valid (cols extras : List String) (reader : FileReader) (ls : List L) (fail : Option Py.Exc)
    (hc : cols.length = 7) (hk : ∀ l fs t, rowOf l = some (fs, t) → 7 + extras.length ≤ fs.length)
    (h : ∀ l ∈ ls, isInvalid rowOf commentOf blank l = false) :
    parse_swc rowOf commentOf isHeader blank cols extras reader ⟨ls, fail⟩ =
      some ((match firstTail rowOf ls 0 with | some n => [warnExc n] | none => []), closeReader reader,
        match fail with
        | none => .ok (tableOf cols extras (ls.filterMap (rowAt rowOf)), ls.filterMap (keptComment rowOf commentOf isHeader))
        | some e => .error (if e.isA "UnicodeDecodeError" then decodeExc else e)) := by
  rw [parse_refines rowOf commentOf isHeader blank cols extras reader _ hc hk, parseSpec, loop_valid rowOf commentOf isHeader blank ls 0 _ h]
  cases fail with
  | none => rfl
  | some e => simp only [apply_ite Except.error]; rfl

/-- **Never a shortened or partially filled table**: an invalid line at ANY position — whatever follows it, decode failure included —
makes the call raise `ValueError("invalid row N …")` with `N` the number of the FIRST such line; the file is closed. -/
theorem generated_never_partial (cols extras : List String) (reader : FileReader) (pre : List L) (bad : L) (post : List L) (fail : Option Py.Exc)
    (hc : cols.length = 7) (hk : ∀ l fs t, rowOf l = some (fs, t) → 7 + extras.length ≤ fs.length)
    (hpre : ∀ l ∈ pre, isInvalid rowOf commentOf blank l = false) (hbad : isInvalid rowOf commentOf blank bad = true) :
    ∃ ws, parse_swc rowOf commentOf isHeader blank cols extras reader ⟨pre ++ bad :: post, fail⟩
      = some (ws, closeReader reader, .error (invalidExc (pre.length + 1))) := by
  rw [parse_refines rowOf commentOf isHeader blank cols extras reader _ hc hk]
  simp only [parseSpec]
  rw [loop_invalid rowOf commentOf isHeader blank bad post hbad pre 0 _ hpre]
  simp only [Int.zero_add]
  exact ⟨_, rfl⟩

/-- **Reading succeeds exactly when no line is invalid** (file without decode failure), and then returns the table of ALL data rows in
file order, the kept comments in order, one warning naming the first row with ignored fields (none if there is no such row), and has
closed the file. -/
theorem generated_read_ok_iff (cols extras : List String) (reader : FileReader) (ls : List L)
    (hc : cols.length = 7) (hk : ∀ l fs t, rowOf l = some (fs, t) → 7 + extras.length ≤ fs.length)
    (ws : List Py.Exc) (rd : FileReader) (df : Py.Dict String (List Val)) (cs : List C) :
    parse_swc rowOf commentOf isHeader blank cols extras reader ⟨ls, none⟩ = some (ws, rd, .ok (df, cs)) ↔
      (∀ l ∈ ls, isInvalid rowOf commentOf blank l = false) ∧
      df = tableOf cols extras (ls.filterMap (rowAt rowOf)) ∧
      cs = ls.filterMap (keptComment rowOf commentOf isHeader) ∧
      ws = (match firstTail rowOf ls 0 with | some n => [warnExc n] | none => []) ∧
      rd = closeReader reader := by
  rcases first_invalid rowOf commentOf blank ls with h | ⟨pre, bad, post, rfl, hpre, hbad⟩
  · rw [generated_valid rowOf commentOf isHeader blank cols extras reader ls none hc hk h]
    simp only [Option.some.injEq, Prod.mk.injEq, Except.ok.injEq]
    constructor
    · rintro ⟨rfl, rfl, rfl, rfl⟩; exact ⟨h, rfl, rfl, rfl, rfl⟩
    · rintro ⟨-, rfl, rfl, rfl, rfl⟩; exact ⟨rfl, rfl, rfl, rfl⟩
  · obtain ⟨ws', e⟩ := generated_never_partial rowOf commentOf isHeader blank cols extras reader pre bad post none hc hk hpre hbad
    rw [e]
    exact ⟨fun h => by simp at h, fun h => by simpa [hbad] using h.1 bad⟩

/-- **every column has exactly one entry per data row, in order, equal to that row's field**: column `j` of the table built from `rows`
is `rows.map (·[j])` (proved through the translated `for i, trans in enumerate(transforms): vals[i].append(…)`, not assumed) -/
theorem generated_columns (k : Nat) (rows : List (List Val)) (hrows : ∀ fs ∈ rows, k ≤ fs.length) :
    (rows.foldl appendRow (List.replicate k [])).length = k ∧
    ∀ j, j < k → ∃ col, (rows.foldl appendRow (List.replicate k []))[j]? = some col ∧ col.map some = rows.map (·[j]?) ∧ col.length = rows.length := by
  obtain ⟨h1, h2⟩ := columns k rows (List.replicate k []) (by simp) hrows
  refine ⟨h1, fun j hj => ⟨rows.filterMap (·[j]?), ?_, column_length k rows hrows j hj, ?_⟩⟩
  · rw [h2 j hj, List.getElem?_replicate, if_pos hj]; rfl
  · rw [← List.length_map some, column_length k rows hrows j hj, List.length_map]

/-- the rows the table is built from are long enough (so `generated_columns` applies to `generated_read_ok_iff`) -/
theorem rows_long (extras : List String) (ls : List L) (hk : ∀ l fs t, rowOf l = some (fs, t) → 7 + extras.length ≤ fs.length) :
    ∀ fs ∈ ls.filterMap (rowAt rowOf), 7 + extras.length ≤ fs.length := by
  intro fs hfs
  simp only [List.mem_filterMap, rowAt, Option.map_eq_some_iff] at hfs
  obtain ⟨l, -, ⟨fs', t⟩, hr, rfl⟩ := hfs
  exact hk l fs' t hr

/-- **Bytes that cannot be decoded**: when the file iterator raises (after any number of valid lines), the call raises — the
`UnicodeDecodeError` as the `ValueError("decode failed …")` of the handler, any other exception unchanged — and never returns a table. -/
theorem generated_decode_fails_loudly (cols extras : List String) (reader : FileReader) (ls : List L) (e : Py.Exc)
    (hc : cols.length = 7) (hk : ∀ l fs t, rowOf l = some (fs, t) → 7 + extras.length ≤ fs.length) :
    ∃ ws e', parse_swc rowOf commentOf isHeader blank cols extras reader ⟨ls, some e⟩ = some (ws, closeReader reader, .error e') ∧
      ((∀ l ∈ ls, isInvalid rowOf commentOf blank l = false) → e.kind = "UnicodeDecodeError" → e' = decodeExc) := by
  rcases first_invalid rowOf commentOf blank ls with h | ⟨pre, bad, post, rfl, hpre, hbad⟩
  · refine ⟨_, _, generated_valid rowOf commentOf isHeader blank cols extras reader ls (some e) hc hk h, fun _ hk' => if_pos ?_⟩
    obtain ⟨kind, msg, args⟩ := e
    simp only at hk'; subst hk'; rfl
  · obtain ⟨ws, hw⟩ := generated_never_partial rowOf commentOf isHeader blank cols extras reader pre bad post (some e) hc hk hpre hbad
    exact ⟨ws, _, hw, fun hall => by simpa [hbad] using hall bad⟩

/-- the warning is issued iff some data row has a non-empty tail -/
theorem generated_warning_iff (ls : List L) :
    (match firstTail rowOf ls 0 with | some n => [warnExc n] | none => []) ≠ [] ↔ ls.any (tailAt rowOf) = true := by
  rw [← firstTail_isSome rowOf ls 0]
  cases firstTail rowOf ls 0 <;> simp

/-- `FileReader.__exit__` as the source has it: returns False — an exception raised inside the `with` body propagates (the D03 defect was
`return True` here) — and closes the file.  Regenerated from `utils/file.py` on every run. -/
theorem generated_exit_propagates (r : FileReader) (a b c : Option Py.Exc) : file_reader_exit r a b c = some (closeReader r, false) :=
  file_reader_exit_eq r a b c

/-! non-vacuity (kernel-evaluated): lines are numbers — `10·a + b` with `b = 0` a data row with fields `[a, …, a+6]` (tail iff `a` is odd),
`b = 1` a comment `a` (header iff `a = 0`), `b = 2` blank, anything else invalid -/
section
def exRow (l : Nat) : Option (List Nat × Bool) := if l % 10 = 0 then some ((List.range 7).map (· + l / 10), l / 10 % 2 = 1) else none
def exCmt (l : Nat) : Option Nat := if l % 10 = 1 then some (l / 10) else none
def exCols : List String := ["id", "type", "x", "y", "z", "r", "pid"]

example : (match parse_swc exRow exCmt (· = 0) (· % 10 = 2) exCols [] ⟨some (), false⟩ ⟨[20, 1, 51, 2, 30, 50], none⟩ with
    | some (ws, rd, .ok (df, cs)) => decide (ws = [warnExc 5] ∧ rd = ⟨some (), true⟩ ∧ cs = [5] ∧
        df = [("id", [2, 3, 5]), ("type", [3, 4, 6]), ("x", [4, 5, 7]), ("y", [5, 6, 8]), ("z", [6, 7, 9]), ("r", [7, 8, 10]), ("pid", [8, 9, 11])])
    | _ => false) = true := by decide +kernel
example : (match parse_swc exRow exCmt (· = 0) (· % 10 = 2) exCols [] ⟨some (), false⟩ ⟨[20, 7, 30, 9], none⟩ with
    | some (ws, rd, .error e) => decide (ws = [] ∧ rd = ⟨some (), true⟩ ∧ e = invalidExc 2)
    | _ => false) = true := by decide +kernel
example : (match parse_swc exRow exCmt (· = 0) (· % 10 = 2) exCols [] ⟨some (), false⟩ ⟨[20, 40], some ⟨"UnicodeDecodeError", "", []⟩⟩ with
    | some (ws, rd, .error e) => decide (ws = [] ∧ rd = ⟨some (), true⟩ ∧ e = decodeExc)
    | _ => false) = true := by decide +kernel
example : isInvalid exRow exCmt (· % 10 = 2) 7 = true ∧ isInvalid exRow exCmt (· % 10 = 2) 20 = false := by decide +kernel
end

/-! ## the generated loop and the hand-written model `SwcText.readLines`

Under the obvious instantiation — a line is a string, `rowOf` the model's recogniser `parseData` (the converted fields of the row it
returns), `commentOf` / `isHeader` / `blank` the model's comment, header and blank tests — the generated function succeeds exactly when
`SwcText.readLines` does, with the same rows (as columns), comments and warning flag, and raises for the same first invalid line.  So
`C02.read_ok_iff` / `read_never_partial` and the recogniser theorems (`data_line_fields`, …) speak about the loop AS TRANSLATED. -/
section Model
open SwcText

inductive Fld where
  | nat (n : Nat)
  | sci (s : Sci)
  | int (i : Int)
deriving DecidableEq, Repr
instance : Inhabited Fld := ⟨.nat 0⟩

/-- the converted groups of a matched row, in column order -/
def fieldsOf (r : Row) : List Fld := [.nat r.id, .nat r.type, .sci r.x, .sci r.y, .sci r.z, .sci r.r, .int r.pid] ++ r.extra.map .sci
def mRowOf (nx : Nat) (l : Str) : Option (List Fld × Bool) := (parseData nx l).map (fun p => (fieldsOf p.1, p.2))
def mCommentOf (l : Str) : Option Str := match dropWs l with | '#' :: t => some (stripNl t) | _ => none
def mIsHeader (c : Str) : Bool := !keepComment c
def mBlank (l : Str) : Bool := isSpaceStr l

theorem extras_length : ∀ (k : Nat) (s : Str) (fs : List Sci) (r : Str), extras k s = some (fs, r) → fs.length = k := by
  intro k
  induction k with
  | zero => intro s fs r h; simp [extras] at h; simp [h.1.symm]
  | succ k ih =>
    intro s fs r h
    simp only [extras, Option.bind_eq_bind, Option.bind_eq_some_iff, Option.pure_def, Option.some.injEq, Prod.mk.injEq, Prod.exists] at h
    obtain ⟨s1, -, f, s2, -, fs', s3, h3, rfl, -⟩ := h
    simp [ih _ _ _ h3]

theorem parseData_extra_length (nx : Nat) (l : Str) (row : Row) (tl : Bool) (h : parseData nx l = some (row, tl)) : row.extra.length = nx := by
  rw [parseData_eq] at h
  obtain ⟨_, _, h⟩ := field_eq_some h
  obtain ⟨_, _, h⟩ := field_eq_some h
  obtain ⟨_, _, h⟩ := field_eq_some h
  obtain ⟨_, _, h⟩ := field_eq_some h
  obtain ⟨_, _, h⟩ := field_eq_some h
  obtain ⟨_, _, h⟩ := field_eq_some h
  simp only [Option.bind_eq_bind, Option.bind_eq_some_iff, Option.pure_def, Option.some.injEq, Prod.mk.injEq, Prod.exists] at h
  obtain ⟨_, _, -, ex, _, hex, _, -, rfl, -⟩ := h
  exact extras_length _ _ _ _ hex

theorem mRowOf_long (nx : Nat) (extras : List String) (hx : extras.length = nx) :
    ∀ l fs t, mRowOf nx l = some (fs, t) → 7 + extras.length ≤ fs.length := by
  intro l fs t h
  simp only [mRowOf, Option.map_eq_some_iff, Prod.mk.injEq, Prod.exists] at h
  obtain ⟨row, tl, hp, rfl, -⟩ := h
  simp [fieldsOf, parseData_extra_length nx l row tl hp, hx]; omega

theorem dropWs_nil_iff (l : Str) : dropWs l = [] ↔ l.all isWs = true := by
  induction l with
  | nil => simp [dropWs]
  | cons c cs ih => by_cases h : isWs c = true <;> simp [dropWs, h, ih]

theorem mCommentOf_none {l : Str} {c : Char} {t : Str} (hd : dropWs l = c :: t) (hc : c ≠ '#') : mCommentOf l = none := by
  unfold mCommentOf; rw [hd]; split
  · next h => exact absurd (List.cons.inj h).1 hc
  · rfl

/-- line by line, the three tests of the instantiation are the model's `classify` -/
theorem line_agrees (nx : Nat) (l : Str) :
    (isInvalid (mRowOf nx) mCommentOf mBlank l = true ↔ classify nx l = .invalid) ∧
    rowAt (mRowOf nx) l = (dataOf nx l).map fieldsOf ∧
    keptComment (mRowOf nx) mCommentOf mIsHeader l = C02.commentOf nx l ∧
    tailAt (mRowOf nx) l = tailOf nx l := by
  unfold isInvalid rowAt keptComment tailAt dataOf C02.commentOf tailOf mRowOf
  cases hp : parseData nx l with
  | some p => simp [classify, hp]
  | none =>
    -- no data row: by the first non-blank character, the line is blank (or empty), a comment, or invalid
    cases hd : dropWs l with
    | nil =>
      have hw := (dropWs_nil_iff l).1 hd
      cases l <;> simp [classify, hp, hd, mCommentOf, mBlank, isSpaceStr, hw]
    | cons c t =>
      have hne : mBlank l = false := by
        cases h : l.all isWs
        · simp [mBlank, isSpaceStr, h]
        · rw [(dropWs_nil_iff l).2 h] at hd; cases hd
      by_cases hc : c = '#'
      · subst hc; cases hk : keepComment (stripNl t) <;> simp [classify_hash nx l t hd, mCommentOf, hd, mIsHeader, hk]
      · have hi := classify_invalid_of nx l hp ⟨c, t, hd, noWsHead_dropWs l c (by rw [hd]; rfl), hc⟩
        simp [hi, mCommentOf_none hd hc, hne]

theorem valid_agrees (nx : Nat) (l : Str) : isInvalid (mRowOf nx) mCommentOf mBlank l = false ↔ classify nx l ≠ .invalid := by
  rw [← Bool.not_eq_true, (line_agrees nx l).1]

theorem funs_agree (nx : Nat) : rowAt (mRowOf nx) = (fun l => (dataOf nx l).map fieldsOf) ∧
    keptComment (mRowOf nx) mCommentOf mIsHeader = C02.commentOf nx ∧ tailAt (mRowOf nx) = tailOf nx :=
  ⟨funext fun l => (line_agrees nx l).2.1, funext fun l => (line_agrees nx l).2.2.1, funext fun l => (line_agrees nx l).2.2.2⟩

/-- **the generated function returns a table exactly when the model does — the same one** -/
theorem generated_ok_iff_model (nx : Nat) (cols extras : List String) (hc : cols.length = 7) (hx : extras.length = nx)
    (reader : FileReader) (ls : List Str) (ws : List Py.Exc) (rd : FileReader) (df : Py.Dict String (List Fld)) (cs : List Str) :
    parse_swc (mRowOf nx) mCommentOf mIsHeader mBlank cols extras reader ⟨ls, none⟩ = some (ws, rd, .ok (df, cs)) ↔
      ∃ res, readLines nx ls = .ok res ∧ df = tableOf cols extras (res.rows.map fieldsOf) ∧ cs = res.comments ∧
        ws = (match firstTail (mRowOf nx) ls 0 with | some n => [warnExc n] | none => []) ∧ (ws ≠ [] ↔ res.warned = true) ∧
        rd = closeReader reader := by
  obtain ⟨hr, hk, ht⟩ := funs_agree nx
  rw [generated_read_ok_iff _ _ _ _ cols extras reader ls hc (mRowOf_long nx extras hx), hr, hk, ← List.map_filterMap]
  simp only [valid_agrees]
  constructor
  · rintro ⟨hall, rfl, rfl, rfl, rfl⟩
    exact ⟨⟨_, _, _⟩, (read_ok_iff nx ls _).2 ⟨hall, rfl, rfl, rfl⟩, rfl, rfl, rfl, by rw [generated_warning_iff, ht], rfl⟩
  · rintro ⟨res, hres, rfl, rfl, rfl, -, rfl⟩
    obtain ⟨hall, hrows, hcs, -⟩ := (read_ok_iff nx ls res).1 hres
    exact ⟨hall, by rw [hrows], by rw [hcs], rfl, rfl⟩

/-- **… and raises `invalid row N` whenever the model reports `invalidRow N`** -/
theorem generated_error_iff_model (nx : Nat) (cols extras : List String) (hc : cols.length = 7) (hx : extras.length = nx)
    (reader : FileReader) (ls : List Str) (n : Nat) :
    readLines nx ls = .error (.invalidRow n) →
      ∃ ws, parse_swc (mRowOf nx) mCommentOf mIsHeader mBlank cols extras reader ⟨ls, none⟩
        = some (ws, closeReader reader, .error (invalidExc (n : Int))) := by
  intro h
  rcases SwcText.first_invalid nx ls with hv | ⟨pre, bad, post, rfl, hpre, hbad⟩
  · rw [readLines_eq, readLinesWith_valid false nx ls hv] at h; cases h
  · rw [read_never_partial nx pre bad post hpre hbad] at h
    simp only [Except.error.injEq, Err.invalidRow.injEq] at h
    subst h
    have := generated_never_partial (mRowOf nx) mCommentOf mIsHeader mBlank cols extras reader pre bad post none hc (mRowOf_long nx extras hx)
      (fun l hl => (valid_agrees nx l).2 (hpre l hl)) ((line_agrees nx bad).1.2 hbad)
    simpa using this
end Model

end C02
