import SwcVerif.Props.C07
import SwcVerif.Refine.Redirect
import SwcVerif.Proofs.Pipeline
/-! # C07, tied to the source by the translator

`Gen.Algo.redirect_tree`, `Gen.Algo.sort_tree_` and the node-handle methods (`Gen.Algo.node_parent`, …) are regenerated from
`swcgeom/core/tree_utils.py::redirect_tree / _sort_tree` and `swcgeom/core/tree.py::Tree.Node.parent` on every run (node handles are
row indices, the copied tree is its columns `ids`, `pids`, `types`).  `RefineRedirect.redirect_core` proves that the generated
function rewrites the columns exactly as the model `Redir.redirect` says — so the C07 theorems (`redirect_pids`, `redirect_edges`,
`redirect_root`, `redirect_types`) speak about the code as translated — and that with `sort=True` the generated `_sort_tree`
(C05's `sort_nodes_impl` as translated, plus the gather of every column) is applied to exactly those columns. -/
namespace C07
open Redir SortM Gen.Algo

/-- the tree object: ids = positions -/
def idsOf (n : Nat) : List Int := (List.range n).map (fun (j : Nat) => (j : Int))

theorem walk_ok (pids : List Int) (hw : WF pids) (k : Nat) (hk : k < pids.length) :
    (∀ w ∈ rootPath pids pids.length (k : Int), 0 ≤ w ∧ w < pids.length) ∧
    (∀ z, (rootPath pids pids.length (k : Int)).getLast? = some z → pids.getD z.toNat (-1) = -1) := by
  obtain ⟨_, hlast, _, hval, _⟩ := rootPath_spec pids hw k hk
  refine ⟨hval, ?_⟩
  intro z hz
  rw [hlast] at hz
  cases hz
  exact hw.par_root

/-- **`Tree.Node.parent` as translated** is the entry of the parent column (`None` for the root's −1) -/
theorem generated_parent (pids : List Int) (k : Nat) (hk : k < pids.length) :
    node_parent pids (k : Int) = some (if pids.getD k (-1) = -1 then none else some (pids.getD k (-1))) := by
  have := RefineRedirect.node_parent_spec pids (k : Int) (by omega) (by omega)
  simpa using this

/-- **`redirect_tree(tree, k, sort=False)` as translated on this run, on EVERY well-formed tree and node**: nothing raises, the id
column is untouched and the parent / type columns are exactly the model's -/
theorem generated_redirect_eq_model (pids types : List Int) (hw : WF pids) (hl : types.length = pids.length) (k : Nat)
    (hk : k < pids.length) (F : Nat) :
    redirect_tree (pids.length + 1 + F) (idsOf pids.length) pids types (k : Int) false =
      some (idsOf pids.length, (redirect pids types (k : Int)).pids, (redirect pids types (k : Int)).types, ()) := by
  obtain ⟨hval, hlast⟩ := walk_ok pids hw k hk
  exact RefineRedirect.redirect_nosort pids types (k : Int) hl hval hlast F

/-- the clauses of the property for the code as translated (`sort=False`): the requested node is the unique root, every node keeps
its position, and the undirected edge set is unchanged -/
theorem generated_redirect_root (pids types : List Int) (hw : WF pids) (hl : types.length = pids.length) (k : Nat)
    (hk : k < pids.length) (F : Nat) :
    ∃ ps ts, redirect_tree (pids.length + 1 + F) (idsOf pids.length) pids types (k : Int) false = some (idsOf pids.length, ps, ts, ()) ∧
      ps.length = pids.length ∧ (∀ v, v < pids.length → (ps.getD v 0 = -1 ↔ v = k)) :=
  ⟨_, _, generated_redirect_eq_model pids types hw hl k hk F, (redirect_pids pids types hw k hk).1,
    fun v hv => redirect_root pids types hw k hk v hv⟩

/-- **`redirect_tree(tree, k, sort=True)` as translated, on EVERY well-formed tree and node**: the final renumbering succeeds, the
result has ids `arange(n)`, the parents of a well-formed SORTED tree, and the (exchanged) type column carried along by the row
permutation of C05's model -/
theorem generated_redirect_sorted (pids types : List Int) (hw : WF pids) (hl : types.length = pids.length) (k : Nat)
    (hk : k < pids.length) (F : Nat) :
    ∃ res, sortNodesImpl (idsOf pids.length) (redirect pids types (k : Int)).pids = .ok res ∧
      redirect_tree (pids.length + 1 + F) (idsOf pids.length) pids types (k : Int) true =
        some (Py.range (pids.length : Int), res.newPids, permute (redirect pids types (k : Int)).types res.indices, ()) ∧
      WF res.newPids ∧ (∀ j (h : j < res.newPids.length), 0 < j → res.newPids[j] < (j : Int)) ∧ res.newPids.length = pids.length := by
  obtain ⟨hval, hlast⟩ := walk_ok pids hw k hk
  obtain ⟨res, hres, hwf, hs, hl2⟩ := Pipeline.wfr_sorted _ k (Pipeline.redirect_wfr pids types hw k hk)
  rw [(redirect_lengths pids types k).1] at hres hl2
  exact ⟨res, hres, RefineRedirect.redirect_sort pids types (k : Int) hl hval hlast res hres F, hwf, hs, hl2⟩

/-- with `sort=True` the generated function returns exactly what the model `redirectSorted` returns -/
theorem generated_redirect_sorted_eq_model (pids types : List Int) (hw : WF pids) (hl : types.length = pids.length) (k : Nat)
    (hk : k < pids.length) (F : Nat) :
    (redirect_tree (pids.length + 1 + F) (idsOf pids.length) pids types (k : Int) true).map (fun t => (t.2.1, t.2.2.1)) =
      (redirectSorted pids types (k : Int)).map (fun m => (m.1, m.2.2)) := by
  obtain ⟨res, hres, hgen, _⟩ := generated_redirect_sorted pids types hw hl k hk F
  have hres' : sortNodesImpl ((List.range pids.length).map Int.ofNat) (redirect pids types (k : Int)).pids = .ok res := hres
  rw [hgen]
  simp [redirectSorted, hres']

/-- non-vacuity (kernel-evaluated): the translated function on a concrete 5-node tree, re-rooted at node 3, both modes -/
example : redirect_tree 8 (idsOf 5) [-1, 0, 1, 1, 0] [1, 3, 3, 2, 4] 3 false = some (idsOf 5, [1, 3, 1, -1, 0], [2, 3, 3, 1, 4], ()) := by
  decide +kernel
example : redirect_tree 8 (idsOf 5) [-1, 0, 1, 1, 0] [1, 3, 3, 2, 4] 3 true = some (idsOf 5, [-1, 0, 1, 1, 3], [1, 3, 3, 2, 4], ()) := by
  decide +kernel

end C07
