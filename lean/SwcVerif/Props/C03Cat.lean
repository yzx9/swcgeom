import SwcVerif.Props.C03
import SwcVerif.Props.C07Cat
/-! # C03, concatenation included

`Props/C03.lean` composes the one-tree operations; here `cat_tree` (a second, arbitrary well-formed tree joined at
arbitrary nodes, with or without translation, junction nodes merged when they coincide) is added to the pipelines:
`C07.cat_sort_ok` gives the well-formedness of its result whether or not the junction nodes coincide, so every
intermediate result of every admissible pipeline of sort / re-root / subtree / prune / geometric / round trip / CONCATENATE
steps is a well-formed tree. -/
namespace C03
open Redir

/-- the data `cat_tree(tree1, tree2, node1, node2, translate=…)` reads besides tree 1's parents: tree 1's types and
coordinates (they decide whether the junction nodes coincide) and all of tree 2 -/
structure CatArgs where
  t1 : List Int
  x1 : List Int
  y1 : List Int
  z1 : List Int
  p2 : List Int
  t2 : List Int
  x2 : List Int
  y2 : List Int
  z2 : List Int
  node1 : Nat
  node2 : Nat
  translate : Bool

inductive Op2 where
  | base (op : Op)
  | cat (a : CatArgs)

def applyOp2 (pids : List Int) : Op2 → Option (List Int)
  | .base op => applyOp pids op
  | .cat a => (catTree pids a.t1 a.x1 a.y1 a.z1 a.p2 a.t2 a.x2 a.y2 a.z2 (a.node1 : Int) (a.node2 : Int) a.translate).map (·.1)

/-- admissible: the columns have the trees' lengths, the junction nodes exist, the second tree is well formed -/
def Admissible2 (pids : List Int) : Op2 → Prop
  | .base op => Admissible pids op
  | .cat a =>
    (a.t1.length = pids.length ∧ a.x1.length = pids.length ∧ a.y1.length = pids.length ∧ a.z1.length = pids.length) ∧
    (a.t2.length = a.p2.length ∧ a.x2.length = a.p2.length ∧ a.y2.length = a.p2.length ∧ a.z2.length = a.p2.length) ∧
    a.node1 < pids.length ∧ a.node2 < a.p2.length ∧ WF a.p2

/-- **one step, concatenation included**: the result is a well-formed tree (that `cat_tree`'s is also sorted, with
one node per row of the concatenated table, is in `C07.cat_sort_ok`, not here) -/
theorem op2_wf (pids : List Int) (hw : WF pids) (op : Op2) (ha : Admissible2 pids op) :
    ∃ out, applyOp2 pids op = some out ∧ WF out := by
  cases op with
  | base op =>
    obtain ⟨out, h1, h2, _⟩ := op_wf pids hw op ha
    exact ⟨out, h1, h2⟩
  | cat a =>
    obtain ⟨h1, h2, hn1, hn2, hw2⟩ := ha
    obtain ⟨res, hres, hwf, _⟩ :=
      C07.cat_sort_ok pids a.t1 a.x1 a.y1 a.z1 a.p2 a.t2 a.x2 a.y2 a.z2 a.node1 a.node2 a.translate h1 h2 hn1 hn2 hw hw2
    obtain ⟨c', e⟩ := C07.catTree_of_ok pids a.t1 a.x1 a.y1 a.z1 a.p2 a.t2 a.x2 a.y2 a.z2 a.node1 a.node2 a.translate hres
    exact ⟨res.newPids, by simp [applyOp2, e], hwf⟩

def runOps2 : List Int → List Op2 → List (List Int)
  | _, [] => []
  | pids, op :: ops => match applyOp2 pids op with
    | some out => out :: runOps2 out ops
    | none => []

def AdmissibleAll2 : List Int → List Op2 → Prop
  | _, [] => True
  | pids, op :: ops => Admissible2 pids op ∧ ∀ out, applyOp2 pids op = some out → AdmissibleAll2 out ops

/-- **every pipeline, concatenation included**: no step fails and every intermediate result is a well-formed tree -/
theorem pipeline2_wf (pids : List Int) (hw : WF pids) (ops : List Op2) (ha : AdmissibleAll2 pids ops) :
    (runOps2 pids ops).length = ops.length ∧ ∀ t ∈ runOps2 pids ops, WF t := by
  induction ops generalizing pids with
  | nil => simp [runOps2]
  | cons op ops ih =>
    obtain ⟨hadm, hrest⟩ := ha
    obtain ⟨out, h1, h2⟩ := op2_wf pids hw op hadm
    obtain ⟨i1, i2⟩ := ih out h2 (hrest out h1)
    simp only [runOps2, h1, List.length_cons, i1, List.mem_cons, true_and]
    rintro t (rfl | ht)
    · exact h2
    · exact i2 t ht

-- non-vacuity: sort, concatenate a 3-node tree at node 2 (translated onto it: the junction nodes merge, 5 + 3 - 1 nodes), prune
example : runOps2 exP [.base .sort,
      .cat ⟨[1, 3, 3, 3, 3], [0, 1, 2, 3, 4], [0, 0, 0, 0, 0], [0, 0, 0, 0, 0], [-1, 0, 0], [1, 3, 3], [9, 8, 7], [0, 0, 0], [0, 0, 0], 2, 1, true⟩,
      .base (.prune [1])] =
    [[-1, 0, 1, 1, 0], [-1, 0, 0, 2, 2, 4, 5], [-1, 0, 1, 1, 3, 4]] := by decide +kernel

end C03
