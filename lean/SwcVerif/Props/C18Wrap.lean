import SwcVerif.Props.C18GenRepair
import SwcVerif.Refine.Ctor
/-! # C18, the spellings users call, tied to the source by the translator

`Gen.Algo.is_binary_tree`, `check_single_root` (deprecated spellings in `swc_utils/checker.py`) and the copying spellings
`mark_roots_as_somas`, `reset_index` (`swc_utils/normalizer.py`, through `_copy_and_apply`) are regenerated on every run
(`Gen/AlgoCtor.lean`).  They are proved equal to the translated cores, hence — by the theorems of `C18Gen` / `C18GenRepair` — to the model
predicates; the copying spellings return the model's columns in a NEW frame (the frame condition itself is `C03.generated_*_pure`). -/
namespace C18
open Dsu Gen.Algo RefineCtor Py

/-- **`is_binary_tree(df, exclude_root)` as translated answers the model predicate** `isBifurcate` on every table with equally long columns -/
theorem generated_is_binary_tree_eq_model (ids pids : List Int) (hl : ids.length = pids.length) (excl : Bool) :
    is_binary_tree ids pids excl = some (isBifurcate ids pids excl) := by
  rw [is_binary_tree_eq]; exact generated_isBifurcate_eq_model ids pids hl excl

/-- **`is_binary_tree` as translated answers `True` exactly when no node — other than the roots when they are exempt (the default) — has
MORE THAN TWO children** (the source says `len(v) > 2`: a node with one child is accepted) -/
theorem generated_is_binary_tree_correct (ids pids : List Int) (hl : ids.length = pids.length) (excl : Bool) :
    ∃ b, is_binary_tree ids pids excl = some b ∧
      (b = true ↔ ∀ k : Int, k ≠ -1 → ¬ (excl = true ∧ k ∈ tableKids ids pids (-1)) → (tableKids ids pids k).length ≤ 2) :=
  ⟨_, generated_is_binary_tree_eq_model ids pids hl excl, isBifurcate_correct ids pids excl⟩

example : is_binary_tree [0, 1, 2, 3, 4] [-1, 0, 0, 0, 1] true = some true ∧ is_binary_tree [0, 1, 2, 3, 4] [-1, 0, 0, 0, 1] false = some false ∧
          is_binary_tree [0, 1, 2, 3, 4, 5] [-1, 0, 1, 1, 1, 0] true = some false := by decide +kernel

/-- **`check_single_root(df)` as translated is the model `isSingleRoot`** on every table with distinct ids -/
theorem generated_check_single_root_eq_model (ids pids : List Int) (hnd : ids.Nodup) (hl : ids.length = pids.length) :
    check_single_root (ids.length * ids.length + 2) ids pids = isSingleRoot ids pids := by
  rw [check_single_root_eq]; exact generated_isSingleRoot_eq_model ids pids hnd hl

/-- **`check_single_root(df)` as translated answers "one weakly connected component"** on EVERY row-numbered table whose parents name rows
(cycles included) -/
theorem generated_check_single_root_total (pids : List Int) (hpos : 0 < pids.length)
    (hv : ∀ k (h : k < pids.length), pids[k] = -1 ∨ (0 ≤ pids[k] ∧ pids[k] < pids.length)) :
    ∃ b, check_single_root (pids.length * pids.length + 2) (rowIds pids.length) pids = some b ∧
      (b = true ↔ ∀ x y, x < pids.length → y < pids.length → WConn pids.length (ptr pids) x y) := by
  obtain ⟨b, hb, hiff⟩ := generated_isSingleRoot_total pids hpos hv
  exact ⟨b, by rw [check_single_root_eq]; exact hb, hiff⟩

example : check_single_root 27 (rowIds 5) [1, 2, 0, 1, -1] = some false ∧ check_single_root 27 (rowIds 5) [1, 2, 0, 1, 3] = some true := by
  decide +kernel

/-- **`mark_roots_as_somas(df, update_type)` as translated**: on a valid reference to a frame with equally long columns and a root it returns a
NEW frame (the heap is extended by one object, nothing else changes) holding the MODEL's parent and type columns — by `C18.repair_somas` a
single-rooted table that keeps the first root and every original edge; ids and radii are those of the input -/
theorem generated_mark_roots_as_somas_eq_model (heap : Frames) (df : Int) (fr : Frame) (ut : Option Int)
    (hd : Frames.get? heap df = some fr) (h1 : fr.ids.length = fr.pids.length) (hr : (-1 : Int) ∈ fr.pids) :
    mark_roots_as_somas heap df ut =
      some (heap ++ [{ fr with pids := (markRootsAsSomas fr.ids fr.pids fr.types ut).1, types := (markRootsAsSomas fr.ids fr.pids fr.types ut).2 }],
            (heap.length : Int)) := by
  rw [mark_roots_as_somas_eq, hd]
  simp only [Option.bind_some, somasP, generated_markRoots_eq_model fr.ids fr.pids fr.types ut h1 hr, Option.map_some]

/-- **`reset_index(df)` as translated**: a NEW frame with every id shifted by the first root's id and every parent too, except the `-1` of
every root; types and radii are those of the input -/
theorem generated_reset_index_copy (heap : Frames) (df : Int) (fr : Frame)
    (hd : Frames.get? heap df = some fr) (h1 : fr.ids.length = fr.pids.length) (hr : (-1 : Int) ∈ fr.pids) :
    reset_index heap df =
      some (heap ++ [{ fr with ids := fr.ids.map (fun i => i - fr.ids.getD (firstRootLoc fr.pids) 0),
                               pids := fr.pids.map (fun p => if p = -1 then -1 else p - fr.ids.getD (firstRootLoc fr.pids) 0) }],
            (heap.length : Int)) := by
  rw [reset_index_eq, hd]
  simp only [Option.bind_some, resetP, generated_resetIndex fr.ids fr.pids h1 hr, Option.map_some]

example : mark_roots_as_somas [⟨[5, 6, 7, 9], [-1, 5, -1, 7], [1, 3, 3, 3], [4, 4, 4, 4]⟩] 0 (some 1) =
    some ([⟨[5, 6, 7, 9], [-1, 5, -1, 7], [1, 3, 3, 3], [4, 4, 4, 4]⟩, ⟨[5, 6, 7, 9], [-1, 5, 5, 7], [1, 3, 3, 3], [4, 4, 4, 4]⟩], 1) := by
  decide +kernel

end C18
