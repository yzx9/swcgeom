import SwcVerif.Props.C16Pair
/-! # C16 — the re-assembly pairing when sister branches end at the SAME point

`pair_exact` needs distinct children at distinct places.  Here several children of a node may lie at one
place (`locC`), and every branch ends at the place `locR` of its own child: the zero cells of the distance
matrix are then blocks "branches ending at L × children at L".  Whatever zero cell the greedy loop takes, the
rest can still be matched inside the blocks (exchange: the branch that owned the taken child gets the child of
the taken branch instead), so the loop returns every branch once and every child once, each branch with a
child lying exactly at its end point. -/
set_option linter.unusedVariables false
namespace C16
open Mst

/-- loop invariant: the pairs so far join equal places, exactly their rows / columns are switched off, and
the free rows and free columns are still matched place-by-place by `σ` (inverse `τ`) -/
structure QInv (locR locC : Nat → Nat) (m k : Nat) (s : PairSt) (σ τ : Nat → Nat) : Prop where
  lenr : s.rows.length = m
  lenc : s.cols.length = m
  npairs : s.pairs.length = k
  good : ∀ p ∈ s.pairs, p.1 < m ∧ p.2 < m ∧ locR p.1 = locC p.2
  rowsIff : ∀ i, i < m → (s.rows.getD i false = true ↔ i ∈ s.pairs.map Prod.fst)
  colsIff : ∀ j, j < m → (s.cols.getD j false = true ↔ j ∈ s.pairs.map Prod.snd)
  nodupR : (s.pairs.map Prod.fst).Nodup
  nodupC : (s.pairs.map Prod.snd).Nodup
  fwd : ∀ i, i < m → i ∉ s.pairs.map Prod.fst →
    σ i < m ∧ σ i ∉ s.pairs.map Prod.snd ∧ locC (σ i) = locR i ∧ τ (σ i) = i
  bwd : ∀ j, j < m → j ∉ s.pairs.map Prod.snd →
    τ j < m ∧ τ j ∉ s.pairs.map Prod.fst ∧ σ (τ j) = j

section step
variable (dis : List (List Rat)) (m : Nat) (locR locC : Nat → Nat)
  (h0 : ∀ i j, i < m → j < m → locR i = locC j → pcost dis i j = 0)
  (hpos : ∀ i j, i < m → j < m → locR i ≠ locC j → 0 < pcost dis i j)
include h0 hpos

theorem pair_step_loc (k : Nat) (s : PairSt) (σ τ : Nat → Nat) (hi : QInv locR locC m k s σ τ) (hk : k < m) :
    ∃ σ' τ', QInv locR locC m (k + 1) (pairStep dis m s) σ' τ' := by
  obtain ⟨i, him, hni⟩ := exists_missing (s.pairs.map Prod.fst) m hi.nodupR (by rw [List.length_map, hi.npairs]; exact hk)
  obtain ⟨hσi, hσfree, hσloc, _⟩ := hi.fwd i him hni
  obtain ⟨a, b, ha, hb, hna, hnb, hle, hpairs, M⟩ :=
    marks_step dis m k s ⟨hi.lenr, hi.lenc, hi.npairs, hi.rowsIff, hi.colsIff⟩ i (σ i) him hσi hni hσfree
  -- the chosen cell is at distance 0: a branch and a child at one place
  have hloc : locR a = locC b := by
    by_contra hne
    exact absurd (h0 i (σ i) him hσi hσloc.symm ▸ hle) (not_le.mpr (hpos a b ha hb hne))
  obtain ⟨fa1, fa2, fa3, fa4⟩ := hi.fwd a ha hna
  obtain ⟨bb1, bb2, bb3⟩ := hi.bwd b hb hnb
  have memF : ∀ x, x ∈ (pairStep dis m s).pairs.map Prod.fst ↔ x ∈ s.pairs.map Prod.fst ∨ x = a := by
    intro x; rw [hpairs, List.map_append, List.mem_append, List.map_singleton, List.mem_singleton]
  have memS : ∀ y, y ∈ (pairStep dis m s).pairs.map Prod.snd ↔ y ∈ s.pairs.map Prod.snd ∨ y = b := by
    intro y; rw [hpairs, List.map_append, List.mem_append, List.map_singleton, List.mem_singleton]
  -- exchange: the branch that owned `b` gets the child of `a` instead
  refine ⟨fun x => if σ x = b then σ a else σ x, fun y => if y = σ a then τ b else τ y,
    M.lenr, M.lenc, M.npairs, fun p hp => ?_, M.rowsIff, M.colsIff, ?_, ?_, fun x hx hnx => ?_, fun y hy hny => ?_⟩
  · rw [hpairs] at hp
    rcases List.mem_append.mp hp with h | h
    · exact hi.good p h
    · cases List.mem_singleton.mp h; exact ⟨ha, hb, hloc⟩
  · rw [hpairs]; exact nodup_map_concat _ _ _ hi.nodupR hna
  · rw [hpairs]; exact nodup_map_concat _ _ _ hi.nodupC hnb
  · -- the remaining rows are still matched place-by-place
    rw [memF, not_or] at hnx
    obtain ⟨f1, f2, f3, f4⟩ := hi.fwd x hx hnx.1
    by_cases hsx : σ x = b
    · have hσab : σ a ≠ b := fun e => hnx.2 (by rw [← f4, hsx, ← e, fa4])
      simp only [if_pos hsx, if_true]
      exact ⟨fa1, fun h => ((memS _).1 h).elim fa2 hσab, by rw [fa3, hloc, ← hsx, f3], by rw [← hsx, f4]⟩
    · have hne : σ x ≠ σ a := fun e => hnx.2 (by rw [← f4, e, fa4])
      simp only [if_neg hsx, if_neg hne]
      exact ⟨f1, fun h => ((memS _).1 h).elim f2 hsx, f3, f4⟩
  · -- … and the remaining columns
    rw [memS, not_or] at hny
    obtain ⟨g1, g2, g3⟩ := hi.bwd y hy hny.1
    by_cases hya : y = σ a
    · have hτba : τ b ≠ a := fun e => hny.2 (by rw [hya, ← e, bb3])
      simp only [if_pos hya]
      exact ⟨bb1, fun h => ((memF _).1 h).elim bb2 hτba, by rw [if_pos bb3, hya]⟩
    · have hτya : τ y ≠ a := fun e => hya (by rw [← g3, e])
      simp only [if_neg hya]
      exact ⟨g1, fun h => ((memF _).1 h).elim g2 hτya, by rw [if_neg fun e => hny.2 (g3.symm.trans e), g3]⟩

end step

/-- **sister branches may end at one point**: if the children of a node lie at places `locC`, every branch ends
at the place `locR` of its own child (`σ`, a bijection with inverse `τ`), the distance is 0 exactly between
equal places and positive otherwise, then `pair` returns every branch exactly once and every child exactly
once, each branch with a child lying exactly at its end point. -/
theorem pair_same_place (dis : List (List Rat)) (locR locC σ τ : Nat → Nat)
    (hσ : ∀ i, i < dis.length → σ i < dis.length ∧ τ (σ i) = i ∧ locC (σ i) = locR i)
    (hτ : ∀ j, j < dis.length → τ j < dis.length ∧ σ (τ j) = j)
    (h0 : ∀ i j, i < dis.length → j < dis.length → locR i = locC j → pcost dis i j = 0)
    (hpos : ∀ i j, i < dis.length → j < dis.length → locR i ≠ locC j → 0 < pcost dis i j) :
    (pairGreedy dis).length = dis.length ∧
    (∀ p ∈ pairGreedy dis, p.1 < dis.length ∧ p.2 < dis.length ∧ locR p.1 = locC p.2 ∧ pcost dis p.1 p.2 = 0) ∧
    ((pairGreedy dis).map Prod.fst).Perm (List.range dis.length) ∧
    ((pairGreedy dis).map Prod.snd).Perm (List.range dis.length) := by
  have hinit : QInv locR locC dis.length 0 ⟨List.replicate dis.length false, List.replicate dis.length false, []⟩ σ τ :=
    have M := marks_init dis.length
    ⟨M.lenr, M.lenc, M.npairs, fun _ h => (List.not_mem_nil h).elim, M.rowsIff, M.colsIff, List.nodup_nil, List.nodup_nil,
      fun i hi _ => ⟨(hσ i hi).1, List.not_mem_nil, (hσ i hi).2.2, (hσ i hi).2.1⟩,
      fun j hj _ => ⟨(hτ j hj).1, List.not_mem_nil, (hτ j hj).2⟩⟩
  obtain ⟨σ', τ', hfin⟩ := pairRun_inv dis _ (fun k s => ∃ σ' τ', QInv locR locC dis.length k s σ' τ')
    (fun k s ⟨σ', τ', h⟩ hk => pair_step_loc dis _ locR locC h0 hpos k s σ' τ' h hk) dis.length 0 _ ⟨σ, τ, hinit⟩ (Nat.zero_add _).le
  rw [Nat.zero_add] at hfin
  refine ⟨hfin.npairs, fun p hp => ?_, perm_range_of_nodup _ _ _ hfin.nodupR (fun p hp => (hfin.good p hp).1) hfin.npairs,
    perm_range_of_nodup _ _ _ hfin.nodupC (fun p hp => (hfin.good p hp).2.1) hfin.npairs⟩
  obtain ⟨g1, g2, g3⟩ := hfin.good p hp
  exact ⟨g1, g2, g3, h0 p.1 p.2 g1 g2 g3⟩

-- non-vacuity: branches 0 and 1 both end where children 0 and 2 lie; branch 2 ends at child 1
example : pairGreedy [[0, 3, 0], [0, 3, 0], [3, 0, 3]] = [(0, 0), (1, 2), (2, 1)] := by decide +kernel

end C16
