import SwcVerif.Model.Mst
import SwcVerif.Proofs.Mst
import SwcVerif.Proofs.Graph
import Mathlib.Algebra.BigOperators.Group.List.Basic
import Mathlib.Algebra.Order.BigOperators.Group.List
import Mathlib.Tactic.Ring
import Mathlib.Algebra.Order.Field.Rat
import Mathlib.Tactic.Linarith
/-! # C17 — point-cloud tree construction yields the intended spanning tree

Theorems about the model `Mst.step` / `Mst.run` of the greedy loop of `PointsToCuntzMST.__call__`
(tied to the code by the `c17.mst` correspondence on the code's own distance matrix). `dis` is any
`n × n` matrix of rationals, `bf` the balancing factor, `limit` the branching limit (`none` = `-1`). -/
set_option linter.unusedSectionVars false
set_option linter.unusedVariables false
namespace C17
open Mst

/-- the cell `(i, j)` is not masked -/
def Open (s : St) (i j : Nat) : Prop := (s.mask.getD i []).getD j true = false
def Conn (s : St) (i : Nat) : Prop := s.conn.getD i false = true

/-- the point already has as many children as the limit allows (and is not the exempt root) -/
def Saturated (limit : Option Nat) (excl : Bool) (s : St) (i : Nat) : Prop :=
  ∃ k, limit = some k ∧ k ≤ s.furc.getD i 0 ∧ (excl = false ∨ i ≠ 0)

/-- number of points whose parent is `i` -/
def children (s : St) (i : Nat) : Nat := (s.pid.filter (· = (i : Int))).length

/-- following parents `d` times -/
def up (s : St) : Nat → Nat → Int
  | 0, j => j
  | d+1, j => match s.pid.getD j (-1) with
    | -1 => -1
    | p => up s d p.toNat

/-- **the loop invariant** -/
structure Inv (dis : List (List Rat)) (n : Nat) (limit : Option Nat) (excl : Bool) (s : St) : Prop where
  len : s.pid.length = n ∧ s.acc.length = n ∧ s.furc.length = n ∧ s.conn.length = n ∧ s.mask.length = n ∧ ∀ r ∈ s.mask, r.length = n
  root : Conn s 0 ∧ s.pid.getD 0 0 = -1 ∧ s.acc.getD 0 1 = 0
  /-- open cells are exactly: connected, unsaturated source × not yet connected target -/
  mask : ∀ i j, i < n → j < n → (Open s i j ↔ (Conn s i ∧ ¬ Saturated limit excl s i ∧ ¬ Conn s j))
  /-- a connected point hangs from a connected point; an unconnected one has no parent yet -/
  parent : ∀ j, j < n → j ≠ 0 →
    (Conn s j → ∃ i, i < n ∧ s.pid.getD j 0 = (i : Int) ∧ Conn s i ∧ s.acc.getD j 0 = s.acc.getD i 0 + (dis.getD i []).getD j 0) ∧
    (¬ Conn s j → s.pid.getD j 0 = -1)
  /-- every connected point reaches point 0 by following parents -/
  reach : ∀ j, j < n → Conn s j → ∃ d, d ≤ n ∧ up s d j = 0
  /-- the most recently connected point has no children yet (so it can always take the next one) -/
  fresh : ∃ i, i < n ∧ Conn s i ∧ s.furc.getD i 0 = 0
  /-- `furcations[i]` counts the children, and never exceeds the limit for a non-exempt point -/
  count : ∀ i, i < n → s.furc.getD i 0 = children s i ∧
    (∀ k, limit = some k → 1 ≤ k → (excl = false ∨ i ≠ 0) → s.furc.getD i 0 ≤ k)

private theorem init_conn (n i : Nat) (h : i < n) : Conn (init n) i ↔ i = 0 := by
  show ((List.range n).map (· == 0)).getD i false = true ↔ i = 0
  rw [Py.getD_range_map _ false h, beq_iff_eq]

private theorem not_saturated {limit : Option Nat} {excl : Bool} {s : St} {i : Nat} (hk : ∀ k, limit = some k → 1 ≤ k)
    (h : s.furc.getD i 0 = 0) : ¬ Saturated limit excl s i := by
  rintro ⟨k, h1, h2, _⟩
  exact absurd (hk k h1) (by omega)

theorem init_inv (dis : List (List Rat)) (n : Nat) (hn : 0 < n) (limit : Option Nat) (excl : Bool)
    (hk : ∀ k, limit = some k → 1 ≤ k) :
    Inv dis n limit excl (init n) := by
  have hfurc : ∀ i, i < n → (init n).furc.getD i 0 = 0 := fun i h => getD_replicate n i 0 0 h
  have hpid : ∀ i, i < n → (init n).pid.getD i 0 = -1 := fun i h => getD_replicate n i (-1 : Int) 0 h
  have hroot : Conn (init n) 0 := (init_conn n 0 hn).mpr rfl
  refine ⟨init_len n, ⟨hroot, hpid 0 hn, getD_replicate n 0 (0 : Rat) 1 hn⟩, ?_, ?_, ?_, ⟨0, hn, hroot, hfurc 0 hn⟩, ?_⟩
  · intro i j hi hj
    have hsat : ¬ Saturated limit excl (init n) i := not_saturated hk (hfurc i hi)
    have hopen : Open (init n) i j ↔ (if i = 0 then j == 0 else true) = false := by
      unfold Open init
      rw [Py.getD_range_map _ [] hi, Py.getD_range_map _ true hj]
    rw [hopen, init_conn n i hi, init_conn n j hj]
    by_cases h : i = 0
    · subst h; simp [hsat]
    · simp [h]
  · intro j hj hj0
    rw [init_conn n j hj]
    exact ⟨fun h => absurd h hj0, fun _ => hpid j hj⟩
  · intro j hj hc
    cases (init_conn n j hj).mp hc
    exact ⟨0, Nat.zero_le _, rfl⟩
  · intro i hi
    rw [hfurc i hi]
    refine ⟨(filter_eq_zero _ _ fun a ha => ?_).symm, fun k _ _ _ => Nat.zero_le _⟩
    rw [hpid a ((init_len n).1 ▸ ha)]
    omega

/-- number of connected points -/
def nconn (s : St) : Nat := (s.conn.filter id).length

private theorem exists_open (dis : List (List Rat)) (n : Nat) (limit : Option Nat) (excl : Bool) (s : St)
    (hi : Inv dis n limit excl s) (hk : ∀ k, limit = some k → 1 ≤ k) (hmore : nconn s < n) :
    ∃ i j, i < n ∧ j < n ∧ Open s i j := by
  obtain ⟨i, hin, hci, hfi⟩ := hi.fresh
  have hlen := hi.len.2.2.2.1
  obtain ⟨j, hj, hcj⟩ := exists_false_of_filter_lt s.conn (by rw [hlen]; exact hmore)
  exact ⟨i, j, hin, hlen ▸ hj,
    (hi.mask i j hin (hlen ▸ hj)).mpr ⟨hci, not_saturated hk hfi, fun h => Bool.false_ne_true (hcj ▸ h)⟩⟩

/-- **each new point is attached to the connected, unsaturated point that minimises edge length plus
`bf` × that point's path length** — whenever some point is still unconnected, the chosen cell is open and
no open cell is cheaper. Which of several cheapest cells is chosen is not stated (the model's `argmin`
takes the first in row-major order by its definition). -/
theorem greedy_step (dis : List (List Rat)) (bf : Rat) (n : Nat) (limit : Option Nat) (excl : Bool) (s : St)
    (hi : Inv dis n limit excl s) (hk : ∀ k, limit = some k → 1 ≤ k) (hmore : nconn s < n) (hpos : 0 < nconn s) :
    let ij := argmin dis bf s n
    ij.1 < n ∧ ij.2 < n ∧ Open s ij.1 ij.2 ∧
    ∀ i j, i < n → j < n → Open s i j → cellCost dis bf s ij.1 ij.2 ≤ cellCost dis bf s i j := by
  exact argmin_spec dis bf s n (exists_open dis n limit excl s hi hk hmore)

theorem up_succ (s : St) (d j : Nat) :
    up s (d+1) j = if s.pid.getD j (-1) = -1 then -1 else up s d (s.pid.getD j (-1)).toNat := by
  rw [up]; split <;> simp_all

theorem up_parent (s : St) (d : Nat) {a p : Nat} (h : s.pid.getD a (-1) = (p : Int)) : up s (d+1) a = up s d p := by
  rw [up_succ, h, if_neg (by omega), Int.toNat_natCast]

theorem up_induction {s : St} {n : Nat} (hlen : s.pid.length = n)
    (hpar : ∀ j, j < n → j ≠ 0 → ∃ i, i < n ∧ s.pid.getD j 0 = (i : Int))
    {P : Nat → Nat → Prop} (h0 : ∀ d, P d 0)
    (hstep : ∀ d (i j : Nat), j < n → s.pid.getD j (-1) = (i : Int) → P d i → P (d+1) j) :
    ∀ d j, j < n → up s d j = 0 → P d j := by
  intro d
  induction d with
  | zero => intro j _ h; cases Int.ofNat.inj h; exact h0 0
  | succ d ih =>
    intro j hj h
    by_cases hj0 : j = 0
    · subst hj0; exact h0 _
    · obtain ⟨i, hi, hpi⟩ := hpar j hj hj0
      have e := (Py.getD_default s.pid (-1) 0 (hlen ▸ hj)).trans hpi
      rw [up_parent s d e] at h
      exact hstep d i j hj e (ih i hi h)

private theorem up_add (s : St) : ∀ (m a x : Nat), up s m a = (x : Int) → ∀ k, up s (m + k) a = up s k x := by
  intro m
  induction m with
  | zero =>
    intro a x h k
    cases Int.ofNat.inj h
    rw [Nat.zero_add]
  | succ m ih =>
    intro a x h k
    rw [up_succ] at h
    rw [Nat.add_right_comm, up_succ]
    split at h
    · omega
    · next hne => rw [if_neg hne]; exact ih _ x h k

section static
variable {dis : List (List Rat)} {n : Nat} {limit : Option Nat} {excl : Bool} {s : St}
  (hi : Inv dis n limit excl s)
include hi

private theorem pid_dflt (a : Nat) (ha : a < n) : s.pid.getD a (-1) = s.pid.getD a 0 :=
  Py.getD_default s.pid (-1) 0 (hi.len.1 ▸ ha)

private theorem conn_parent (a : Nat) (ha : a < n) (hc : Conn s a) (h0 : a ≠ 0) :
    ∃ p, p < n ∧ Conn s p ∧ s.pid.getD a (-1) = (p : Int) := by
  obtain ⟨p, hp, hpid, hcp, _⟩ := (hi.parent a ha h0).1 hc
  exact ⟨p, hp, hcp, (pid_dflt hi a ha).trans hpid⟩

private theorem up_conn (a : Nat) (ha : a < n) (hc : Conn s a) :
    ∀ m, (∀ m', m' < m → up s m' a ≠ 0) → ∃ x, x < n ∧ Conn s x ∧ up s m a = (x : Int) := by
  intro m
  induction m with
  | zero => intro _; exact ⟨a, ha, hc, rfl⟩
  | succ m ih =>
    intro hmin
    obtain ⟨x, hx, hcx, hux⟩ := ih (fun m' h => hmin m' (Nat.lt_succ_of_lt h))
    have hx0 : x ≠ 0 := fun h => hmin m (Nat.lt_succ_self m) (hux.trans (congrArg Nat.cast h))
    obtain ⟨p, hp, hcp, hpid⟩ := conn_parent hi x hx hcx hx0
    exact ⟨p, hp, hcp, (up_add s m a x hux 1).trans (up_parent s 0 hpid)⟩

/-- a connected point reaches the root in fewer steps than there are points besides an unconnected one -/
private theorem short_reach (a : Nat) (ha : a < n) (hc : Conn s a) (j : Nat) (hj : j < n) (hcj : ¬ Conn s j) :
    ∃ d, d + 2 ≤ n ∧ up s d a = 0 := by
  obtain ⟨d0, _, hd0⟩ := hi.reach a ha hc
  have hex : ∃ d, up s d a = 0 := ⟨d0, hd0⟩
  classical
  have hd : up s (Nat.find hex) a = 0 := Nat.find_spec hex
  have hmin : ∀ m, m < Nat.find hex → up s m a ≠ 0 := fun m hm => Nat.find_min hex hm
  generalize Nat.find hex = d at hd hmin
  -- the chain a = x₀, x₁, …, x_d together with `j` are `d + 2` distinct points below `n`
  have hch : ∀ m, m ≤ d → ∃ x, x < n ∧ Conn s x ∧ up s m a = (x : Int) := fun m hm =>
    up_conn hi a ha hc m (fun m' h => hmin m' (by omega))
  refine ⟨d, pigeon (fun k => match k with | 0 => j | k + 1 => (up s k a).toNat) (d + 2) n ?_ ?_, hd⟩
  · rintro (_ | k) hk
    · exact hj
    · obtain ⟨x, hx, _, hux⟩ := hch k (by omega)
      show (up s k a).toNat < n
      rw [hux]; exact hx
  · rintro (_ | k1) (_ | k2) h12 h2 hf
    · omega
    · obtain ⟨x, _, hcx, hux⟩ := hch k2 (by omega)
      change j = (up s k2 a).toNat at hf
      rw [hux, Int.toNat_natCast] at hf
      exact hcj (hf ▸ hcx)
    · omega
    · obtain ⟨x1, _, _, hu1⟩ := hch k1 (by omega)
      obtain ⟨x2, _, _, hu2⟩ := hch k2 (by omega)
      change (up s k1 a).toNat = (up s k2 a).toNat at hf
      rw [hu1, hu2, Int.toNat_natCast, Int.toNat_natCast] at hf
      subst hf
      -- the same point after `k1 < k2` steps: from `k1` the root is `d - k2` steps away, sooner than `d`
      have h3 := up_add s k2 a x1 hu2 (d - k2)
      rw [show k2 + (d - k2) = d by omega, hd] at h3
      exact hmin (k1 + (d - k2)) (by omega) ((up_add s k1 a x1 hu1 (d - k2)).trans h3.symm)

private theorem pid_conn (x y : Nat) (h : s.pid.getD y (-1) = (x : Int)) : (x < n ∧ Conn s x) ∧ (y < n ∧ Conn s y) := by
  have hy : y < n := by
    by_contra hge
    have : s.pid.getD y (-1) = -1 := by
      rw [List.getD_eq_getElem?_getD, List.getElem?_eq_none (by have := hi.len.1; omega)]; rfl
    omega
  rw [pid_dflt hi y hy] at h
  have hy0 : y ≠ 0 := by
    intro e; subst e; rw [hi.root.2.1] at h; omega
  have hcy : Conn s y := by
    by_contra hc
    rw [(hi.parent y hy hy0).2 hc] at h; omega
  obtain ⟨p, hp, hpid, hcp, _⟩ := (hi.parent y hy hy0).1 hcy
  have : p = x := by omega
  subst this
  exact ⟨⟨hp, hcp⟩, hy, hcy⟩

/-- nobody hangs from an unconnected point -/
private theorem furc_eq_zero (j : Nat) (hj : j < n) (hcj : ¬ Conn s j) : s.furc.getD j 0 = 0 := by
  rw [(hi.count j hj).1]
  exact filter_eq_zero _ _ fun a ha h => hcj (pid_conn hi j a ((pid_dflt hi a (hi.len.1 ▸ ha)).trans h)).1.2

variable {i j : Nat}

private theorem pid_get (hjn : j < n) (a : Nat) (d : Int) :
    (stepAt dis limit excl n s i j).pid.getD a d = if a = j then (i : Int) else s.pid.getD a d :=
  getD_set_of_lt _ _ _ _ _ (hi.len.1 ▸ hjn)

private theorem acc_get (hjn : j < n) (a : Nat) (d : Rat) :
    (stepAt dis limit excl n s i j).acc.getD a d =
      if a = j then s.acc.getD i 0 + (dis.getD i []).getD j 0 else s.acc.getD a d :=
  getD_set_of_lt _ _ _ _ _ (hi.len.2.1 ▸ hjn)

private theorem furc_get (hin : i < n) (a : Nat) :
    (stepAt dis limit excl n s i j).furc.getD a 0 = if a = i then s.furc.getD i 0 + 1 else s.furc.getD a 0 :=
  getD_set_of_lt _ _ _ _ _ (hi.len.2.2.1 ▸ hin)

private theorem conn_get (hjn : j < n) (a : Nat) : Conn (stepAt dis limit excl n s i j) a ↔ a = j ∨ Conn s a := by
  show (s.conn.set j true).getD a false = true ↔ _
  rw [getD_set_of_lt _ _ _ _ _ (hi.len.2.2.2.1 ▸ hjn)]
  by_cases h : a = j
  · simp [h]
  · simp [h, Conn]

private theorem up_congr (hjn : j < n) (hcj : ¬ Conn s j) :
    ∀ d a, a < n → Conn s a → up (stepAt dis limit excl n s i j) d a = up s d a := by
  intro d
  induction d with
  | zero => intro a _ _; rfl
  | succ d ih =>
    intro a ha hc
    have haj : a ≠ j := fun h => hcj (h ▸ hc)
    rw [up_succ, up_succ, pid_get hi hjn, if_neg haj]
    by_cases ha0 : a = 0
    · subst ha0
      rw [pid_dflt hi 0 ha, hi.root.2.1, if_pos rfl, if_pos rfl]
    · obtain ⟨p, hp, hcp, hpid⟩ := conn_parent hi a ha hc ha0
      rw [hpid, if_neg (by omega), if_neg (by omega), Int.toNat_natCast]
      exact ih p hp hcp

private theorem step_nconn (hjn : j < n) (hcj : ¬ Conn s j) : nconn (stepAt dis limit excl n s i j) = nconn s + 1 :=
  length_filter_set id s.conn j true false (hi.len.2.2.2.1 ▸ hjn) (Bool.eq_false_iff.mpr hcj)

end static

section step
variable {dis : List (List Rat)} {n : Nat} {limit : Option Nat} {excl : Bool} {s : St} {i j : Nat}
  (hi : Inv dis n limit excl s) (hk : ∀ k, limit = some k → 1 ≤ k)
  (hin : i < n) (hjn : j < n) (hci : Conn s i) (hsi : ¬ Saturated limit excl s i) (hcj : ¬ Conn s j)
include hi hk hin hjn hci hsi hcj

private theorem step_len : (stepAt dis limit excl n s i j).pid.length = n ∧
    (stepAt dis limit excl n s i j).acc.length = n ∧ (stepAt dis limit excl n s i j).furc.length = n ∧
    (stepAt dis limit excl n s i j).conn.length = n ∧ (stepAt dis limit excl n s i j).mask.length = n ∧
    ∀ r ∈ (stepAt dis limit excl n s i j).mask, r.length = n :=
  stepAt_len dis limit excl i j hi.len

private theorem stepAt_inv : Inv dis n limit excl (stepAt dis limit excl n s i j) := by
  have hne : i ≠ j := fun h => hcj (h ▸ hci)
  have hj0 : j ≠ 0 := fun h => hcj (h ▸ hi.root.1)
  have hfj := furc_eq_zero hi j hjn hcj
  have hpj : s.pid.getD j 0 = -1 := (hi.parent j hjn hj0).2 hcj
  have hpid := pid_get (i := i) hi hjn
  have hacc := acc_get (i := i) hi hjn
  have hfurc := furc_get (j := j) hi hin
  have hconn := conn_get (i := i) hi hjn
  have hsat : ∀ a, a ≠ i →
      (Saturated limit excl (stepAt dis limit excl n s i j) a ↔ Saturated limit excl s a) := by
    intro a h
    unfold Saturated
    rw [hfurc a, if_neg h]
  refine ⟨stepAt_len dis limit excl i j hi.len, ⟨(hconn 0).mpr (Or.inr hi.root.1), ?_, ?_⟩, ?_, ?_, ?_,
    ⟨j, hjn, (hconn j).mpr (Or.inl rfl), by rw [hfurc, if_neg hne.symm]; exact hfj⟩, ?_⟩
  · rw [hpid, if_neg hj0.symm]; exact hi.root.2.1
  · rw [hacc, if_neg hj0.symm]; exact hi.root.2.2
  · -- the mask
    intro a b ha hb
    refine (cross2_open hi.len.2.2.2.2 (List.length_set.trans hi.len.2.2.2.1) _ hin hjn ha hb).trans ?_
    rw [satFlag_iff, hconn a, hconn b]
    change b ≠ j ∧ (if a = j then (s.conn.set j true).getD b true = false
      else ¬ (Saturated limit excl (stepAt dis limit excl n s i j) i ∧ (a = i ∨ b = i)) ∧ Open s a b) ↔ _
    by_cases hbj : b = j
    · simp [hbj]
    · by_cases haj : a = j
      · subst haj
        have hns : ¬ Saturated limit excl (stepAt dis limit excl n s i a) a :=
          not_saturated hk ((hfurc a).trans ((if_neg hne.symm).trans hfj))
        rw [if_pos rfl, getD_set_of_lt _ _ _ _ _ (hi.len.2.2.2.1 ▸ hjn), if_neg hbj,
          Py.getD_default s.conn true false (hi.len.2.2.2.1 ▸ hb)]
        simp [hbj, hns, Conn]
      · rw [if_neg haj, hi.mask a b ha hb]
        by_cases hai : a = i
        · subst hai; simp [hbj, haj, hci, hsi]
        · rw [hsat a hai]
          by_cases hbi : b = i
          · subst hbi; simp [hci]
          · simp [hbj, haj, hai, hbi]
  · -- parents
    intro a ha ha0
    rw [hconn a, hpid a 0, hacc a 0]
    constructor
    · intro hc
      by_cases haj : a = j
      · subst haj
        exact ⟨i, hin, by rw [if_pos rfl], (hconn i).mpr (Or.inr hci), by rw [if_pos rfl, hacc i 0, if_neg hne]⟩
      · obtain ⟨p, hp, hpp, hcp, hap⟩ := (hi.parent a ha ha0).1 (hc.resolve_left haj)
        have hpj' : p ≠ j := fun h => hcj (h ▸ hcp)
        exact ⟨p, hp, by rw [if_neg haj]; exact hpp, (hconn p).mpr (Or.inr hcp),
          by rw [if_neg haj, hacc p 0, if_neg hpj']; exact hap⟩
    · intro hc
      rw [if_neg fun h => hc (Or.inl h)]
      exact (hi.parent a ha ha0).2 fun h => hc (Or.inr h)
  · -- reaching the root
    intro a ha hc
    by_cases haj : a = j
    · subst haj
      obtain ⟨d, hd, hu⟩ := short_reach hi i hin hci a hjn hcj
      refine ⟨d + 1, by omega, ?_⟩
      rw [up_parent _ d ((hpid a (-1)).trans (if_pos rfl)), up_congr hi hjn hcj d i hin hci]
      exact hu
    · have hca : Conn s a := ((hconn a).mp hc).resolve_left haj
      obtain ⟨d, hd, hu⟩ := hi.reach a ha hca
      exact ⟨d, hd, (up_congr hi hjn hcj d a ha hca).trans hu⟩
  · -- the child counts
    intro a ha
    have hch : children (stepAt dis limit excl n s i j) a = children s a + if a = i then 1 else 0 := by
      refine (length_filter_set _ s.pid j (i : Int) 0 (hi.len.1 ▸ hjn) (by rw [hpj]; exact decide_eq_false (by omega))).trans ?_
      by_cases h : a = i
      · subst h; rw [if_pos (decide_eq_true rfl), if_pos rfl]; rfl
      · rw [if_neg (by rw [decide_eq_true_eq]; omega), if_neg h]; rfl
    rw [hfurc a, hch]
    by_cases h : a = i
    · subst h
      rw [if_pos rfl, if_pos rfl, (hi.count a ha).1]
      refine ⟨rfl, fun k hl h1 hex => ?_⟩
      by_contra hc
      exact hsi ⟨k, hl, by rw [(hi.count a ha).1]; omega, hex⟩
    · rw [if_neg h, if_neg h]
      exact ⟨(hi.count a ha).1, (hi.count a ha).2⟩

end step

/-- the invariant is preserved, and one more point gets connected -/
theorem step_inv (dis : List (List Rat)) (bf : Rat) (n : Nat) (limit : Option Nat) (excl : Bool) (s : St)
    (hi : Inv dis n limit excl s) (hk : ∀ k, limit = some k → 1 ≤ k) (hmore : nconn s < n) (hpos : 0 < nconn s) :
    Inv dis n limit excl (step dis bf limit excl n s) ∧ nconn (step dis bf limit excl n s) = nconn s + 1 := by
  obtain ⟨h1, h2, h3, _⟩ := greedy_step dis bf n limit excl s hi hk hmore hpos
  obtain ⟨hci, hsi, hcj⟩ := (hi.mask _ _ h1 h2).mp h3
  rw [step_eq]
  exact ⟨stepAt_inv hi hk h1 h2 hci hsi hcj, step_nconn hi h2 hcj⟩

private theorem run_inv (dis : List (List Rat)) (bf : Rat) (n : Nat) (limit : Option Nat) (excl : Bool)
    (hk : ∀ k, limit = some k → 1 ≤ k) (Q : St → Prop)
    (hQ : ∀ s, Inv dis n limit excl s → nconn s < n → 0 < nconn s → Q s → Q (step dis bf limit excl n s)) :
    ∀ (m : Nat) (s : St), Inv dis n limit excl s → 0 < nconn s → nconn s + m ≤ n → Q s →
      Inv dis n limit excl (run dis bf limit excl n m s) ∧ nconn (run dis bf limit excl n m s) = nconn s + m ∧
      Q (run dis bf limit excl n m s) := by
  intro m
  induction m with
  | zero => intro s hi _ _ hq; exact ⟨hi, rfl, hq⟩
  | succ m ih =>
    intro s hi hpos hle hq
    obtain ⟨h1, h2⟩ := step_inv dis bf n limit excl s hi hk (by omega) hpos
    obtain ⟨h3, h4, h5⟩ := ih _ h1 (by omega) (by omega) (hQ s hi (by omega) hpos hq)
    exact ⟨h3, by rw [run, h4, h2]; omega, h5⟩

private theorem nconn_init (n : Nat) (hn : 0 < n) : nconn (init n) = 1 :=
  filter_id_range_eq_zero n hn

/-- **a single tree containing every point exactly once, rooted at the first point**: after `n - 1`
iterations every point is connected, has one parent (point 0 none) and reaches point 0 -/
theorem spanning (dis : List (List Rat)) (bf : Rat) (n : Nat) (hn : 0 < n) (limit : Option Nat) (excl : Bool)
    (hk : ∀ k, limit = some k → 1 ≤ k) :
    let s := run dis bf limit excl n (n - 1) (init n)
    Inv dis n limit excl s ∧ (∀ j, j < n → Conn s j) ∧
    s.pid.getD 0 0 = -1 ∧ (∀ j, j < n → j ≠ 0 → ∃ i, i < n ∧ s.pid.getD j 0 = (i : Int)) ∧
    (∀ j, j < n → ∃ d, d ≤ n ∧ up s d j = 0) := by
  intro s
  have h0 := nconn_init n hn
  obtain ⟨hi, hc, _⟩ := run_inv dis bf n limit excl hk (fun _ => True) (fun _ _ _ _ _ => trivial) (n - 1) (init n)
    (init_inv dis n hn limit excl hk) (by omega) (by omega) trivial
  -- all `n` entries of `conn` are counted
  have hall : ∀ j, j < n → Conn s j := by
    intro j hj
    have hlen : s.conn.length = n := hi.len.2.2.2.1
    exact all_true_of_filter_eq s.conn (by rw [hlen]; exact hc.trans (by omega)) j (by omega)
  refine ⟨hi, hall, hi.root.2.1, ?_, fun j hj => hi.reach j hj (hall j hj)⟩
  intro j hj hj0
  obtain ⟨p, hp, hpid, _⟩ := (hi.parent j hj hj0).1 (hall j hj)
  exact ⟨p, hp, hpid⟩

/-- **with a branching limit `k` no node other than the (optionally exempt) root gets more than `k` children** -/
theorem branching_limit (dis : List (List Rat)) (bf : Rat) (n : Nat) (hn : 0 < n) (k : Nat) (hk : 1 ≤ k) (excl : Bool)
    (i : Nat) (hi : i < n) (hex : excl = false ∨ i ≠ 0) :
    children (run dis bf (some k) excl n (n - 1) (init n)) i ≤ k := by
  have hk' : ∀ k', some k = some k' → 1 ≤ k' := by intro k' h; cases h; exact hk
  obtain ⟨hinv, _⟩ := spanning dis bf n hn (some k) excl hk'
  have := hinv.count i hi
  rw [← this.1]
  exact this.2 k rfl hk hex

/-- **Prim's step**: without balancing factor and without limit the chosen edge is a lightest edge between
the connected and the unconnected points (the cut property; `prim_minimal` below carries it through the whole
loop by the exchange argument) -/
theorem prim_step (dis : List (List Rat)) (n : Nat) (excl : Bool) (s : St)
    (hi : Inv dis n none excl s) (hmore : nconn s < n) (hpos : 0 < nconn s) :
    let ij := argmin dis 0 s n
    Conn s ij.1 ∧ ¬ Conn s ij.2 ∧
    ∀ i j, i < n → j < n → Conn s i → ¬ Conn s j →
      (dis.getD ij.1 []).getD ij.2 0 ≤ (dis.getD i []).getD j 0 := by
  obtain ⟨h1, h2, h3, h4⟩ := greedy_step dis 0 n none excl s hi nofun hmore hpos
  have hns : ∀ i, ¬ Saturated none excl s i := by rintro i ⟨k, h, _⟩; cases h
  have ho := (hi.mask _ _ h1 h2).mp h3
  refine ⟨ho.1, ho.2.2, ?_⟩
  intro i j hin hjn hci hcj
  have := h4 i j hin hjn ((hi.mask i j hin hjn).mpr ⟨hci, hns i, hcj⟩)
  simpa [cellCost] using this

/-! ### Prim's algorithm returns a minimum spanning tree (the exchange argument) -/
open Relation Graph

/-- entry `(a, b)` of the distance matrix -/
def dist (dis : List (List Rat)) (a b : Nat) : Rat := (dis.getD a []).getD b 0

/-- total length of a list of edges -/
def wL (dis : List (List Rat)) (R : List (Nat × Nat)) : Rat := (R.map fun f => dist dis f.1 f.2).sum

/-- total length of the edges `(pid[j], j)` chosen so far -/
def treeLength (dis : List (List Rat)) (n : Nat) (s : St) : Rat :=
  ((List.range n).map fun j =>
    if s.pid.getD j (-1) = -1 then 0 else dist dis (s.pid.getD j (-1)).toNat j).sum

/-- the edges chosen so far, as an undirected adjacency relation -/
def adjS (s : St) (x y : Nat) : Prop := s.pid.getD y (-1) = (x : Int) ∨ s.pid.getD x (-1) = (y : Int)

theorem adjS_symm {s : St} {x y : Nat} (h : adjS s x y) : adjS s y x := h.symm

/-- every point below `n` can be reached from point 0 along the edges of the list -/
def Spans (n : Nat) (E : List (Nat × Nat)) : Prop :=
  (∀ f ∈ E, f.1 < n ∧ f.2 < n) ∧ ∀ v, v < n → ReflTransGen (adjL E) 0 v

private theorem sum_map_update (l : List Nat) (f g : Nat → Rat) (j : Nat) (hnd : l.Nodup) (hj : j ∈ l)
    (h : ∀ a, a ≠ j → g a = f a) : (l.map g).sum = (l.map f).sum + (g j - f j) := by
  have : (l.erase j).map g = (l.erase j).map f :=
    List.map_congr_left fun a ha => h a (hnd.mem_erase_iff.mp ha).1
  rw [← List.sum_map_erase g hj, ← List.sum_map_erase f hj, this]
  ring

private theorem wL_erase (dis : List (List Rat)) (R : List (Nat × Nat)) (f : Nat × Nat) (hf : f ∈ R) :
    wL dis R = dist dis f.1 f.2 + wL dis (R.erase f) := by
  unfold wL
  rw [((List.perm_cons_erase hf).map fun f => dist dis f.1 f.2).sum_eq, List.map_cons, List.sum_cons]

private theorem wL_nonneg (dis : List (List Rat)) (n : Nat) (R : List (Nat × Nat))
    (hR : ∀ f ∈ R, f.1 < n ∧ f.2 < n) (hnn : ∀ a b, a < n → b < n → 0 ≤ dist dis a b) : 0 ≤ wL dis R := by
  unfold wL
  apply List.sum_nonneg
  intro x hx
  obtain ⟨f, hf, rfl⟩ := List.mem_map.mp hx
  exact hnn _ _ (hR f hf).1 (hR f hf).2

/-- the second loop invariant: the edges chosen so far can be completed — by edges `R` taken from the
competitor `E` — to a connected spanning graph that is no longer than `E` -/
def Opt (dis : List (List Rat)) (n : Nat) (E : List (Nat × Nat)) (s : St) : Prop :=
  ∃ R : List (Nat × Nat), (∀ f ∈ R, f.1 < n ∧ f.2 < n) ∧
    (∀ v, v < n → ReflTransGen (Adj (adjS s) R) 0 v) ∧ treeLength dis n s + wL dis R ≤ wL dis E

/-- a chosen edge joins two connected points -/
private theorem adjS_conn {dis : List (List Rat)} {n : Nat} {limit : Option Nat} {excl : Bool} {s : St}
    (hi : Inv dis n limit excl s) : ∀ x y, adjS s x y → (x < n ∧ Conn s x) ∧ (y < n ∧ Conn s y) :=
  fun x y h => h.elim (pid_conn hi x y) fun h => (pid_conn hi y x h).symm

private theorem opt_init (dis : List (List Rat)) (n : Nat) (E : List (Nat × Nat)) (hE : Spans n E) :
    Opt dis n E (init n) := by
  refine ⟨E, hE.1, fun v hv => rtg_mono (fun x y h => Or.inr h) (hE.2 v hv), ?_⟩
  have : treeLength dis n (init n) = 0 := by
    unfold treeLength
    apply List.sum_eq_zero
    intro x hx
    obtain ⟨j, hj, rfl⟩ := List.mem_map.mp hx
    have hj' : j < n := List.mem_range.mp hj
    have : (init n).pid.getD j (-1) = -1 := getD_replicate n j (-1 : Int) (-1) hj'
    rw [if_pos this]
  rw [this]; simp

/-- **one Prim step keeps the completion invariant** (exchange argument) -/
private theorem opt_step (dis : List (List Rat)) (n : Nat) (excl : Bool) (E : List (Nat × Nat)) (s : St)
    (hsym : ∀ a b, a < n → b < n → dist dis a b = dist dis b a)
    (hi : Inv dis n none excl s) (hmore : nconn s < n) (hpos : 0 < nconn s) (ho : Opt dis n E s) :
    Opt dis n E (step dis 0 none excl n s) := by
  obtain ⟨hin, hjn, _, _⟩ := greedy_step dis 0 n none excl s hi nofun hmore hpos
  obtain ⟨hci, hcj, hmin⟩ := prim_step dis n excl s hi hmore hpos
  rw [step_eq]
  generalize (argmin dis 0 s n).1 = i at *
  generalize (argmin dis 0 s n).2 = j at *
  obtain ⟨R, hR, hconn, hw⟩ := ho
  -- an edge `f = {a, b}` of `R` across the cut, on a cycle through the new edge `{i, j}`
  have hAsymm : ∀ x y, Adj (adjS s) R x y → Adj (adjS s) R y x := fun _ _ h => Adj_symm (fun _ _ h => adjS_symm h) h
  obtain ⟨f, hfR, a, b, hfab, ha, hb, hia, hbj⟩ :=
    exists_exchange (adjS s) (fun x => x < n ∧ Conn s x) (adjS_conn hi) R.length R rfl i j ⟨hin, hci⟩ (fun h => hcj h.2)
      ((rtg_symm hAsymm (hconn i hin)).trans (hconn j hjn))
  have hbn : b < n := by
    rcases hfab with rfl | rfl
    · exact (hR _ hfR).2
    · exact (hR _ hfR).1
  -- the new edge is no longer than the one it replaces
  have hle : dist dis i j ≤ dist dis f.1 f.2 := by
    have := hmin a b ha.1 hbn ha.2 (fun h => hb ⟨hbn, h⟩)
    rcases hfab with rfl | rfl
    · exact this
    · exact (hsym b a hbn ha.1).symm ▸ this
  set s' := stepAt dis none excl n s i j with hs'
  have hpid' : ∀ x, s'.pid.getD x (-1) = if x = j then (i : Int) else s.pid.getD x (-1) :=
    fun x => pid_get hi hjn x (-1)
  have hpj : s.pid.getD j (-1) = -1 :=
    (pid_dflt hi j hjn).trans ((hi.parent j hjn fun (e : j = 0) => hcj (e ▸ hi.root.1)).2 hcj)
  -- old edges stay, and the new one is there
  have hold : ∀ x y, adjS s x y → adjS s' x y := by
    intro x y h
    obtain ⟨hx, hy⟩ := adjS_conn hi x y h
    unfold adjS
    rw [hpid' x, hpid' y, if_neg fun (e : x = j) => hcj (e ▸ hx.2), if_neg fun (e : y = j) => hcj (e ▸ hy.2)]
    exact h
  have hnew : adjS s' i j := Or.inl (by rw [hpid' j, if_pos rfl])
  refine ⟨R.erase f, fun g hg => hR g (List.mem_of_mem_erase hg),
    fun v hv => walk_exchange hold (fun _ _ h => adjS_symm h) hfab hnew hia hbj (hconn v hv), ?_⟩
  have hW : treeLength dis n s' = treeLength dis n s + dist dis i j := by
    unfold treeLength
    rw [sum_map_update (List.range n)
      (fun x => if s.pid.getD x (-1) = -1 then 0 else dist dis (s.pid.getD x (-1)).toNat x)
      (fun x => if s'.pid.getD x (-1) = -1 then 0 else dist dis (s'.pid.getD x (-1)).toNat x)
      j List.nodup_range (List.mem_range.mpr hjn) (by intro x hx; simp only [hpid' x, if_neg hx])]
    have hne : ¬ ((i : Int) = -1) := by omega
    simp only [hpid' j, hpj]
    simp [hne]
  rw [hW]
  have := wL_erase dis R f hfR
  linarith

/-- **without a balancing factor and without a branching limit the tree is a minimum spanning tree**:
for a symmetric, non-negative distance matrix, the total length of the edges `(pid[j], j)` the loop
returns is at most the total length of *any* edge list that connects all the points (in particular of
any spanning tree) -/
theorem prim_minimal (dis : List (List Rat)) (n : Nat) (hn : 0 < n) (excl : Bool)
    (hsym : ∀ a b, a < n → b < n → dist dis a b = dist dis b a)
    (hnn : ∀ a b, a < n → b < n → 0 ≤ dist dis a b)
    (E : List (Nat × Nat)) (hE : Spans n E) :
    treeLength dis n (run dis 0 none excl n (n - 1) (init n)) ≤ wL dis E := by
  have h0 := nconn_init n hn
  obtain ⟨_, _, R, hR, _, hw⟩ := run_inv dis 0 n none excl nofun (Opt dis n E)
    (fun s hi hm hp => opt_step dis n excl E s hsym hi hm hp) (n - 1) (init n) (init_inv dis n hn none excl nofun)
    (by omega) (by omega) (opt_init dis n E hE)
  have := wL_nonneg dis n R hR hnn
  linarith

/-- the edges `(pid[j], j)` of a state, as a list -/
def edgesOf (n : Nat) (s : St) : List (Nat × Nat) :=
  (List.range n).filterMap fun j =>
    if s.pid.getD j (-1) = -1 then none else some ((s.pid.getD j (-1)).toNat, j)

theorem wL_edgesOf (dis : List (List Rat)) (n : Nat) (s : St) : wL dis (edgesOf n s) = treeLength dis n s := by
  unfold wL edgesOf treeLength
  induction List.range n with
  | nil => rfl
  | cons j l ih =>
    by_cases h : s.pid.getD j (-1) = -1
    · simp only [List.filterMap_cons, h, if_true, List.map_cons, List.sum_cons, zero_add]
      exact ih
    · simp only [List.filterMap_cons, h, if_false, List.map_cons, List.sum_cons]
      rw [ih]

private theorem spans_edgesOf (n : Nat) (hn : 0 < n) (s : St) (hlen : s.pid.length = n) (hroot : s.pid.getD 0 0 = -1)
    (hpar : ∀ j, j < n → j ≠ 0 → ∃ i, i < n ∧ s.pid.getD j 0 = (i : Int))
    (hreach : ∀ j, j < n → ∃ d, d ≤ n ∧ up s d j = 0) :
    Spans n (edgesOf n s) ∧ (edgesOf n s).length = n - 1 := by
  have hdf : ∀ a, a < n → s.pid.getD a (-1) = s.pid.getD a 0 := fun a ha => Py.getD_default _ _ _ (hlen ▸ ha)
  have h0 : s.pid.getD 0 (-1) = -1 := (hdf 0 hn).trans hroot
  have hp : ∀ j, j < n → j ≠ 0 → ∃ i, i < n ∧ s.pid.getD j (-1) = (i : Int) := fun j hj hj0 => by
    obtain ⟨i, hi, h⟩ := hpar j hj hj0
    exact ⟨i, hi, (hdf j hj).trans h⟩
  have hmem : ∀ f, f ∈ edgesOf n s ↔ f.2 < n ∧ s.pid.getD f.2 (-1) ≠ -1 ∧ f.1 = (s.pid.getD f.2 (-1)).toNat := by
    intro f
    unfold edgesOf
    rw [List.mem_filterMap]
    constructor
    · rintro ⟨j, hj, hfj⟩
      split at hfj
      · cases hfj
      · next hne => cases hfj; exact ⟨List.mem_range.mp hj, hne, rfl⟩
    · rintro ⟨h1, h2, h3⟩
      exact ⟨f.2, List.mem_range.mpr h1, by rw [if_neg h2, ← h3]⟩
  refine ⟨⟨?_, ?_⟩, ?_⟩
  · intro f hf
    obtain ⟨h1, h2, h3⟩ := (hmem f).mp hf
    obtain ⟨i, hi, hpi⟩ := hp f.2 h1 fun e => h2 (e ▸ h0)
    rw [hpi, Int.toNat_natCast] at h3
    exact ⟨h3 ▸ hi, h1⟩
  · intro v hv
    obtain ⟨d, _, hd⟩ := hreach v hv
    refine rtg_symm (fun _ _ h => adjL_symm h) (up_induction hlen hpar (P := fun _ j => ReflTransGen (adjL (edgesOf n s)) j 0)
      (fun _ => .refl) (fun _ i j hj hpi h => .head (Or.inr ((hmem (i, j)).mpr ⟨hj, ?_, ?_⟩)) h) d v hv hd)
    · rw [hpi]; omega
    · rw [hpi]; rfl
  · -- one edge per point other than the root
    obtain ⟨m, rfl⟩ : ∃ m, n = m + 1 := ⟨n - 1, by omega⟩
    rw [edgesOf, List.length_filterMap_eq_countP, List.range_succ_eq_map,
      List.countP_cons_of_neg (by rw [if_pos h0]; exact Bool.false_ne_true), List.countP_map,
      List.countP_eq_length.mpr, List.length_range, Nat.add_sub_cancel]
    intro j hj
    obtain ⟨i, _, hpi⟩ := hp (j + 1) (Nat.succ_lt_succ (List.mem_range.mp hj)) (Nat.succ_ne_zero j)
    show (if s.pid.getD (j + 1) (-1) = -1 then none else some ((s.pid.getD (j + 1) (-1)).toNat, j + 1)).isSome = true
    rw [if_neg (by rw [hpi]; omega)]; rfl

/-- **the returned tree is itself one of the competitors**: its edge list connects all the points and has
the length `treeLength` — so `prim_minimal` says its length *equals* the minimum over all spanning edge lists -/
theorem prim_attains (dis : List (List Rat)) (bf : Rat) (n : Nat) (hn : 0 < n) (limit : Option Nat) (excl : Bool)
    (hk : ∀ k, limit = some k → 1 ≤ k) :
    let s := run dis bf limit excl n (n - 1) (init n)
    Spans n (edgesOf n s) ∧ wL dis (edgesOf n s) = treeLength dis n s ∧ (edgesOf n s).length = n - 1 := by
  obtain ⟨hinv, _, hroot, hpar, hreach⟩ := spanning dis bf n hn limit excl hk
  obtain ⟨h1, h2⟩ := spans_edgesOf n hn _ hinv.len.1 hroot hpar hreach
  exact ⟨h1, wL_edgesOf dis n _, h2⟩

-- non-vacuity / concrete behaviour: 4 points on a line at 0, 10, 11, 1
def exDis : List (List Rat) := [[0, 10, 11, 1], [10, 0, 1, 9], [11, 1, 0, 10], [1, 9, 10, 0]]
-- the run without balancing factor and limit is evaluated once; the examples about it rest on this
private theorem ex_pid : (run exDis 0 none true 4 3 (init 4)).pid = [-1, 3, 1, 0] := by decide +kernel
example : mst exDis 0 none true = [-1, 3, 1, 0] := ex_pid
example : mst exDis 1 none true = [-1, 0, 0, 0] := by decide +kernel
example : mst exDis 0 (some 1) false = [-1, 3, 1, 0] := by decide +kernel
-- `prim_minimal` / `prim_attains` are not vacuous: the example matrix is symmetric and non-negative, the star
-- at point 0 is a competitor of length 22, and the loop's tree has length 11
example : (∀ a, a < 4 → ∀ b, b < 4 → dist exDis a b = dist exDis b a ∧ 0 ≤ dist exDis a b) := by decide +kernel
example : treeLength exDis 4 (run exDis 0 none true 4 3 (init 4)) = 11 ∧ wL exDis [(0, 1), (0, 2), (0, 3)] = 22 := by
  refine ⟨?_, by decide +kernel⟩
  unfold treeLength
  rw [ex_pid]
  decide +kernel
example : edgesOf 4 (run exDis 0 none true 4 3 (init 4)) = [(3, 1), (1, 2), (0, 3)] := by
  unfold edgesOf
  rw [ex_pid]
  decide +kernel

end C17
