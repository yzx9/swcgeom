import SwcVerif.Props.C06
import SwcVerif.Refine.Subtree
import SwcVerif.Refine.Closures
import SwcVerif.Refine.PyRun
/-! # C06, tied to the source by the translator

`Gen.Algo.to_sub_topology` is regenerated from `swcgeom/core/swc_utils/subtree.py` on every run; it is the compaction +
parent remap + mapping step behind `get_subtree`, `to_subtree`, `cut_tree` and every cut transform.
`RefineSub.toSubTopology_refines` proves it equal to the model `Sub.toSubTopology` the C06 theorems speak about.  The file then proves,
in place, the same for `get_subtree_impl` (`generated_getSubtree_eq_model`) and `propagate_removal` (`generated_propagateRemoval`), each as
translated: a closure handed to the translated traversal.  The literal `-2` is the generated code's value of the model's `REMOVAL`
(`RefineSub.removal_eq`). -/
namespace C06
open Sub Gen.Algo

/-- the translated `to_sub_topology` and the model agree (results and KeyError alike) on every marked table with distinct
kept ids and equally long columns -/
theorem generated_toSubTopology_eq_model (subId subPid : List Int) (hl : subId.length = subPid.length)
    (hnd : (((List.zip subId subPid).filter (fun ip => !decide (ip.1 = -2))).map (·.1)).Nodup) :
    to_sub_topology (subId, subPid) =
      (toSubTopology subId subPid).map (fun r => ((Py.range (r.mapping.length : Int), r.newPid), r.mapping)) :=
  RefineSub.toSubTopology_refines subId subPid hl hnd

/-- non-vacuity (kernel-evaluated): rows 1 and 3 removed; and a kept row whose parent was removed raises -/
example : to_sub_topology ([0, -2, 2, -2, 4], [-1, 0, 0, 2, 2]) = some (([0, 1, 2], [-1, 0, 1]), [0, 2, 4]) := by decide +kernel
example : to_sub_topology ([0, -2, 2], [-1, 0, 1]) = none := by decide +kernel

/-! ## `get_subtree_impl`, as translated (closure + translated traversal + fancy indexing + translated compaction) -/

/-- **the translated `get_subtree_impl` equals the model** on the subtree `s` at any node of a tree object (ids = positions):
the ids collected by the translated `enter` lambda on the translated traversal, the gathered parents, the root's parent reset,
and the translated compaction together return what `Sub.getSubtree` returns — the record `subtree_nodes` characterises -/
theorem generated_getSubtree_eq_model (pids : List Int) (s : Rose) (h : Represents s (rangeI pids.length) pids)
    (hin : ∀ i ∈ s.ids, 0 ≤ i ∧ i.toNat < pids.length) (F : Nat) :
    get_subtree_impl (2 * s.size + F + 1) (rangeI pids.length) pids s.id =
      (getSubtree pids s.id).map (fun r => ((Py.range (r.mapping.length : Int), r.newPid), r.mapping)) := by
  have hperm := C04.enterOrder_perm s
  have hcall := RefineClosures.traverse_closures (S := List Int) (T := Unit) (K := Unit) subtree_collect Py.noLeave logEnterIds noLeave
    (fun st n pv => rfl) (fun st n ks => rfl) (rangeI pids.length) pids s h [] F
  rw [spec_logEnter, List.nil_append] at hcall
  have hmodel : getSubtree pids s.id =
      toSubTopology (C04.enterOrder s) (((C04.enterOrder s).map fun i => pids.getD i.toNat (-1)).set 0 (-1)) := by
    unfold getSubtree
    simp only
    rw [run_model _ _ s h _ (rose_size_le s _ h.2 hin), spec_logEnter, List.nil_append]
  generalize C04.enterOrder s = E at hperm hcall hmodel
  have htake := Py.take_inrange pids (-1) E fun i hi => hin i (hperm.mem_iff.1 hi)
  have hne : 0 < E.length := by rw [hperm.length_eq, SortM.ids_length]; exact SortM.size_pos s
  have hset := Py.setIdx_inrange (E.map fun i => pids.getD i.toNat (-1)) 0 (-1) ⟨Int.le_refl 0, by rw [Int.toNat_zero, List.length_map]; exact hne⟩
  generalize hsp : (E.map fun i => pids.getD i.toNat (-1)).set 0 (-1) = sp at hmodel
  have hl : E.length = sp.length := by rw [← hsp, List.length_set, List.length_map]
  -- the kept ids are a sublist of the (distinct) entered ids
  have hnd : (((List.zip E sp).filter (fun ip => !decide (ip.1 = -2))).map (·.1)).Nodup := by
    refine List.Nodup.sublist (List.filter_sublist.map _) ?_
    rw [List.map_fst_zip (Nat.le_of_eq hl)]
    exact hperm.nodup_iff.2 h.2
  rw [hmodel, ← RefineSub.toSubTopology_refines E sp hl hnd]
  simp only [get_subtree_impl, get_subtree_impl.body, Py.seq_eq_bindS, Py.bindS_next, Py.bindS_bind, Py.finish_bind, Py.finish_ret,
    Py.map_bind, hcall, htake, hset, Int.toNat_zero, hsp, Option.bind_some, Option.map_some, Option.bind_fun_some]

/-! ## `propagate_removal`, as translated (closure over the marker array + translated traversal) -/

/-- the list-level total callback the translated closure `propagate` computes on nodes of the table -/
def propL (s : List Int) (n : Int) (pv : Option Bool) : List Int × Bool :=
  let rm := pv.getD false || decide (s.getD n.toNat 0 = -2)
  (if rm then s.set n.toNat (-2) else s, rm)

/-- marker array ↦ the model's marking function -/
def absMark (s : List Int) : Int → Bool := fun j => decide (0 ≤ j) && decide (s.getD j.toNat 0 = -2)

theorem propagate_closure (s : List Int) (n : Int) (pv : Option Bool) (hn : 0 ≤ n ∧ n.toNat < s.length) :
    propagate s n pv = some (propL s n pv) := by
  have h0 : Py.idx s n = some (s[n.toNat]?.getD 0) := Py.idx_inrange s n 0 hn
  have hs := Py.setIdx_inrange s n (-2) hn
  cases hp : pv.getD false with
  | true => simp [propagate, propagate.body, Py.seq, Py.bind, hp, hs, Py.finish, propL]
  | false =>
    by_cases hm : s[n.toNat]?.getD 0 = -2 <;>
      simp [propagate, propagate.body, Py.seq, Py.bind, hp, h0, hm, hs, Py.finish, propL, Py.skip]

theorem absMark_set (s : List Int) (n : Int) (hn : 0 ≤ n ∧ n.toNat < s.length) :
    absMark (s.set n.toNat (-2)) = upd (absMark s) n true := by
  obtain ⟨m, rfl⟩ := Int.eq_ofNat_of_zero_le hn.1
  funext j
  by_cases hj : 0 ≤ j
  · obtain ⟨k, rfl⟩ := Int.eq_ofNat_of_zero_le hj
    by_cases e : k = m
    · subst e; simp [absMark, upd, List.getElem?_set_self (Int.toNat_natCast k ▸ hn.2)]
    · simp [absMark, upd, e, List.getElem?_set_ne (Ne.symm e), Int.ofNat_inj]
  · have : j ≠ m := fun c => hj (c ▸ hn.1)
    simp [absMark, upd, hj, this]

theorem absMark_step (s : List Int) (n : Int) (pv : Option Bool) (hn : 0 ≤ n ∧ n.toNat < s.length) :
    propEnter (absMark s) n pv = (absMark (propL s n pv).1, (propL s n pv).2) := by
  have hm : absMark s n = decide (s.getD n.toNat 0 = -2) := by simp [absMark, hn.1]
  simp only [propEnter, propL, hm]
  split
  · rw [absMark_set s n hn]
  · rfl

/-- **the translated `propagate_removal` equals the model**: on every tree table (ids = positions, root 0) and every marker array of
the same length it raises nothing, leaves the parents alone, changes markers only to `REMOVAL`, and the rows it marks are exactly those
the model `Sub.propagateRemoval` marks — by `propagate_marks`, the marked nodes and all their descendants -/
theorem generated_propagateRemoval (pids : List Int) (r : Rose) (h : IsTree r pids) (l : List Int) (hl : l.length = pids.length) (F : Nat) :
    ∃ l', propagate_removal (2 * r.size + F + 1) (l, pids) = some (l', pids) ∧ l'.length = l.length ∧
      (∀ j, absMark l' j = propagateRemoval pids (absMark l) j) ∧
      (∀ i : Nat, l'[i]? = l[i]? ∨ l'[i]? = some (-2)) := by
  have hin : ∀ j ∈ r.ids, 0 ≤ j ∧ j.toNat < l.length := fun j hj => by
    rw [hl]; exact (mem_rangeI _ _).1 (h.2.1.mem_iff.1 hj)
  -- invariant of the marker array along the traversal
  let P : List Int → Prop := fun s => s.length = l.length ∧ ∀ i : Nat, s[i]? = l[i]? ∨ s[i]? = some (-2)
  have hP0 : P l := ⟨rfl, fun _ => Or.inl rfl⟩
  have hstep : ∀ (s : List Int) (n : Int) (pv : Option Bool), P s → (0 ≤ n ∧ n.toNat < l.length) → P (propL s n pv).1 := by
    intro s n pv hp hn
    simp only [propL]
    split
    · refine ⟨by simp [hp.1], fun i => ?_⟩
      rw [List.getElem?_set]
      split
      · rw [if_pos (hp.1 ▸ hn.2)]; exact .inr rfl
      · exact hp.2 i
    · exact hp
  obtain ⟨hcall, e2, p2⟩ := RefineClosures.traverse_closures_abs absMark P (fun j => 0 ≤ j ∧ j.toNat < l.length)
    propagate Py.noLeave propL noLeave propEnter noLeave
    (fun s n pv hp hn => ⟨propagate_closure s n pv (by rw [hp.1]; exact hn), absMark_step s n pv (by rw [hp.1]; exact hn), hstep s n pv hp hn⟩)
    (fun s n ks hp _ => ⟨rfl, rfl, hp⟩)
    (rangeI pids.length) pids r h.1 l hP0 hin F
  rw [h.2.2.1] at hcall
  refine ⟨(Trav.spec propL noLeave r none l).1, ?_, p2.1, ?_, p2.2⟩
  · have harange : Py.arange (Py.len pids) = rangeI pids.length := by simp [Py.arange, Py.range, Py.len, rangeI]
    simp only [propagate_removal, propagate_removal.body, Py.seq, Py.bind, harange, hcall, Py.finish, Option.map]
  · intro j
    unfold propagateRemoval
    rw [run_tree h, e2]

end C06
