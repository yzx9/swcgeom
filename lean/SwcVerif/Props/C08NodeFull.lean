import SwcVerif.Props.C08Node
/-! # C08: `Tree.Node.branch` returns a branch of the decomposition

The chain `Node.branch()` returns for a non-furcation node of a tree with at least two nodes is a
MEMBER of `branchesOf r` (the decomposition `get_branches` computes) and contains the node. -/
namespace C08
open Branches Trav Gen.Algo Sub RefineNodeBranch

/-- **interior nodes have exactly one child**: in a chain of only children every node but the last has exactly one child, the next node -/
theorem downOK_interior {K : Int → List Int} : ∀ {c : Int} {l : List Int}, DownOK K c l →
    ∀ (pre : List Int) (a b : Int) (post : List Int), c :: l = pre ++ a :: b :: post → K a = [b] := by
  intro c l h
  induction h with
  | stop c _ =>
    intro pre a b post e
    rcases pre with _ | ⟨p, _ | ⟨q, pre⟩⟩ <;> simp at e
  | step c j rest hK _ ih =>
    intro pre a b post e
    rcases pre with _ | ⟨p, pre⟩
    · simp only [List.nil_append, List.cons.injEq] at e
      obtain ⟨rfl, rfl, _⟩ := e
      exact hK
    · simp only [List.cons_append, List.cons.injEq] at e
      exact ih pre a b post e.2

/-- every member of the decomposition is `top :: x :: chain` (`top` the root or a furcation, `x` a child of `top`, then only children) -/
theorem branchesOf_chain (K : Int → List Int) (r : Rose) (hA : Agrees K r) (b : List Int) (hb : b ∈ branchesOf r) :
    ∃ top x rest, b = top :: x :: rest ∧ x ∈ K top ∧ DownOK K x rest := by
  obtain ⟨top, x, rest, e, -, -, hx, hd⟩ := (mem_branchesOf_iff K r hA b).1 hb
  exact ⟨top, x, rest, e, hx, hd⟩

/-- reading a bottom-up chain of `Node.branch` top-down -/
theorem upOK_reverse {K : Int → List Int} {pids : List Int} {up : List Int} (h : UpOK K pids up) :
    ∀ (y : Int) (rest : List Int) (c : Int) (d : List Int), up = y :: rest → c ∈ K y → DownOK K c d →
    ∃ top x tl, up.reverse ++ c :: d = top :: x :: tl ∧ top ∈ up ∧ x ∈ K top ∧
      (2 ≤ (K top).length ∨ pids.getD top.toNat (-1) = -1) ∧ DownOK K x tl := by
  induction h with
  | top y htop =>
    intro _ _ c d e hc hd
    obtain ⟨rfl, rfl⟩ := List.cons.inj e
    exact ⟨y, c, d, rfl, List.mem_singleton_self _, hc, htop, hd⟩
  | step y z rest hnf _ _ hmem _ ih =>
    intro _ _ c d e hc hd
    obtain ⟨rfl, rfl⟩ := List.cons.inj e
    -- `y` is not a furcation and has `c` as a child: `c` is its only child
    obtain ⟨top, x, tl, e, h0, h⟩ := ih z rest y (c :: d) rfl hmem (.step y c d (kids_eq_singleton hc hnf) hd)
    exact ⟨top, x, tl, by simpa using e, List.mem_cons_of_mem _ h0, h⟩

/-- **`Tree.Node.branch` returns a branch of the decomposition** (model level): for a node `k` that is not a furcation, in a tree with at
least two nodes, the chain is a member of `branchesOf r` — the list `get_branches` computes — and contains `k` -/
theorem nodeBranch_mem_branchesOf (r : Rose) (pids : List Int) (h : C06.IsTree r pids) (k : Int) (h0 : 0 ≤ k) (hk : k < pids.length)
    (hn : 2 ≤ pids.length) (hnf : ¬ 2 ≤ (KK pids k).length) (F : Nat) (hF : pids.length + 1 ≤ F) :
    nodeBranch pids F k ∈ branchesOf r ∧ k ∈ nodeBranch pids F k := by
  have hw := Represent.represented_wf pids r h
  have hA : Agrees (KK pids) r := h.1.1
  obtain ⟨f1, f2⟩ := fuel_ok hw k h0 hk F hF
  obtain ⟨hup, hhead⟩ := upC_ok hw F k h0 hk f1
  have hdown := downC_ok hw F k h0 hk f2
  have hval := upC_valid hw F k h0 hk
  -- a valid node without parent is the root
  have hroot : ∀ c : Int, 0 ≤ c → c < pids.length → pids.getD c.toNat (-1) = -1 → c = r.id := by
    intro c hc0 hcl hp
    rw [h.2.2.1]
    refine Classical.byContradiction fun hne => ?_
    have := (hw.par_valid' c (Int.lt_iff_le_and_ne.2 ⟨hc0, Ne.symm hne⟩) hcl).1
    rw [hp] at this
    exact absurd this (by decide)
  -- the root of a tree with two or more nodes has a child
  have hkids : KK pids r.id ≠ [] := by
    intro hnil
    have hs := C06.isTree_size h
    cases r with
    | node i ks =>
      simp only [Agrees, Rose.id] at hA hnil
      rw [hA.1] at hnil
      have : ks = [] := by simpa using hnil
      subst this
      simp [Rose.size, sizeL] at hs
      omega
  unfold nodeBranch
  generalize hu : upC (KK pids) pids F k = up at *
  generalize hdn : downC (KK pids) F k = down at *
  constructor
  · cases hup with
    | top c htop =>
      obtain rfl := Option.some.inj hhead
      obtain rfl := hroot c h0 hk (htop.resolve_left hnf)
      cases hdown with
      | stop _ hc => exact absurd (hc.resolve_right hnf) (fun h => hkids (List.eq_nil_of_length_eq_zero h))
      | step _ j rest hK hd =>
        exact (mem_branchesOf_iff _ r hA _).2 ⟨r.id, j, rest, rfl, ids_head r, Or.inr rfl, by rw [hK]; simp, hd⟩
    | step c y rest hnf' hpar hne hmem hrest =>
      obtain rfl := Option.some.inj hhead
      obtain ⟨top, x, tl, e, htopm, hx, htop, hd⟩ := upOK_reverse hrest y rest c down rfl hmem hdown
      have hv := hval top (List.mem_cons_of_mem _ htopm)
      rw [show (c :: y :: rest).reverse ++ down = top :: x :: tl by rw [← e]; simp]
      exact (mem_branchesOf_iff _ r hA _).2 ⟨top, x, tl, rfl, (C06.isTree_mem h top).2 ⟨hv.1, (Int.toNat_lt hv.1).2 hv.2⟩, htop.imp_right (hroot top hv.1 hv.2), hx, hd⟩
  · exact List.mem_append_left _ (List.mem_reverse.2 (List.mem_of_head? hhead))

/-- **`Tree.Node.branch` as translated returns a branch of `get_branches`**: for every tree with at least two nodes, every node `k` that
is not a furcation and every fuel `≥ n + 1`, the generated method succeeds, and the chain it returns is a member of the decomposition
`branchesOf r` (= what the generated `get_branches` returns, `generated_getBranches_eq`) and contains `k`.  (That no OTHER member contains
a non-furcation `k` is not stated here.) -/
theorem generated_nodeBranch_mem_branches (r : Rose) (pids : List Int) (h : C06.IsTree r pids) (k : Int) (h0 : 0 ≤ k) (hk : k < pids.length)
    (hn : 2 ≤ pids.length) (hnf : ¬ 2 ≤ (tableKids (rangeI pids.length) pids k).length) (F : Nat) (hF : pids.length + 1 ≤ F) :
    ∃ b, node_branch F (rangeI pids.length) pids k = some b ∧ b ∈ branchesOf r ∧ k ∈ b := by
  refine ⟨_, generated_nodeBranch_eq_model r pids h k h0 hk F hF, ?_⟩
  exact nodeBranch_mem_branchesOf r pids h k h0 hk hn hnf F hF

/-- non-vacuity (kernel-evaluated) on `0 → 1 → {2, 3 → 4}`: from the interior node 3 and from the root -/
example : nodeBranch [-1, 0, 1, 1, 3] 6 3 ∈ branchesOf (.node 0 [.node 1 [.node 2 [], .node 3 [.node 4 []]]]) ∧
          nodeBranch [-1, 0, 1, 1, 3] 6 0 ∈ branchesOf (.node 0 [.node 1 [.node 2 [], .node 3 [.node 4 []]]]) := by decide +kernel

end C08
