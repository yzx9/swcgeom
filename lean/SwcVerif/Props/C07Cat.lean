import SwcVerif.Props.C07
import SwcVerif.Proofs.Pipeline
import SwcVerif.Proofs.Relabel
/-! # C07 — the concatenated table is a tree, so the final sort applies to it

`cat_separate` / `cat_merged` (in `Props/C07.lean`) describe the table `cat_tree` builds row by row.  Here both cases are
closed.  Non-coincident junction: the table is the first tree with the re-rooted second tree hung from `node1`
(`graft_wfr`), a well-formed tree rooted at node 0 of the first tree, hence — by C05's theorems, through
`Pipeline.wfr_sorted` — the final `_sort_tree` succeeds and returns a well-formed, sorted tree with `|tree1| + |tree2|`
nodes.  Coincident junction: the table is that same tree with the junction row of the second tree contracted into `node1`
(`contract_isTreeTable`, `merge_isTreeTable`); its ids skip the deleted row, so it is carried to a position-indexed table
and back by `Proofs/Relabel.lean`. -/
namespace C07
open Redir SortM Pipeline

theorem sorted_wf_gen (r : Rose) (ids ps : List Int) (h : C05.IsTreeTable r ids ps) :
    ∃ res, sortNodesImpl ids ps = .ok res ∧ WF res.newPids ∧
      (∀ k (h : k < res.newPids.length), 0 < k → res.newPids[k] < (k : Int)) ∧
      res.newPids.length = ids.length :=
  sorted_wf r ids ps h

/-- the second tree as it enters the concatenation is a well-formed tree rooted at the junction node -/
theorem second_wfr (p2 t2 : List Int) (node2 : Nat) (hw : WF p2) (hn : node2 < p2.length) :
    WFr (second p2 t2 node2).pids node2 := by
  unfold second
  split
  · rename_i h
    rw [Py.getD_eq_getElem _ _ hn] at h
    obtain rfl := hw.toWFr.unique node2 hn h
    exact hw.toWFr
  · exact redirect_wfr p2 t2 hw node2 hn

/-- **a tree hung from a node of another tree is a tree**: the rows of `s` follow those of `p` with their parents shifted by
`|p|`, and the root row of `s` gets the parent `a` -/
theorem graft_wfr {p s : List Int} {ρ σ a : Nat} (hp : WFr p ρ) (hs : WFr s σ) (ha : a < p.length) :
    WFr (setAt (p ++ s.map (· + (p.length : Int))) ((σ : Int) + p.length) (a : Int)) ρ := by
  have hσ := hs.lt
  have hρ := hp.lt
  -- the measure: depth in `p`; in `s`, above everything in `p`
  obtain ⟨μ, hμ1, hμ2⟩ : ∃ μ : Int → Nat, (∀ w : Int, w < p.length → μ w = Represent.D p w) ∧
      ∀ w : Int, 0 ≤ w → μ (w + p.length) = p.length + Represent.D s w :=
    ⟨fun k => if k < p.length then Represent.D p k else p.length + Represent.D s (k - p.length), fun w h => if_pos h,
      fun w h => by dsimp only; rw [if_neg (by omega), Int.add_sub_cancel]⟩
  refine wfr_of_measure (by rw [setAt_getElem?_ne _ _ _ _ (by omega), List.getElem?_append_left hρ]; exact hp.root) μ
    fun k v hkv hkρ => ?_
  rw [setAt_length, List.length_append, List.length_map]
  rw [setAt_getElem?] at hkv
  by_cases hk : k < p.length
  · rw [if_neg (by omega), List.getElem?_append_left hk] at hkv
    obtain ⟨_, rfl⟩ := List.getElem?_eq_some_iff.1 hkv
    have hv := hp.valid k hk hkρ
    have hD := hp.D_step' k hk hkρ
    refine ⟨hv.1, by omega, ?_⟩
    rw [hμ1 _ hv.2, hμ1 _ (Int.ofNat_lt.2 hk)]
    omega
  · obtain ⟨j, rfl⟩ : ∃ j, k = p.length + j := ⟨k - p.length, by omega⟩
    rw [List.getElem?_append_right (Nat.le_add_right _ _), Nat.add_sub_cancel_left, List.getElem?_map] at hkv
    rw [show ((p.length + j : Nat) : Int) = (j : Int) + p.length by omega, hμ2 _ (Int.natCast_nonneg j)]
    by_cases hj : j = σ
    · subst hj
      rw [if_pos (by omega), hs.root, Option.map_some, Option.map_some] at hkv
      cases hkv
      have := hp.D_le a (by omega) (by omega)
      have := Represent.D_pos s (j : Int)
      refine ⟨by omega, by omega, ?_⟩
      rw [hμ1 _ (Int.ofNat_lt.2 ha)]
      omega
    · rw [if_neg (by omega)] at hkv
      obtain ⟨x, hx, rfl⟩ := Option.map_eq_some_iff.1 hkv
      obtain ⟨hjl, rfl⟩ := List.getElem?_eq_some_iff.1 hx
      have hv := hs.valid j hjl hj
      have hD := hs.D_step' j hjl hj
      refine ⟨by omega, by omega, ?_⟩
      rw [hμ2 _ hv.1]
      omega

private def closeGap (k v : Int) : Int := if v < k then v else v - 1
private def openGap (k v : Int) : Int := if v < k then v else v + 1

private theorem openGap_inj (k : Int) : Function.Injective (openGap k) := by
  intro a b h
  unfold openGap at h
  split at h <;> split at h <;> omega

private theorem open_close (k v : Int) (h : v ≠ k) : openGap k (closeGap k v) = v := by
  unfold openGap closeGap
  by_cases h1 : v < k
  · rw [if_pos h1, if_pos h1]
  · rw [if_neg h1, if_neg (by omega)]; omega

private theorem rangeI_openGap (n k : Nat) (hk : k < n) :
    (Sub.rangeI (n - 1)).map (openGap k) = (Sub.rangeI n).eraseIdx k := by
  apply List.ext_getElem?
  intro i
  rw [getElem?_eraseIdx_ite]
  simp only [Sub.rangeI, List.getElem?_map]
  by_cases hi : i < n - 1
  · rw [List.getElem?_range hi, List.getElem?_range (by split <;> omega)]
    simp only [Option.map_some, openGap, Int.ofNat_eq_natCast]
    congr 1
    split <;> split <;> omega
  · rw [List.getElem?_eq_none (by simpa using hi), List.getElem?_eq_none (by simp; split <;> omega)]
    rfl

/-- the row of the full table that lands at position `i` once row `k` is deleted -/
private def skip (k i : Nat) : Nat := if i < k then i else i + 1

private theorem openGap_natCast (k i : Nat) : openGap k (i : Int) = (skip k i : Nat) := by
  unfold openGap skip
  split <;> split <;> omega

private theorem close_facts {k n : Nat} {w : Int} (hk : k < n) (h0 : 0 ≤ w) (hn : w < n) (hne : w ≠ k) :
    0 ≤ closeGap k w ∧ closeGap k w < (n - 1 : Nat) := by
  unfold closeGap
  split <;> omega

/-- **contracting a node into its parent keeps a tree**: row `k` (not the root, which precedes it) is deleted, its children
hang from its parent `a`, and the remaining rows keep their ids — the result is the table of a tree in C05's sense -/
theorem contract_isTreeTable {q : List Int} {ρ k : Nat} {a : Int} (hq : WFr q ρ) (hρk : ρ < k) (hk : q[k]? = some a) :
    ∃ r, C05.IsTreeTable r ((Sub.rangeI q.length).eraseIdx k)
      ((q.map fun v => if v = (k : Int) then a else v).eraseIdx k) := by
  obtain ⟨hkl, rfl⟩ := List.getElem?_eq_some_iff.1 hk
  have hak := hq.valid k hkl (by omega)
  have hDk := hq.D_step' k hkl (by omega)
  have hak' : q[k] ≠ (k : Int) := fun e => by rw [e] at hDk; omega
  -- the same table with the gap in the ids closed: ids = positions again
  generalize hP : (q.eraseIdx k).map (fun v => closeGap k (if v = (k : Int) then q[k] else v)) = P
  have hPlen : P.length = q.length - 1 := by rw [← hP, List.length_map, List.length_eraseIdx_of_lt hkl]
  have hPget : ∀ i, P[i]? = q[skip k i]?.map (fun v => closeGap k (if v = (k : Int) then q[k] else v)) := by
    intro i; rw [← hP, List.getElem?_map, getElem?_eraseIdx_ite]; rfl
  have hPopen : P.map (openGap k) = (q.map fun v => if v = (k : Int) then q[k] else v).eraseIdx k := by
    rw [← hP, eraseIdx_map, List.map_map]
    apply List.map_congr_left
    intro v _
    apply open_close
    split <;> assumption
  have hPw : WFr P ρ := by
    have hroot : P[ρ]? = some (-1) := by
      rw [hPget, show skip k ρ = ρ from if_pos hρk, hq.root]
      simp [closeGap]; omega
    -- the depth of a row in the full tree decreases along the new parent pointers
    refine wfr_of_measure hroot (fun i => Represent.D q (openGap k i)) fun i x hx hiρ => ?_
    rw [hPget] at hx
    obtain ⟨v, hv, rfl⟩ := Option.map_eq_some_iff.1 hx
    obtain ⟨hil, rfl⟩ := List.getElem?_eq_some_iff.1 hv
    have hik : skip k i ≠ k ∧ skip k i ≠ ρ := by unfold skip; split <;> omega
    have hval := hq.valid _ hil hik.2
    have hD := hq.D_step' _ hil hik.2
    rw [hPlen, openGap_natCast]
    by_cases hvk : q[skip k i] = (k : Int)
    · rw [if_pos hvk, open_close _ _ hak']
      rw [hvk] at hD
      exact ⟨(close_facts hkl hak.1 hak.2 hak').1, (close_facts hkl hak.1 hak.2 hak').2, by omega⟩
    · rw [if_neg hvk, open_close _ _ hvk]
      exact ⟨(close_facts hkl hval.1 hval.2 hvk).1, (close_facts hkl hval.1 hval.2 hvk).2, by omega⟩
  obtain ⟨r, hrep, hperm, hid⟩ := wfr_represented P ρ hPw
  have htt := Relabel.isTreeTable_map (openGap k) (openGap_inj k) (by simp [openGap]; omega) r _ _
    (isTreeTable_of r P ρ hrep hperm hid hPw.root hPw.unique)
  rw [hPlen, rangeI_openGap _ _ hkl, hPopen] at htt
  exact ⟨_, htt⟩

/-- **a tree hung from a node of another tree with its root merged into that node is a tree**: the rows of `s` other than
its root `σ` follow those of `p`, the children of `σ` hang from `a`, and the ids keep the gap of the deleted row — the table
of `graft_wfr` with row `|p| + σ` contracted -/
theorem merge_isTreeTable {p s : List Int} {ρ σ a : Nat} (hp : WFr p ρ) (hs : WFr s σ) (ha : a < p.length) :
    ∃ r, C05.IsTreeTable r ((Sub.rangeI (p.length + s.length)).eraseIdx (σ + p.length))
      ((p ++ s.map fun v => if v = (σ : Int) then (a : Int) else v + (p.length : Int)).eraseIdx (σ + p.length)) := by
  have hg := graft_wfr hp hs ha
  have hcast : (σ : Int) + (p.length : Int) = ((σ + p.length : Nat) : Int) := by omega
  rw [hcast] at hg
  have hgl : (p ++ s.map (· + (p.length : Int))).length = p.length + s.length := by
    rw [List.length_append, List.length_map]
  have hσ := hs.lt
  obtain ⟨r, htt⟩ := contract_isTreeTable hg (by have := hp.lt; omega) (setAt_getElem?_self _ _ _ (by omega))
  rw [setAt_length, hgl] at htt
  refine ⟨r, ?_⟩
  convert htt using 1
  apply eraseIdx_congr
  intro i hi
  rw [List.getElem?_map, setAt_getElem?_ne _ _ _ _ (by omega)]
  by_cases hi1 : i < p.length
  · rw [List.getElem?_append_left hi1, List.getElem?_append_left hi1, List.getElem?_eq_getElem hi1, Option.map_some, if_neg]
    have := hp.entry_lt i hi1
    omega
  · rw [List.getElem?_append_right (by omega), List.getElem?_append_right (by omega), List.getElem?_map, List.getElem?_map,
      Option.map_map]
    congr 1
    funext v
    simp only [Function.comp]
    congr 1
    exact propext ⟨fun h => by omega, fun h => by omega⟩

section cat
variable (p1 t1 x1 y1 z1 p2 t2 x2 y2 z2 : List Int) (node1 node2 : Nat) (translate : Bool)

/-- **non-coincident junction: the concatenated table is a well-formed tree rooted at node 0** -/
theorem cat_separate_wfr (h1 : t1.length = p1.length ∧ x1.length = p1.length ∧ y1.length = p1.length ∧ z1.length = p1.length)
    (h2 : t2.length = p2.length ∧ x2.length = p2.length ∧ y2.length = p2.length ∧ z2.length = p2.length)
    (hn1 : node1 < p1.length) (hn2 : node2 < p2.length) (hw1 : WF p1) (hw2 : WF p2)
    (hc : ¬ Coincident x1 y1 z1 x2 y2 z2 node1 node2 translate) :
    WFr (catPre p1 t1 x1 y1 z1 p2 t2 x2 y2 z2 (node1 : Int) (node2 : Int) translate).pids 0 := by
  rw [catPre_sep h2 hn2 hc]
  exact graft_wfr hw1.toWFr (second_wfr p2 t2 node2 hw2 hn2) hn1

/-- **the final sort succeeds on the concatenated table**, coincident junction or not, and returns a well-formed, sorted
tree with one node per row of that table -/
theorem cat_sort_ok (h1 : t1.length = p1.length ∧ x1.length = p1.length ∧ y1.length = p1.length ∧ z1.length = p1.length)
    (h2 : t2.length = p2.length ∧ x2.length = p2.length ∧ y2.length = p2.length ∧ z2.length = p2.length)
    (hn1 : node1 < p1.length) (hn2 : node2 < p2.length) (hw1 : WF p1) (hw2 : WF p2) :
    ∃ res, sortNodesImpl (catPre p1 t1 x1 y1 z1 p2 t2 x2 y2 z2 (node1 : Int) (node2 : Int) translate).ids
        (catPre p1 t1 x1 y1 z1 p2 t2 x2 y2 z2 (node1 : Int) (node2 : Int) translate).pids = .ok res ∧
      WF res.newPids ∧ (∀ k (h : k < res.newPids.length), 0 < k → res.newPids[k] < (k : Int)) ∧
      res.newPids.length = (catPre p1 t1 x1 y1 z1 p2 t2 x2 y2 z2 (node1 : Int) (node2 : Int) translate).ids.length := by
  have hsw := second_wfr p2 t2 node2 hw2 hn2
  have hsl := (second_lengths p2 t2 node2).1
  generalize hcd : catPre p1 t1 x1 y1 z1 p2 t2 x2 y2 z2 (node1 : Int) (node2 : Int) translate = c
  by_cases hc : Coincident x1 y1 z1 x2 y2 z2 node1 node2 translate
  · rw [catPre_merged h2 hn2 hc] at hcd
    subst hcd
    obtain ⟨r, htt⟩ := merge_isTreeTable (a := node1) hw1.toWFr hsw hn1
    rw [hsl] at htt
    exact sorted_wf_gen _ _ _ htt
  · rw [catPre_sep h2 hn2 hc] at hcd
    subst hcd
    obtain ⟨res, hres, hwf, hs, hl⟩ := wfr_sorted _ 0 (graft_wfr (a := node1) hw1.toWFr hsw hn1)
    rw [setAt_length, List.length_append, List.length_map, hsl] at hres hl
    exact ⟨res, hres, hwf, hs, by rw [hl]; simp⟩

section
variable {p1 t1 x1 y1 z1 p2 t2 x2 y2 z2 node1 node2 translate}

theorem catPre_ids_length (h2 : t2.length = p2.length ∧ x2.length = p2.length ∧ y2.length = p2.length ∧ z2.length = p2.length)
    (hn2 : node2 < p2.length) :
    (Coincident x1 y1 z1 x2 y2 z2 node1 node2 translate →
      (catPre p1 t1 x1 y1 z1 p2 t2 x2 y2 z2 (node1 : Int) (node2 : Int) translate).ids.length = p1.length + p2.length - 1) ∧
    (¬ Coincident x1 y1 z1 x2 y2 z2 node1 node2 translate →
      (catPre p1 t1 x1 y1 z1 p2 t2 x2 y2 z2 (node1 : Int) (node2 : Int) translate).ids.length = p1.length + p2.length) := by
  constructor <;> intro hc
  · rw [catPre_merged h2 hn2 hc, List.length_eraseIdx_of_lt (by simp; omega)]
    simp
  · rw [catPre_sep h2 hn2 hc]
    simp

/-- `cat_tree` returns a well-formed, sorted tree with as many nodes as the concatenated table has rows -/
theorem cat_sorted (h1 : t1.length = p1.length ∧ x1.length = p1.length ∧ y1.length = p1.length ∧ z1.length = p1.length)
    (h2 : t2.length = p2.length ∧ x2.length = p2.length ∧ y2.length = p2.length ∧ z2.length = p2.length)
    (hn1 : node1 < p1.length) (hn2 : node2 < p2.length) (hw1 : WF p1) (hw2 : WF p2) (n : Nat)
    (hn : (catPre p1 t1 x1 y1 z1 p2 t2 x2 y2 z2 (node1 : Int) (node2 : Int) translate).ids.length = n) :
    ∃ newPids idMap c', catTree p1 t1 x1 y1 z1 p2 t2 x2 y2 z2 (node1 : Int) (node2 : Int) translate = some (newPids, idMap, c') ∧
      WF newPids ∧ (∀ k (h : k < newPids.length), 0 < k → newPids[k] < (k : Int)) ∧ newPids.length = n := by
  obtain ⟨res, hres, hwf, hsorted, hl⟩ := cat_sort_ok p1 t1 x1 y1 z1 p2 t2 x2 y2 z2 node1 node2 translate h1 h2 hn1 hn2 hw1 hw2
  obtain ⟨c', e⟩ := catTree_of_ok p1 t1 x1 y1 z1 p2 t2 x2 y2 z2 node1 node2 translate hres
  exact ⟨_, _, c', e, hwf, hsorted, hl.trans hn⟩

end

/-- **… so `cat_tree` returns a well-formed, sorted tree with every node of both trees** (non-coincident junction) -/
theorem cat_separate_sorted (h1 : t1.length = p1.length ∧ x1.length = p1.length ∧ y1.length = p1.length ∧ z1.length = p1.length)
    (h2 : t2.length = p2.length ∧ x2.length = p2.length ∧ y2.length = p2.length ∧ z2.length = p2.length)
    (hn1 : node1 < p1.length) (hn2 : node2 < p2.length) (hw1 : WF p1) (hw2 : WF p2)
    (hc : ¬ Coincident x1 y1 z1 x2 y2 z2 node1 node2 translate) :
    ∃ newPids idMap c', catTree p1 t1 x1 y1 z1 p2 t2 x2 y2 z2 (node1 : Int) (node2 : Int) translate = some (newPids, idMap, c') ∧
      WF newPids ∧ (∀ k (h : k < newPids.length), 0 < k → newPids[k] < (k : Int)) ∧
      newPids.length = p1.length + p2.length :=
  cat_sorted h1 h2 hn1 hn2 hw1 hw2 _ ((catPre_ids_length h2 hn2).2 hc)

/-- **coincident junction: the merged table — whose ids skip the deleted junction row — is a tree table, so the
final sort succeeds and `cat_tree` returns a well-formed, sorted tree with `|tree1| + |tree2| - 1` nodes** -/
theorem cat_merged_sorted (h1 : t1.length = p1.length ∧ x1.length = p1.length ∧ y1.length = p1.length ∧ z1.length = p1.length)
    (h2 : t2.length = p2.length ∧ x2.length = p2.length ∧ y2.length = p2.length ∧ z2.length = p2.length)
    (hn1 : node1 < p1.length) (hn2 : node2 < p2.length) (hw1 : WF p1) (hw2 : WF p2)
    (hc : Coincident x1 y1 z1 x2 y2 z2 node1 node2 translate) :
    ∃ newPids idMap c', catTree p1 t1 x1 y1 z1 p2 t2 x2 y2 z2 (node1 : Int) (node2 : Int) translate = some (newPids, idMap, c') ∧
      WF newPids ∧ (∀ k (h : k < newPids.length), 0 < k → newPids[k] < (k : Int)) ∧
      newPids.length = p1.length + p2.length - 1 :=
  cat_sorted h1 h2 hn1 hn2 hw1 hw2 _ ((catPre_ids_length h2 hn2).1 hc)

end cat

end C07
