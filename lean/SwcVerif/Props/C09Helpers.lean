import SwcVerif.Props.C09Gen
import SwcVerif.Refine.Helpers
/-! # C09, the remaining object helpers, tied to the source by the translator

`Gen/AlgoHelpers.lean` is regenerated on every run from `swcgeom/core/path.py` (`Path.get_node`, `Path.__iter__`), `branch.py`
(`Branch.detach`) and `compartment.py` (`Compartment.detach`) (`harness/algo_specs/72_helpers.py`).  Conventions as in `C09Gen.lean`:
`T` is a tree / DictSWC, `⟨T, idx, nm⟩` a Path / Branch / Compartment over it; a handle is (path, position). -/
namespace C09
open Gen.Algo RefineViews RefineHelpers

/-- `path.get_node(i)` is `path.node(i)`: the handle (path, i) -/
theorem generated_get_node (P : Path) (i : Int) : path_get_node P i = some ⟨P, i, P.names⟩ ∧ path_get_node P i = path_node P i :=
  ⟨path_get_node_eq P i, by rw [path_get_node_eq, path_node_eq]⟩

/-- **iterating a path** yields exactly the handles `path[0]`, …, `path[n-1]` (same owner, same position, in order), and read through them
every column reports what the path reports: the owner's column gathered by `idx` -/
theorem generated_path_iter (T : DictSWC) (idx : List Int) (nm : SWCNames) (idc : List Int)
    (hid : Py.Dict.get? T.ndata nm.id = some idc) (hri : InRange idx idc.length) :
    path_iter ⟨T, idx, nm⟩ = some ((arangeL idx.length).map fun i => (⟨⟨T, idx, nm⟩, i, nm⟩ : PNode)) ∧
    (∀ k : Nat, k < idx.length → path_getitem_int ⟨T, idx, nm⟩ (k : Int) = some ⟨⟨T, idx, nm⟩, (k : Int), nm⟩) ∧
    ∀ key col, Py.Dict.get? T.ndata key = some col → InRange idx col.length →
      (path_iter ⟨T, idx, nm⟩).bind (fun hs => hs.mapM fun n => pnode_getitem n key) = some (gather col idx) := by
  have hg := path_get_ndata_spec T idx nm nm.id idc hid hri
  exact ⟨path_iter_eq ⟨T, idx, nm⟩ _ hg, fun k hk => path_getitem_nat ⟨T, idx, nm⟩ _ hg k hk,
    fun key col hk hr => path_iter_read ⟨T, idx, nm⟩ _ hg key _ (path_get_ndata_spec T idx nm key col hk hr)⟩

/-- **the handles are LIVE windows**: the positions produced by iterating a path BEFORE `tree[j][k] = x`, dereferenced over the owner AFTER
the store (a handle holds a reference to its path, the path to its owner: the reference structure of `harness/algo_specs/70_views.py`),
report `x` exactly at the positions that refer to row `j` and the old value elsewhere; every other column reads as before the store.
Composes `generated_path_iter` with `generated_node_write_through` / `generated_write_then_view_read`. -/
theorem generated_iter_live (T : DictSWC) (idx : List Int) (nm : SWCNames) (idc : List Int)
    (hid : Py.Dict.get? T.ndata nm.id = some idc) (hri : InRange idx idc.length)
    (k : String) (col : List Int) (j : Nat) (x : Int) (hr : InRange idx col.length) :
    ∃ hs, path_iter ⟨T, idx, nm⟩ = some hs ∧
      (hs.map fun h => ({ h with attach := ⟨written T k col j x, idx, nm⟩ } : PNode)).mapM (fun n => pnode_getitem n k) =
        some (idx.map fun i => if i.toNat = j then x else col.getD i.toNat 0) ∧
      ∀ k' gk, k' ≠ k → path_get_ndata ⟨T, idx, nm⟩ k' = some gk →
        (hs.map fun h => ({ h with attach := ⟨written T k col j x, idx, nm⟩ } : PNode)).mapM (fun n => pnode_getitem n k') = some gk := by
  refine ⟨_, (generated_path_iter T idx nm idc hid hri).1, ?_, fun k' gk hne hk => ?_⟩
  · rw [List.map_map]
    exact handles_read_all ⟨written T k col j x, idx, nm⟩ nm k _ (RefineViews.write_then_view_read T k col j x idx nm hr)
  · rw [List.map_map]
    exact handles_read_all ⟨written T k col j x, idx, nm⟩ nm k' gk (RefineViews.write_frame T k k' col j x idx nm hne ▸ hk)

/-- **iterating a tree** yields exactly the handles `tree[0]`, …, `tree[n-1]` (same owner, row k, in order), and read through them every
column (as long as the id column) reports the owner's column -/
theorem generated_tree_iter (T : DictSWC) (idc : List Int) (hid : Py.Dict.get? T.ndata T.names.id = some idc) :
    tree_iter T = some ((arangeL idc.length).map fun i => (⟨T, i, T.names⟩ : TNode)) ∧
    (∀ k : Nat, k < idc.length → tree_getitem_int T (k : Int) = some ⟨T, (k : Int), T.names⟩) ∧
    ∀ key col, Py.Dict.get? T.ndata key = some col → col.length = idc.length →
      (tree_iter T).bind (fun hs => hs.mapM fun n => tnode_getitem n key) = some col := by
  refine ⟨tree_iter_eq T idc hid, tree_getitem_nat T idc hid, fun key col hk hl => ?_⟩
  rw [tree_iter_eq T idc hid, Option.bind_some, ← hl]
  exact tree_handles_read_all T _ key col hk

/-- **the handles of a tree are LIVE windows**: the handles produced by iterating the tree BEFORE `tree[i][k] = x` (row `j`), dereferenced over the
owner AFTER the store, report the written column `col.set j x`; every other column reads as before the store -/
theorem generated_tree_iter_live (T : DictSWC) (idc : List Int) (hid : Py.Dict.get? T.ndata T.names.id = some idc)
    (k : String) (col : List Int) (j : Nat) (x : Int) (hl : col.length = idc.length) :
    ∃ hs, tree_iter T = some hs ∧
      (hs.map fun h => ({ h with attach := written T k col j x } : TNode)).mapM (fun n => tnode_getitem n k) = some (col.set j x) ∧
      ∀ k' col', k' ≠ k → Py.Dict.get? T.ndata k' = some col' → col'.length = idc.length →
        (hs.map fun h => ({ h with attach := written T k col j x } : TNode)).mapM (fun n => tnode_getitem n k') = some col' := by
  refine ⟨_, tree_iter_eq T idc hid, ?_, fun k' col' hne hk hl' => ?_⟩
  · rw [List.map_map, ← hl, ← List.length_set (as := col) (i := j) (a := x)]
    exact tree_handles_read_all (written T k col j x) _ k _ (by rw [written_get, if_pos rfl])
  · rw [List.map_map, ← hl']
    exact tree_handles_read_all (written T k col j x) _ k' col' (by rw [written_get, if_neg hne, hk])

/-- **`branch.detach()`**: a Branch with positions `0 .. n-1` over a NEW object whose id / pid are `0 .. n-1` / `-1 .. n-2` and whose every
other column is the branch's column in window order; read through the detached branch every such column equals what the branch reported.
(The new object is a value built from the gathered columns: it shares nothing with `T`; a later store into `T` cannot reach it.) -/
theorem generated_branch_detach (T : DictSWC) (idx : List Int) (nm : SWCNames) (idc : List Int)
    (hid : Py.Dict.get? T.ndata nm.id = some idc) (hri : InRange idx idc.length)
    (hall : ∀ k ∈ Py.Dict.keys T.ndata, (path_get_ndata ⟨T, idx, nm⟩ k).isSome) :
    ∃ D, branch_detach ⟨T, idx, nm⟩ = some ⟨⟨D, nm⟩, arangeL idx.length, nm⟩ ∧
      Py.Dict.get? D nm.pid = some (pidL idx.length) ∧ (nm.id ≠ nm.pid → Py.Dict.get? D nm.id = some (arangeL idx.length)) ∧
      ∀ key gk, key ≠ nm.id → key ≠ nm.pid → path_get_ndata ⟨T, idx, nm⟩ key = some gk →
        Py.Dict.get? D key = some gk ∧ path_get_ndata ⟨⟨D, nm⟩, arangeL idx.length, nm⟩ key = some gk := by
  have hg := path_get_ndata_spec T idx nm nm.id idc hid hri
  obtain ⟨D, h1, h2⟩ := branch_detach_eq ⟨T, idx, nm⟩ _ hg hall
  exact ⟨D, h1, detached_content_reads T idx nm D _ rfl h2⟩

/-- `Branch.detach` and `Path.detach` agree: same window, same id / pid, the same value under every key -/
theorem generated_branch_detach_agrees (T : DictSWC) (idx : List Int) (nm : SWCNames) (idc : List Int)
    (hid : Py.Dict.get? T.ndata nm.id = some idc) (hri : InRange idx idc.length)
    (hall : ∀ k ∈ Py.Dict.keys T.ndata, (path_get_ndata ⟨T, idx, nm⟩ k).isSome) :
    ∃ b p, branch_detach ⟨T, idx, nm⟩ = some b ∧ path_detach ⟨T, idx, nm⟩ = some p ∧ b.idx = p.idx ∧ b.names = p.names ∧
      b.attach.names = p.attach.names ∧ ∀ key, Py.Dict.get? b.attach.ndata key = Py.Dict.get? p.attach.ndata key := by
  have hg := path_get_ndata_spec T idx nm nm.id idc hid hri
  obtain ⟨D, h1, h2⟩ := branch_detach_eq ⟨T, idx, nm⟩ _ hg hall
  obtain ⟨D', h1', h2'⟩ := path_detach_eq ⟨T, idx, nm⟩ _ hg hall
  exact ⟨_, _, h1, h1', rfl, rfl, rfl, fun key => by rw [h2 key, h2' key]⟩

/-- **`compartment.detach()`** for a compartment of a tree (a window of two rows): a Compartment with positions `[0, 1]` over a NEW object
whose id / pid are `[0, 1]` / `[-1, 0]` and whose every other column is the compartment's column (parent row, child row); read through the
detached compartment every such column equals what the compartment reported -/
theorem generated_compartment_detach (T : DictSWC) (idx : List Int) (nm : SWCNames) (idc : List Int) (hlen : idx.length = 2)
    (hid : Py.Dict.get? T.ndata nm.id = some idc) (hri : InRange idx idc.length)
    (hall : ∀ k ∈ Py.Dict.keys T.ndata, (path_get_ndata ⟨T, idx, nm⟩ k).isSome) :
    ∃ D, tcomp_detach ⟨T, idx, nm⟩ = some ⟨⟨D, nm⟩, [0, 1], nm⟩ ∧
      Py.Dict.get? D nm.pid = some [-1, 0] ∧ (nm.id ≠ nm.pid → Py.Dict.get? D nm.id = some [0, 1]) ∧
      ∀ key gk, key ≠ nm.id → key ≠ nm.pid → path_get_ndata ⟨T, idx, nm⟩ key = some gk →
        Py.Dict.get? D key = some gk ∧ path_get_ndata ⟨⟨D, nm⟩, [0, 1], nm⟩ key = some gk := by
  have hg := path_get_ndata_spec T idx nm nm.id idc hid hri
  obtain ⟨D, h1, h2⟩ := tcomp_detach_eq ⟨T, idx, nm⟩ _ hg hall
  rw [show (⟨T, idx, nm⟩ : Path).idx.length = 2 from hlen] at h2
  exact ⟨D, h1, detached_content_reads T idx nm D 2 hlen.symm h2⟩

/-! ## kernel-evaluated examples on the generated definitions (non-vacuity) -/
section Examples
def hxT : DictSWC := ⟨[("id", [0, 1, 2, 3]), ("type", [1, 3, 3, 2]), ("x", [10, 11, 12, 13]), ("pid", [-1, 0, 1, 1])], ⟨"id", "pid"⟩⟩
def hxP : Path := ⟨hxT, [1, 3], ⟨"id", "pid"⟩⟩

example : (path_iter hxP).map (fun hs => hs.map (·.idx)) = some [0, 1] := by decide +kernel
example : (path_iter hxP).bind (fun hs => hs.mapM fun n => pnode_getitem n "x") = some [11, 13] := by decide +kernel
example : (path_get_node hxP (-1)).bind (fun n => pnode_getitem n "x") = some 13 := by decide +kernel
example : (branch_detach hxP).map (fun d => (d.idx, Py.Dict.get? d.attach.ndata "x", Py.Dict.get? d.attach.ndata "pid")) =
    some ([0, 1], some [11, 13], some [-1, 0]) := by decide +kernel
example : (tcomp_detach hxP).map (fun d => (d.idx, Py.Dict.get? d.attach.ndata "type", Py.Dict.get? d.attach.ndata "id")) =
    some ([0, 1], some [3, 2], some [0, 1]) := by decide +kernel
example : (tree_iter hxT).bind (fun hs => hs.mapM fun n => tnode_getitem n "x") = some [10, 11, 12, 13] := by decide +kernel
-- the hypotheses of the theorems hold for this input
example : InRange hxP.idx 4 ∧ ∀ k ∈ Py.Dict.keys hxT.ndata, (path_get_ndata hxP k).isSome := by unfold InRange; decide +kernel
end Examples

end C09
