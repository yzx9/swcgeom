import SwcVerif.Props.C17Gen
import SwcVerif.Refine.MstFront
/-! # C17, the whole `__call__` tied to the source by the translator

`Gen.Algo.mst_call` is regenerated on every run from `swcgeom/transforms/mst.py::PointsToCuntzMST.__call__`, from its first statement to
`t = Tree.from_data_frame(df, names=names)`: the soma handling (`np.concatenate([[soma], points])`), the distance matrix (the vector norm
`np.linalg.norm(·, axis=2)` is the PARAMETER `norm`: nothing is assumed about it), the greedy loop and the assembly of the SWC table
(`ids, types, xs, ys, zs, r, pid`). `RefineMstFront.mst_call_refines` proves, for every cloud of triples, every optional soma triple, every
`norm`, `bf`, `furcations`, `exclude_soma` and type codes: the generated definition returns the table with ONE ROW PER POINT of
`soma :: points` IN INPUT ORDER, that point's coordinates, ids `0 … n-1`, types `[soma, glia, glia, …]`, radius 1, and as parents the result
of the model loop `Mst.run` on `dis[i][j] = norm (p[i] - p[j])`. The C17 theorems about the model are carried over below.
`PointsToMST.__call__` is this same method (inherited) with `bf = 0`.

Not in this file: the final `if self.sort: t = sort_tree(t)` and the two `__init__` methods (both in `Props/C17Rest.lean`). Not covered
anywhere: the cast of the coordinate columns to float32 inside `Tree.__init__`. -/
namespace C17
open Mst Gen.Algo RefineMst RefineMstFront

/-- the table `(ids, types, xs, ys, zs, r, pid, points, dis, None)` over the points `all` with the parent column `pid` -/
def tableWith (all : List (List Rat)) (tg ts : Int) (pid : List Int) (dis : List (List Rat)) :
    List Int × List Int × List Rat × List Rat × List Rat × Int × List Int × List (List Rat) × List (List Rat) × Unit :=
  ((List.range all.length).map (fun (i : Nat) => (i : Int)), (List.replicate all.length tg).set 0 ts,
   all.map (fun r => r.getD 0 0), all.map (fun r => r.getD 1 0), all.map (fun r => r.getD 2 0), 1, pid, all, dis, ())

/-- **the generated `__call__` equals the model**: the table over `soma :: points` whose parents are those of the model loop on
`dis[i][j] = norm (p[i] - p[j])` (restatement of `RefineMstFront.mst_call_refines`) -/
theorem generated_call_eq_model (norm : List Rat → Rat) (pts : List (List Rat)) (soma : Option (List Rat))
    (hp : Rows3 pts) (hs : ∀ s, soma = some s → s.length = 3) (hn : 0 < (allPts soma pts).length)
    (bf : Rat) (k : Int) (ex : Bool) (tg ts : Int) :
    mst_call (K := Rat) norm pts soma bf k ex tg ts =
      some (tableWith (allPts soma pts) tg ts
        (run (disOf norm (allPts soma pts)) bf (limitOf k) ex (allPts soma pts).length ((allPts soma pts).length - 1)
          (init (allPts soma pts).length)).pid
        (disOf norm (allPts soma pts))) :=
  mst_call_refines norm pts soma hp hs hn bf k ex tg ts

/-- **one row per input point, in input order, with that point's coordinates; the first row (the soma / the first point) carries the soma
type, every other row the glia type** — for every table the generated `__call__` returns -/
theorem table_rows (all : List (List Rat)) (h3 : Rows3 all) (tg ts : Int) (pid : List Int) (dis : List (List Rat)) :
    let t := tableWith all tg ts pid dis
    t.1.length = all.length ∧ t.2.1.length = all.length ∧ t.2.2.1.length = all.length ∧ t.2.2.2.1.length = all.length ∧
    t.2.2.2.2.1.length = all.length ∧ t.2.2.2.2.2.1 = 1 ∧
    ∀ i, i < all.length →
      t.1.getD i 0 = (i : Int) ∧ t.2.1.getD i 0 = (if i = 0 then ts else tg) ∧
      [t.2.2.1.getD i 0, t.2.2.2.1.getD i 0, t.2.2.2.2.1.getD i 0] = all.getD i [] := by
  intro t
  refine ⟨(List.length_map _).trans List.length_range, List.length_set.trans List.length_replicate, List.length_map _,
    List.length_map _, List.length_map _, rfl, fun i hi => ⟨Py.getD_range_map _ 0 hi, ?_, ?_⟩⟩
  · exact (getD_set_of_lt _ 0 i ts 0 (List.length_replicate ▸ Nat.zero_lt_of_lt hi)).trans
      (congrArg _ (getD_replicate _ i tg 0 hi))
  · show [(all.map _).getD i 0, (all.map _).getD i 0, (all.map _).getD i 0] = _
    rw [Py.getD_map _ all [] 0 hi, Py.getD_map _ all [] 0 hi, Py.getD_map _ all [] 0 hi]
    match all.getD i [], h3 _ (getD_mem all i [] hi) with
    | [a, b, c], _ => rfl

/-- entry `[a][b]` of the matrix the code computes is the norm of the difference of the two points -/
theorem dist_disOf (norm : List Rat → Rat) (all : List (List Rat)) (a b : Nat) (ha : a < all.length) (hb : b < all.length) :
    dist (disOf norm all) a b = norm (List.zipWith (fun x y => x - y) (all.getD a []) (all.getD b [])) := by
  simp [dist, disOf, List.getD_eq_getElem?_getD, ha, hb]

/-- **a single tree containing every input point exactly once (plus the given soma), rooted at the soma or first point** — for the
generated `__call__`: it returns (never raises) the table over `soma :: points` (one row per point, `table_rows`); row 0 has no parent,
every other row has exactly one parent among the rows, and following parents from any row reaches row 0 -/
theorem generated_call_spanning (norm : List Rat → Rat) (pts : List (List Rat)) (soma : Option (List Rat))
    (hp : Rows3 pts) (hs : ∀ s, soma = some s → s.length = 3) (hn : 0 < (allPts soma pts).length)
    (bf : Rat) (k : Int) (ex : Bool) (tg ts : Int) (hk : k = -1 ∨ 1 ≤ k) :
    ∃ s, mst_call (K := Rat) norm pts soma bf k ex tg ts =
        some (tableWith (allPts soma pts) tg ts s.pid (disOf norm (allPts soma pts))) ∧
      Inv (disOf norm (allPts soma pts)) (allPts soma pts).length (limitOf k) ex s ∧
      (∀ j, j < (allPts soma pts).length → Conn s j) ∧
      s.pid.getD 0 0 = -1 ∧
      (∀ j, j < (allPts soma pts).length → j ≠ 0 → ∃ i, i < (allPts soma pts).length ∧ s.pid.getD j 0 = (i : Int)) ∧
      (∀ j, j < (allPts soma pts).length → ∃ d, d ≤ (allPts soma pts).length ∧ up s d j = 0) :=
  ⟨_, generated_call_eq_model norm pts soma hp hs hn bf k ex tg ts,
    spanning (disOf norm (allPts soma pts)) bf _ hn (limitOf k) ex (limitOf_pos k hk)⟩

/-- **with a branching limit `k ≥ 1` no row other than the (optionally exempt) root gets more than `k` children** — for the generated
`__call__` -/
theorem generated_call_branching_limit (norm : List Rat → Rat) (pts : List (List Rat)) (soma : Option (List Rat))
    (hp : Rows3 pts) (hs : ∀ s, soma = some s → s.length = 3) (hn : 0 < (allPts soma pts).length)
    (bf : Rat) (k : Nat) (hk : 1 ≤ k) (ex : Bool) (tg ts : Int) (i : Nat) (hi : i < (allPts soma pts).length) (hex : ex = false ∨ i ≠ 0) :
    ∃ s, mst_call (K := Rat) norm pts soma bf (k : Int) ex tg ts =
        some (tableWith (allPts soma pts) tg ts s.pid (disOf norm (allPts soma pts))) ∧ children s i ≤ k := by
  refine ⟨_, generated_call_eq_model norm pts soma hp hs hn bf k ex tg ts, ?_⟩
  rw [limitOf_natCast]
  exact branching_limit _ bf _ hn k hk ex i hi hex

/-- **without a balancing factor and without a branching limit (`PointsToMST(furcations=-1)`) the tree is a minimum spanning tree of the
points** — for the generated `__call__`, for every norm that is symmetric on differences and non-negative: the total length of the edges
`(pid[j], j)` of the returned table is at most the total length of any edge list that connects all the points -/
theorem generated_call_prim_minimal (norm : List Rat → Rat) (pts : List (List Rat)) (soma : Option (List Rat))
    (hp : Rows3 pts) (hs : ∀ s, soma = some s → s.length = 3) (hn : 0 < (allPts soma pts).length) (ex : Bool) (tg ts : Int)
    (hsym : ∀ u v, norm (List.zipWith (fun x y => x - y) u v) = norm (List.zipWith (fun x y => x - y) v u))
    (hnn : ∀ v, 0 ≤ norm v)
    (E : List (Nat × Nat)) (hE : Spans (allPts soma pts).length E) :
    ∃ s, mst_call (K := Rat) norm pts soma 0 (-1) ex tg ts =
        some (tableWith (allPts soma pts) tg ts s.pid (disOf norm (allPts soma pts))) ∧
      treeLength (disOf norm (allPts soma pts)) (allPts soma pts).length s ≤ wL (disOf norm (allPts soma pts)) E :=
  ⟨_, generated_call_eq_model norm pts soma hp hs hn 0 (-1) ex tg ts,
    prim_minimal _ _ hn ex
      (by intro a b ha hb; rw [dist_disOf norm _ a b ha hb, dist_disOf norm _ b a hb ha]; exact hsym _ _)
      (by intro a b ha hb; rw [dist_disOf norm _ a b ha hb]; exact hnn _) E hE⟩

/-- **the tree the generated `__call__` returns is itself a spanning edge list of exactly that length** (with `generated_call_prim_minimal`: its
length EQUALS the minimum) -/
theorem generated_call_prim_attains (norm : List Rat → Rat) (pts : List (List Rat)) (soma : Option (List Rat))
    (hp : Rows3 pts) (hs : ∀ s, soma = some s → s.length = 3) (hn : 0 < (allPts soma pts).length)
    (bf : Rat) (k : Int) (ex : Bool) (tg ts : Int) (hk : k = -1 ∨ 1 ≤ k) :
    ∃ s, mst_call (K := Rat) norm pts soma bf k ex tg ts =
        some (tableWith (allPts soma pts) tg ts s.pid (disOf norm (allPts soma pts))) ∧
      Spans (allPts soma pts).length (edgesOf (allPts soma pts).length s) ∧
      wL (disOf norm (allPts soma pts)) (edgesOf (allPts soma pts).length s) =
        treeLength (disOf norm (allPts soma pts)) (allPts soma pts).length s ∧
      (edgesOf (allPts soma pts).length s).length = (allPts soma pts).length - 1 :=
  ⟨_, generated_call_eq_model norm pts soma hp hs hn bf k ex tg ts,
    prim_attains (disOf norm (allPts soma pts)) bf _ hn (limitOf k) ex (limitOf_pos k hk)⟩

/-- **the generated `__call__` raises on an empty cloud without soma** (as the source does: `conn[0] = True` on an empty array) -/
theorem generated_call_raises_empty (norm : List Rat → Rat) (bf : Rat) (k : Int) (ex : Bool) (tg ts : Int) :
    mst_call (K := Rat) norm [] none bf k ex tg ts = none := by
  have hp : Py.pairwiseNorm norm 3 ([] : List (List Rat)) = some [] := rfl
  have hf : ∀ {α : Type} (c : α), Py.full (0 : Int) c = some [] := fun _ => rfl
  have hs : Py.setIdx ([] : List Bool) (0 : Int) true = none := rfl
  simp -implicitDefEqProofs only [mst_call, mst_call.body, Py.seq_eq_bindS, Py.bindS_next, Py.bind_some, Py.skip_apply, Option.isSome,
    Bool.false_eq_true, if_false, Py.len_eq, List.length_nil, Nat.cast_zero, hp, hf, hs, Py.bind_none, Py.bindS_err, Py.finish,
    Option.map]

/-- **a soma that is not a triple raises** (`assert soma.shape == (3,)`) -/
theorem generated_call_raises_bad_soma (norm : List Rat → Rat) (pts : List (List Rat)) (s : List Rat) (h : s.length ≠ 3)
    (bf : Rat) (k : Int) (ex : Bool) (tg ts : Int) :
    mst_call (K := Rat) norm pts (some s) bf k ex tg ts = none := by
  have : ¬ ((s.length : Int) = 3) := by omega
  simp [mst_call, mst_call.body, Py.seq, Py.bind, Py.skip, this, Py.finish]

-- non-vacuity (kernel-evaluated): soma (0,0,0) + the cloud (10,0,0), (11,0,0), (1,0,0); as `norm` the squared length (ANY function is allowed)
def exNorm (v : List Rat) : Rat := (v.map (fun x => x * x)).sum
example : Rows3 [[10, 0, 0], [11, 0, 0], [1, 0, 0]] := by simp [Rows3]
example : (mst_call (K := Rat) exNorm [[10, 0, 0], [11, 0, 0], [1, 0, 0]] (some [0, 0, 0]) 0 (-1) true 7 1).map
    (fun r => (r.1, r.2.1, r.2.2.1, r.2.2.2.2.2.2.1)) = some ([0, 1, 2, 3], [1, 7, 7, 7], [0, 10, 11, 1], [-1, 3, 1, 0]) := by decide +kernel
example : (mst_call (K := Rat) exNorm [[10, 0, 0], [11, 0, 0], [1, 0, 0]] (some [0, 0, 0]) 0 (-1) true 7 1).map
    (fun r => (r.2.2.2.2.2.1, r.2.2.2.2.2.2.2.1)) = some (1, [[0, 0, 0], [10, 0, 0], [11, 0, 0], [1, 0, 0]]) := by decide +kernel
example : (mst_call (K := Rat) exNorm [[0, 0, 0], [10, 0, 0], [11, 0, 0], [1, 0, 0]] none 0 (-1) true 7 1).map
    (fun r => (r.1, r.2.1, r.2.2.1, r.2.2.2.2.2.2.1)) = some ([0, 1, 2, 3], [1, 7, 7, 7], [0, 10, 11, 1], [-1, 3, 1, 0]) := by decide +kernel
example : (mst_call (K := Rat) exNorm [[10, 0, 0]] (some [0, 0]) 0 (-1) true 7 1).isNone = true := by decide +kernel

end C17
