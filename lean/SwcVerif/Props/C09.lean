import SwcVerif.Model.Views
import SwcVerif.Refine.PyRun
/-! # C09 — node, path, branch and segment views are faithful windows onto their tree

Theorems about the heap model `Model/Views.lean` (tied to the code by the `c09.history` correspondence on
random operation histories and by `np.shares_memory` observations). -/
namespace C09
open Views

/-- the column table of an object whose columns were allocated consecutively from array id `n` -/
def objCols (n : Nat) (cols : List (Col × List Int)) : List (Col × ArrId) :=
  (cols.zipIdx n).map fun p => (p.1.1, p.2)

theorem newObject_fold (cols : List (Col × List Int)) (h : Heap) (acc : List (Col × ArrId)) :
    cols.foldl (fun (acc : Heap × List (Col × ArrId)) cd =>
      let a := acc.1.alloc cd.2
      (a.1, acc.2 ++ [(cd.1, a.2)])) (h, acc) =
    ({ h with arrs := h.arrs ++ cols.map (·.2) }, acc ++ objCols h.arrs.length cols) := by
  induction cols generalizing h acc with
  | nil => simp [objCols]
  | cons cd cols ih =>
    rw [List.foldl_cons, ih]
    simp [Heap.alloc, objCols, List.zipIdx_cons]

theorem newObject_eq (h : Heap) (cols : List (Col × List Int)) :
    newObject h cols =
      (⟨h.arrs ++ cols.map (·.2), h.objs ++ [⟨objCols h.arrs.length cols⟩], h.views⟩, h.objs.length) := by
  simp [newObject, newObject_fold]

theorem objCols_length (n : Nat) (cols : List (Col × List Int)) : (objCols n cols).length = cols.length := by
  simp [objCols]

theorem objCols_getElem (n : Nat) (cols : List (Col × List Int)) (k : Nat) (hk : k < (objCols n cols).length) :
    (objCols n cols)[k] = ((cols[k]'(by simpa [objCols] using hk)).1, n + k) := by
  simp [objCols]

theorem objCols_names (n : Nat) (cols : List (Col × List Int)) :
    (objCols n cols).map (·.1) = cols.map (·.1) := by
  apply List.ext_getElem <;> simp [objCols]

theorem objCols_mem (n : Nat) (cols : List (Col × List Int)) (ca : Col × ArrId) (hm : ca ∈ objCols n cols) :
    ∃ k, ∃ (hk : k < cols.length), ca = (cols[k].1, n + k) := by
  obtain ⟨k, hk, rfl⟩ := List.mem_iff_getElem.mp hm
  exact ⟨k, by simpa [objCols] using hk, objCols_getElem n cols k hk⟩

/-- every column of every object names an allocated array, and no array is named twice (by two objects or by
two columns): distinct owners have disjoint storage -/
def WFHeap (h : Heap) : Prop :=
  (∀ o (ho : o < h.objs.length), ∀ ca ∈ (h.objs[o]).cols, ca.2 < h.arrs.length) ∧
  (∀ o1 o2 (h1 : o1 < h.objs.length) (h2 : o2 < h.objs.length), ∀ ca1 ∈ (h.objs[o1]).cols, ∀ ca2 ∈ (h.objs[o2]).cols,
      ca1.2 = ca2.2 → o1 = o2 ∧ ca1.1 = ca2.1) ∧
  (∀ o (ho : o < h.objs.length), ((h.objs[o]).cols.map (·.1)).Nodup)

/-- `WFHeap` phrased with `getElem?` (easier to transport along `++`) -/
def WFHeap' (arrsLen : Nat) (objs : List Obj) : Prop :=
  (∀ (o : Nat) (ob : Obj), objs[o]? = some ob → ∀ ca ∈ ob.cols, ca.2 < arrsLen) ∧
  (∀ (o1 o2 : Nat) (ob1 ob2 : Obj), objs[o1]? = some ob1 → objs[o2]? = some ob2 → ∀ ca1 ∈ ob1.cols, ∀ ca2 ∈ ob2.cols,
      ca1.2 = ca2.2 → o1 = o2 ∧ ca1.1 = ca2.1) ∧
  (∀ (o : Nat) (ob : Obj), objs[o]? = some ob → (ob.cols.map (·.1)).Nodup)

theorem wf_iff (h : Heap) : WFHeap h ↔ WFHeap' h.arrs.length h.objs := by
  simp only [WFHeap, WFHeap', List.getElem?_eq_some_iff, forall_exists_index]
  exact and_congr ⟨fun w o _ ho e => e ▸ w o ho, fun w o ho => w o _ ho rfl⟩ (and_congr
    ⟨fun w o1 o2 _ _ h1 e1 h2 e2 => e1 ▸ e2 ▸ w o1 o2 h1 h2, fun w o1 o2 h1 h2 => w o1 o2 _ _ h1 rfl h2 rfl⟩
    ⟨fun w o _ ho e => e ▸ w o ho, fun w o ho => w o _ ho rfl⟩)

theorem getElem?_snoc {α} (l : List α) (x : α) (o : Nat) (y : α) (hy : (l ++ [x])[o]? = some y) :
    l[o]? = some y ∨ (o = l.length ∧ y = x) := by
  rw [List.getElem?_append] at hy
  split at hy
  · exact .inl hy
  · rw [List.getElem?_singleton] at hy
    split at hy
    · exact .inr ⟨by omega, (Option.some.inj hy).symm⟩
    · cases hy

theorem wf'_snoc (n m : Nat) (objs : List Obj) (ob : Obj) (hw : WFHeap' n objs) (hnm : n ≤ m)
    (hr : ∀ ca ∈ ob.cols, n ≤ ca.2 ∧ ca.2 < m) (hi : ∀ ca1 ∈ ob.cols, ∀ ca2 ∈ ob.cols, ca1.2 = ca2.2 → ca1.1 = ca2.1)
    (hn : (ob.cols.map (·.1)).Nodup) : WFHeap' m (objs ++ [ob]) := by
  obtain ⟨w1, w2, w3⟩ := hw
  refine ⟨fun o ob' ho ca hca => ?_, fun o1 o2 ob1 ob2 ho1 ho2 ca1 hca1 ca2 hca2 e => ?_, fun o ob' ho => ?_⟩
  · rcases getElem?_snoc _ _ _ _ ho with ho | ⟨-, rfl⟩
    · exact Nat.lt_of_lt_of_le (w1 o ob' ho ca hca) hnm
    · exact (hr ca hca).2
  · rcases getElem?_snoc _ _ _ _ ho1 with g1 | ⟨rfl, rfl⟩ <;> rcases getElem?_snoc _ _ _ _ ho2 with g2 | ⟨rfl, rfl⟩
    · exact w2 o1 o2 ob1 ob2 g1 g2 ca1 hca1 ca2 hca2 e
    · exact absurd (e ▸ w1 o1 ob1 g1 ca1 hca1) (Nat.not_lt.2 (hr ca2 hca2).1)
    · exact absurd (e ▸ (hr ca1 hca1).1) (Nat.not_le.2 (w1 o2 ob2 g2 ca2 hca2))
    · exact ⟨rfl, hi ca1 hca1 ca2 hca2 e⟩
  · rcases getElem?_snoc _ _ _ _ ho with ho | ⟨-, rfl⟩
    · exact w3 o ob' ho
    · exact hn

theorem newObject_wf (h : Heap) (cols : List (Col × List Int)) (hw : WFHeap h) (hn : (cols.map (·.1)).Nodup) :
    WFHeap (newObject h cols).1 := by
  rw [wf_iff] at hw ⊢
  rw [newObject_eq, List.length_append, List.length_map]
  refine wf'_snoc _ _ _ ⟨objCols h.arrs.length cols⟩ hw (Nat.le_add_right _ _) (fun ca hca => ?_) (fun ca1 h1 ca2 h2 e => ?_)
    (by rw [objCols_names]; exact hn)
  · obtain ⟨k, hk, rfl⟩ := objCols_mem _ _ _ hca
    exact ⟨Nat.le_add_right _ _, Nat.add_lt_add_left hk _⟩
  · obtain ⟨k1, _, rfl⟩ := objCols_mem _ _ _ h1
    obtain ⟨k2, _, rfl⟩ := objCols_mem _ _ _ h2
    cases Nat.add_left_cancel e
    rfl

theorem setArr_arr_self (h : Heap) (a k : Nat) (v : Int) (ha : a < h.arrs.length) :
    (setArr h a k v).arr a = (h.arr a).set k v := by
  simp [setArr, Heap.arr, List.getD, ha]

theorem setArr_arr_ne (h : Heap) (a a' k : Nat) (v : Int) (hne : a' ≠ a) :
    (setArr h a k v).arr a' = h.arr a' := by
  simp [setArr, Heap.arr, List.getD, Ne.symm hne]

/-- `colArr` returns a pair that is in the object's column list -/
theorem colArr_mem (h : Heap) (o : Nat) (c : Col) (a : ArrId) (ha : h.colArr o c = some a) :
    ∃ (ho : o < h.objs.length), (c, a) ∈ (h.objs[o]).cols := by
  obtain ⟨ob, hob, hc⟩ := Option.bind_eq_some_iff.1 ha
  obtain ⟨p, hp, rfl⟩ := Option.map_eq_some_iff.1 hc
  obtain ⟨ho, rfl⟩ := List.getElem?_eq_some_iff.1 hob
  have e := List.find?_some hp
  exact ⟨ho, eq_of_beq e ▸ List.mem_of_find?_eq_some hp⟩

theorem colArr_lt (h : Heap) (hw : WFHeap h) (o : Nat) (c : Col) (a : ArrId) (ha : h.colArr o c = some a) :
    a < h.arrs.length := by
  obtain ⟨ho, hm⟩ := colArr_mem h o c a ha
  exact hw.1 o ho _ hm

theorem getIdx_nat (k n : Nat) (hk : k < n) : Pop.getIdx (k : Int) n = some k := by
  unfold Pop.getIdx
  rw [if_neg (by simp; omega), if_neg (by omega)]; simp

theorem wf_congr (h h' : Heap) (ha : h'.arrs.length = h.arrs.length) (ho : h'.objs = h.objs) (hw : WFHeap h) :
    WFHeap h' := by
  rw [wf_iff] at hw ⊢
  rw [ha, ho]; exact hw

theorem setArr_wf (h : Heap) (a k : Nat) (v : Int) (hw : WFHeap h) : WFHeap (setArr h a k v) :=
  wf_congr h _ (by simp [setArr]) rfl hw

theorem wf_names (h : Heap) (hw : WFHeap h) (o : Nat) (ob : Obj) (ho : h.objs[o]? = some ob) :
    (ob.cols.map (·.1)).Nodup := ((wf_iff h).mp hw).2.2 o ob ho

/-- the `id` / `pid` renumbering of `detach` keeps the column names -/
theorem detach_names (h : Heap) (idx : List Int) (n : Nat) (obcols : List (Col × ArrId)) (cols : List (Col × List Int))
    (hm : obcols.mapM (fun ca => (fancy (h.arr ca.2) idx).map fun d => (ca.1, d)) = some cols) :
    (cols.map fun cd =>
      if cd.1 == "id" then (cd.1, (List.range n).map Int.ofNat)
      else if cd.1 == "pid" then (cd.1, (List.range n).map fun (k : Nat) => (k : Int) - 1)
      else cd).map (·.1) = obcols.map (·.1) := by
  rw [List.map_map, ← Py.map_of_mapM_eq_some _ (·.1) (·.1) (fun ca b hb => by
    obtain ⟨d, -, rfl⟩ := Option.map_eq_some_iff.1 hb; rfl) _ _ hm]
  refine List.map_congr_left fun cd _ => ?_
  simp only [Function.comp]
  split
  · rfl
  · split <;> rfl

theorem find?_of_nodup (l : List (Col × ArrId)) (hn : (l.map (·.1)).Nodup) (c : Col) (a : ArrId) (hm : (c, a) ∈ l) :
    l.find? (·.1 == c) = some (c, a) := by
  induction l with
  | nil => cases hm
  | cons p l ih =>
    simp only [List.map_cons, List.nodup_cons] at hn
    rcases List.mem_cons.mp hm with rfl | hm'
    · simp
    · have hne : p.1 ≠ c := fun e => hn.1 (e ▸ List.mem_map_of_mem hm')
      rw [List.find?_cons_of_neg (by simpa using hne)]
      exact ih hn.2 hm'

theorem newObject_col (h : Heap) (cols : List (Col × List Int)) (hn : (cols.map (·.1)).Nodup) (c : Col) (d : List Int)
    (hm : (c, d) ∈ cols) :
    ∃ a', (newObject h cols).1.colArr h.objs.length c = some a' ∧ h.arrs.length ≤ a' ∧ (newObject h cols).1.arr a' = d := by
  obtain ⟨k, hk, hke⟩ := List.mem_iff_getElem.mp hm
  have hk' : k < (objCols h.arrs.length cols).length := by rw [objCols_length]; exact hk
  refine ⟨h.arrs.length + k, ?_, Nat.le_add_right _ _, ?_⟩ <;> rw [newObject_eq]
  · simp only [Heap.colArr, List.getElem?_append_right (Nat.le_refl _), Nat.sub_self, List.getElem?_cons_zero,
      Option.bind_some, Obj.col?]
    rw [find?_of_nodup _ (by rw [objCols_names]; exact hn) c (h.arrs.length + k)]
    · rfl
    · rw [show (c, h.arrs.length + k) = (objCols h.arrs.length cols)[k] by rw [objCols_getElem _ _ k hk', hke]]
      exact List.getElem_mem _
  · simp [Heap.arr, List.getD, hk, hke]

theorem newObject_arr_old (h : Heap) (cols : List (Col × List Int)) (a : Nat) (ha : a < h.arrs.length) :
    (newObject h cols).1.arr a = h.arr a := by
  rw [newObject_eq]
  simp [Heap.arr, List.getD, List.getElem?_append_left ha]

theorem colArr_of_mem (h : Heap) (hw : WFHeap h) (o : Nat) (ob : Obj) (hob : h.objs[o]? = some ob)
    (c : Col) (a : ArrId) (hm : (c, a) ∈ ob.cols) : h.colArr o c = some a := by
  simp only [Heap.colArr, hob, Option.bind_some, Obj.col?]
  rw [find?_of_nodup _ (wf_names h hw o ob hob) c a hm]; rfl

/-- a freshly built tree is well formed (distinct column names) -/
theorem mkTree_wf (cols : List (Col × List Int)) (hn : (cols.map (·.1)).Nodup) : WFHeap (mkTree cols) :=
  newObject_wf _ _ ⟨fun o ho => absurd ho (Nat.not_lt_zero o), fun o _ h1 => absurd h1 (Nat.not_lt_zero o),
    fun o ho => absurd ho (Nat.not_lt_zero o)⟩ hn

/-- reading never changes the heap -/
theorem reads_pure (h : Heap) (op : Op)
    (hr : (∃ o c, op = .readCol o c) ∨ (∃ o i c, op = .nodeRead o i c) ∨ (∃ v c, op = .viewRead v c) ∨
          (∃ v k c, op = .viewNodeRead v k c) ∨ (∃ o, op = .segments o) ∨ (∃ v, op = .viewSegments v)) :
    (step h op).1 = h := by
  rcases hr with ⟨o, c, rfl⟩ | ⟨o, i, c, rfl⟩ | ⟨v, c, rfl⟩ | ⟨v, k, c, rfl⟩ | ⟨o, rfl⟩ | ⟨v, rfl⟩ <;>
    simp only [step] <;> (repeat' split) <;> rfl

theorem write_ind (h : Heap) (o : Nat) (c : Col) (v : Int) (P : Heap → Prop) (h0 : P h)
    (h1 : ∀ a k, h.colArr o c = some a → P (setArr h a k v)) (i : Int) (k : Nat) :
    P (step h (.nodeWrite o i c v)).1 ∧ P (step h (.ownerWrite o k c v)).1 := by
  constructor <;> simp only [step] <;> split
  · split
    · exact h1 _ _ ‹_›
    · exact h0
  · exact h0
  · split
    · exact h1 _ _ ‹_›
    · exact h0
  · exact h0

/-- **the invariant holds after every operation of every history** -/
theorem step_wf (h : Heap) (op : Op) (hw : WFHeap h) : WFHeap (step h op).1 := by
  cases op with
  | nodeWrite o i c v => exact (write_ind h o c v WFHeap hw (fun a k _ => setArr_wf h a k v hw) i 0).1
  | ownerWrite o k c v => exact (write_ind h o c v WFHeap hw (fun a k _ => setArr_wf h a k v hw) 0 k).2
  | mkView o idx => exact wf_congr h _ rfl rfl hw
  | copy o =>
    simp only [step]
    split
    · rename_i ob hob
      apply newObject_wf _ _ hw
      rw [List.map_map]
      exact wf_names h hw o ob hob
    · exact hw
  | detach v =>
    simp only [step]
    split
    · rename_i vw hvw
      split
      · rename_i ob hob
        split
        · rename_i cols hcols
          apply newObject_wf _ _ hw
          rw [detach_names h vw.idx vw.idx.length ob.cols cols hcols]
          exact wf_names h hw _ ob hob
        · exact hw
      · exact hw
    · exact hw
  | _ => rw [reads_pure h _ (by simp)]; exact hw

theorem run_fst (h : Heap) (ops : List Op) : (run h ops).1 = ops.foldl (fun h op => (step h op).1) h :=
  (List.foldl_hom Prod.fst fun _ _ => rfl).symm

theorem run_wf (h : Heap) (ops : List Op) (hw : WFHeap h) : WFHeap (run h ops).1 := by
  rw [run_fst]
  induction ops generalizing h with
  | nil => exact hw
  | cons op ops ih => exact ih _ (step_wf h op hw)

/-- **index normalisation** of node handles: `0 ≤ i < n` is itself, `-n ≤ i < 0` counts from the end, anything
else is an IndexError -/
theorem at_spec (l : List Int) (i : Int) :
    (0 ≤ i → i < l.length → at? l i = some (l.getD i.toNat 0)) ∧
    (-(l.length : Int) ≤ i → i < 0 → at? l i = some (l.getD (i + l.length).toNat 0)) ∧
    (i < -(l.length : Int) ∨ (l.length : Int) ≤ i → at? l i = none) := by
  unfold at? Pop.getIdx
  refine ⟨?_, ?_, ?_⟩
  · intro h1 h2
    rw [if_neg (by simp; omega), if_neg (by omega)]; rfl
  · intro h1 h2
    rw [if_neg (by simp; omega), if_pos (by omega)]; rfl
  · intro h
    rw [if_pos (by simp; omega)]; rfl

/-- **a view reports exactly the attributes of the nodes it refers to, in order, at the CURRENT state of the
owner** (so it tracks every later write): reading column `c` through view `v` is the owner's array of `c`,
as it is now, read at the view's indices -/
theorem view_reads_owner (h : Heap) (v : Nat) (vw : View) (c : Col) (a : ArrId)
    (hv : h.views[v]? = some vw) (ha : h.colArr vw.owner c = some a) :
    (step h (.viewRead v c)).2 = (match fancy (h.arr a) vw.idx with | some l => .vals l | none => .err) ∧
    (step h (.viewRead v c)).1 = h := by
  simp only [step, hv, viewCol, ha, Option.bind_some]
  cases fancy (h.arr a) vw.idx <;> simp

/-- **assigning through a node handle of a tree is visible in the owner**: exactly the addressed cell of the
owner's array changes; every other array — in particular every array of every other object — is untouched -/
theorem node_write_through (h : Heap) (hw : WFHeap h) (o : Nat) (i : Int) (c : Col) (v : Int) (a : ArrId) (k : Nat)
    (ha : h.colArr o c = some a) (hk : Pop.getIdx i (h.arr a).length = some k) :
    let h' := (step h (.nodeWrite o i c v)).1
    h'.arr a = (h.arr a).set k v ∧ (∀ a', a' ≠ a → h'.arr a' = h.arr a') ∧ h'.objs = h.objs ∧ h'.views = h.views := by
  simp only [step, ha, hk]
  exact ⟨setArr_arr_self h a k v (colArr_lt h hw o c a ha), fun a' hne => setArr_arr_ne h a a' k v hne, rfl, rfl⟩

/-- … and therefore every view of that owner sees the new value at once -/
theorem write_then_view_read (h : Heap) (hw : WFHeap h) (o : Nat) (k : Nat) (c : Col) (x : Int) (a : ArrId)
    (ha : h.colArr o c = some a) (hk : k < (h.arr a).length) (v : Nat) (vw : View) (hv : h.views[v]? = some vw) (ho : vw.owner = o) :
    let h' := (step h (.nodeWrite o (k : Int) c x)).1
    (step h' (.viewRead v c)).2 = (match fancy ((h.arr a).set k x) vw.idx with | some l => .vals l | none => .err) := by
  intro h'
  obtain ⟨h1, -, h3, h4⟩ : h'.arr a = _ ∧ _ ∧ h'.objs = _ ∧ h'.views = _ := node_write_through h hw o k c x a k ha (getIdx_nat _ _ hk)
  rw [(view_reads_owner h' v vw c a (h4 ▸ hv) (by rw [ho, Heap.colArr, h3]; exact ha)).1, h1]

/-- **a tree copy has equal content and its own storage** -/
theorem copy_fresh (h : Heap) (hw : WFHeap h) (o : Nat) (ho : o < h.objs.length) :
    let r := step h (.copy o)
    r.2 = .newObj h.objs.length ∧ r.1.objs.length = h.objs.length + 1 ∧
    (∀ a, a < h.arrs.length → r.1.arr a = h.arr a) ∧
    (∀ c a, h.colArr o c = some a → ∃ a', r.1.colArr h.objs.length c = some a' ∧ h.arrs.length ≤ a' ∧ r.1.arr a' = h.arr a) := by
  have hob : h.objs[o]? = some h.objs[o] := List.getElem?_eq_getElem ho
  simp only [step, hob]
  have hn : ((h.objs[o].cols.map fun ca => (ca.1, h.arr ca.2)).map (·.1)).Nodup := by
    rw [List.map_map]; exact wf_names h hw o _ hob
  refine ⟨by rw [newObject_eq], by simp [newObject_eq], fun a ha => newObject_arr_old h _ a ha, fun c a hca => ?_⟩
  exact newObject_col h _ hn c (h.arr a) (List.mem_map.2 ⟨(c, a), (colArr_mem h o c a hca).2, rfl⟩)

/-- **a detached path / branch / compartment has the viewed content and its own storage** (ids renumbered
`0..m-1`, parents `-1..m-2`) -/
theorem detach_fresh (h : Heap) (hw : WFHeap h) (v : Nat) (vw : View) (hv : h.views[v]? = some vw) (ho : vw.owner < h.objs.length)
    (hidx : ∀ c a, h.colArr vw.owner c = some a → (fancy (h.arr a) vw.idx).isSome) :
    let r := step h (.detach v)
    r.2 = .newObj h.objs.length ∧
    (∀ a, a < h.arrs.length → r.1.arr a = h.arr a) ∧
    (∀ c a, h.colArr vw.owner c = some a → c ≠ "id" → c ≠ "pid" →
        ∃ a', r.1.colArr h.objs.length c = some a' ∧ h.arrs.length ≤ a' ∧ some (r.1.arr a') = fancy (h.arr a) vw.idx) := by
  have hob : h.objs[vw.owner]? = some h.objs[vw.owner] := List.getElem?_eq_getElem ho
  generalize h.objs[vw.owner] = ob at hob
  have hsome : (ob.cols.mapM (fun ca => (fancy (h.arr ca.2) vw.idx).map fun d => (ca.1, d))).isSome := by
    apply (Py.mapM_isSome_iff _ _).2
    intro ca hca
    have := hidx ca.1 ca.2 (colArr_of_mem h hw _ ob hob ca.1 ca.2 hca)
    simpa using this
  obtain ⟨cols, hcols⟩ := Option.isSome_iff_exists.mp hsome
  simp only [step, hv, hob, hcols]
  have hn := (detach_names h vw.idx vw.idx.length ob.cols cols hcols).symm ▸ wf_names h hw _ ob hob
  refine ⟨by rw [newObject_eq], fun a ha => newObject_arr_old h _ a ha, fun c a hca hc1 hc2 => ?_⟩
  obtain ⟨_, hm⟩ := colArr_mem h _ c a hca
  rw [(List.getElem?_eq_some_iff.mp hob).2] at hm
  obtain ⟨cd, hcd, hf⟩ := Py.exists_mem_of_mapM_eq_some _ _ _ hcols hm
  obtain ⟨d, hd, rfl⟩ := Option.map_eq_some_iff.1 hf
  obtain ⟨a', h1, h2, h3⟩ := newObject_col h _ hn c d (List.mem_map.2 ⟨(c, d), hcd, by simp [hc1, hc2]⟩)
  exact ⟨a', h1, h2, by rw [h3]; exact hd.symm⟩

/-- **independence for every later interleaving**: a write addressed to one object never changes an array of
another object (the invariant holds at every reachable state, `run_wf`) -/
theorem write_frame (h : Heap) (hw : WFHeap h) (o o' : Nat) (hne : o ≠ o') (i : Int) (k : Nat) (c c' : Col) (v : Int) (a' : ArrId)
    (ho' : h.colArr o' c' = some a') (hoo : o < h.objs.length) (hoo' : o' < h.objs.length) :
    (step h (.nodeWrite o i c v)).1.arr a' = h.arr a' ∧ (step h (.ownerWrite o k c v)).1.arr a' = h.arr a' := by
  refine write_ind h o c v (fun h' => h'.arr a' = h.arr a') rfl (fun a k ha => setArr_arr_ne h a a' k v fun e => ?_) i k
  obtain ⟨h1, m1⟩ := colArr_mem h o c a ha
  obtain ⟨h2, m2⟩ := colArr_mem h o' c' a' ho'
  exact hne (hw.2.1 o o' h1 h2 _ m1 _ m2 e.symm).1

/-- **a tree's segments are its (parent, child) pairs**, one per non-root row, in order -/
theorem tree_segments (h : Heap) (o : Nat) (p i : ArrId) (hp : h.colArr o "pid" = some p) (hi : h.colArr o "id" = some i) :
    (step h (.segments o)).2 = .pairs (((h.arr p).zip (h.arr i)).drop 1) := by
  simp only [step, hp, hi]

/-- **a branch's segments are its consecutive node pairs** -/
theorem branch_segments (h : Heap) (v : Nat) (vw : View) (a : ArrId) (ids : List Int) (hv : h.views[v]? = some vw)
    (ha : h.colArr vw.owner "id" = some a) (hf : fancy (h.arr a) vw.idx = some ids) :
    (step h (.viewSegments v)).2 = .pairs (ids.zip (ids.drop 1)) ∧ (ids.zip (ids.drop 1)).length = ids.length - 1 := by
  constructor
  · simp only [step, hv, viewCol, ha, Option.bind_some, hf]
  · simp [List.length_zip]

-- non-vacuity / concrete behaviour: write through a node, read through a branch view, detach, write again
def exH : Heap := mkTree [("id", [0, 1, 2, 3]), ("pid", [-1, 0, 1, 1]), ("x", [5, 6, 7, 8])]
example : (run exH [.mkView 0 [1, 3], .nodeWrite 0 (-1) "x" 80, .viewRead 0 "x", .detach 0, .nodeWrite 0 3 "x" 9, .readCol 1 "x", .viewRead 0 "x",
    .viewSegments 0, .segments 0]).2 =
    [.newView 0, .unit, .vals [6, 80], .newObj 1, .unit, .vals [6, 80], .vals [6, 9], .pairs [(1, 3)], .pairs [(0, 1), (1, 2), (1, 3)]] := by
  decide +kernel

end C09
