import SwcVerif.Props.C09
import SwcVerif.Refine.Views
/-! # C09, tied to the source by the translator

`Gen/AlgoViews.lean` is regenerated on every run from `swcgeom/core/{node,path,tree,branch,compartment,swc}.py`
(`harness/algo_specs/70_views.py`): the indexing and window logic of `Node`, `Path`, `Tree`, `Branch`, `Compartment`, `DictSWC`, one
integer-valued column per key.  The theorems below are about those GENERATED definitions, for every column content, every index array
with entries in range and every length; `RefineViews` holds the equations of the generated functions.  `T` is a tree / DictSWC, `⟨T, idx, nm⟩` a Path / Branch over it. -/
namespace C09
open Gen.Algo RefineViews

/-! ## link to the hand-written heap model: its `at?` / `fancy` are the translator's `Py.idx` / `Py.take` -/

theorem at?_eq_idx (l : List Int) (i : Int) : Views.at? l i = Py.idx l i := by
  obtain ⟨h1, h2, h3⟩ := at_spec l i
  by_cases h0 : 0 ≤ i
  · by_cases hn : i < l.length
    · rw [h1 h0 hn, Py.idx_inrange l i 0 ⟨h0, (Int.toNat_lt h0).2 hn⟩]
    · rw [h3 (Or.inr (Int.not_lt.1 hn)), Py.idx, Py.normIdx, if_pos h0, if_neg (mt (Int.toNat_lt h0).1 hn)]
  · by_cases hn : -(l.length : Int) ≤ i
    · -- `i = -j` with `0 < j ≤ len`: both sides read position `len - j`
      obtain ⟨j, rfl⟩ := Int.exists_eq_neg_ofNat (Int.le_of_lt (Int.not_le.1 h0))
      have hj : 0 < j ∧ j ≤ l.length := ⟨Nat.pos_of_ne_zero fun e => h0 (by rw [e]; decide), Int.ofNat_le.1 (Int.neg_le_neg_iff.1 hn)⟩
      have e : (-(j : Int) + l.length).toNat = l.length - j := by rw [Int.add_comm, ← Int.sub_eq_add_neg, Int.toNat_sub]
      have hlt : l.length - j < l.length := Nat.sub_lt (Nat.lt_of_lt_of_le hj.1 hj.2) hj.1
      rw [h2 hn (Int.not_le.1 h0), Py.idx, Py.normIdx, if_neg h0, if_pos (Int.toNat_le.2 (Int.neg_le_of_neg_le hn)), Int.neg_neg,
        Int.toNat_natCast, e, Py.getD_eq_getElem l 0 hlt]
      exact (List.getElem?_eq_getElem hlt).symm
    · rw [h3 (Or.inl (Int.not_le.1 hn)), Py.idx, Py.normIdx, if_neg h0, if_neg (mt (fun h => Int.neg_le_of_neg_le (Int.toNat_le.1 h)) hn)]

theorem fancy_eq_take (l idx : List Int) : Views.fancy l idx = Py.take l idx := by
  unfold Views.fancy Py.take
  congr 1; funext i; exact at?_eq_idx l i

/-- the translated `Path.get_ndata` returns what the heap model's `viewRead` returns (`Views.fancy` of the owner's array), errors alike -/
theorem generated_view_read_eq_model (T : DictSWC) (idx : List Int) (nm : SWCNames) (key : String) (col : List Int)
    (hk : Py.Dict.get? T.ndata key = some col) : path_get_ndata ⟨T, idx, nm⟩ key = Views.fancy col idx := by
  rw [path_get_ndata_eq, hk, fancy_eq_take]; rfl

/-! ## reads -/

/-- `path["x"]` / `path.get_ndata("x")` = the owner's column gathered by `idx`, in order -/
theorem generated_path_column (T : DictSWC) (idx : List Int) (nm : SWCNames) (key : String) (col : List Int)
    (hk : Py.Dict.get? T.ndata key = some col) (hr : InRange idx col.length) :
    path_getitem_str ⟨T, idx, nm⟩ key = some (gather col idx) ∧ path_get_ndata ⟨T, idx, nm⟩ key = some (gather col idx) := by
  rw [path_getitem_str_eq]; exact ⟨path_get_ndata_spec T idx nm key col hk hr, path_get_ndata_spec T idx nm key col hk hr⟩

/-- `path[k]["x"]`: IndexError outside `-n ≤ k < n`, otherwise the owner's column at row `idx[k mod n]` -/
theorem generated_path_getitem_int (T : DictSWC) (idx : List Int) (nm : SWCNames) (key : String) (col idc : List Int)
    (hid : Py.Dict.get? T.ndata nm.id = some idc) (hri : InRange idx idc.length)
    (hk : Py.Dict.get? T.ndata key = some col) (hr : InRange idx col.length) (k : Int) :
    (path_getitem_int ⟨T, idx, nm⟩ k).bind (fun n => pnode_getitem n key) =
      if k < -(idx.length : Int) ∨ k ≥ idx.length then none
      else some (col.getD (idx.getD (normKey k idx.length).toNat 0).toNat 0) := by
  rw [path_getitem_int_eq ⟨T, idx, nm⟩ _ (path_get_ndata_spec T idx nm nm.id idc hid hri) k]
  split
  · rfl
  · rename_i h1
    have hn := normKey_range k idx.length h1
    rw [Option.bind_some, pnode_getitem_eq, path_get_ndata_spec T idx nm key col hk hr, Option.bind_some,
      Py.idx_inrange (gather col idx) _ 0 (by rw [gather_length]; exact hn)]
    simp only [gather, List.getD_eq_getElem?_getD, List.getElem?_map, List.getElem?_eq_getElem hn.2, Option.map_some, Option.getD_some]

/-- `tree[k]["x"]`: IndexError outside `-n ≤ k < n`, otherwise the column at row `k mod n` -/
theorem generated_tree_getitem_int (T : DictSWC) (key : String) (col idc : List Int)
    (hid : Py.Dict.get? T.ndata T.names.id = some idc) (hk : Py.Dict.get? T.ndata key = some col) (hl : col.length = idc.length) (k : Int) :
    (tree_getitem_int T k).bind (fun n => tnode_getitem n key) =
      if k < -(idc.length : Int) ∨ k ≥ idc.length then none else some (col.getD (normKey k idc.length).toNat 0) := by
  rw [tree_getitem_int_eq T idc hid k]
  split
  · rfl
  · rename_i h1
    rw [Option.bind_some, tnode_getitem_eq, hk, Option.bind_some]
    exact Py.idx_inrange col _ 0 (hl ▸ normKey_range k idc.length h1)

/-- `path[a:b:c]`: ValueError for a zero step; otherwise the handles at the positions `range(*slice(a, b, c).indices(len(path)))`, in
order, and every one of them is a valid position `0 ≤ i < len(path)` -/
theorem generated_path_getitem_slice (T : DictSWC) (idx : List Int) (nm : SWCNames) (idc : List Int)
    (hid : Py.Dict.get? T.ndata nm.id = some idc) (hri : InRange idx idc.length) (s : Py.Slice) :
    path_getitem_slice ⟨T, idx, nm⟩ s = (slicePositions s idx.length).map (fun l => l.map fun i => (⟨⟨T, idx, nm⟩, i, nm⟩ : PNode)) ∧
    (∀ l, slicePositions s idx.length = some l → InRange l idx.length) ∧
    (slicePositions s idx.length = none ↔ s.2.2 = some 0) := by
  exact ⟨path_getitem_slice_eq ⟨T, idx, nm⟩ _ (path_get_ndata_spec T idx nm nm.id idc hid hri) s,
    fun l h => slicePositions_inbounds s _ l h, slicePositions_eq_none_iff s _⟩

/-- `tree[a:b:c]` likewise -/
theorem generated_tree_getitem_slice (T : DictSWC) (idc : List Int) (hid : Py.Dict.get? T.ndata T.names.id = some idc) (s : Py.Slice) :
    tree_getitem_slice T s = (slicePositions s idc.length).map (fun l => l.map fun i => (⟨T, i, T.names⟩ : TNode)) ∧
    (∀ l, slicePositions s idc.length = some l → InRange l idc.length) :=
  ⟨tree_getitem_slice_eq T idc hid s, fun l h => slicePositions_inbounds s _ l h⟩

/-! ## writes -/

/-- **write-through**: `tree[i]["k"] = x` (`-n ≤ i < n`) changes exactly cell `i mod n` of column `k` of the owner -/
theorem generated_node_write_through (T : DictSWC) (k : String) (col idc : List Int) (x i : Int)
    (hid : Py.Dict.get? T.ndata T.names.id = some idc) (hk : Py.Dict.get? T.ndata k = some col) (hl : col.length = idc.length)
    (hi : ¬ (i < -(idc.length : Int) ∨ i ≥ idc.length)) :
    ∃ T', (tree_getitem_int T i).bind (fun n => tnode_setitem n k x) = some (⟨T', normKey i idc.length, T.names⟩, ()) ∧
      T'.names = T.names ∧
      ∀ k', Py.Dict.get? T'.ndata k' = if k' = k then some (col.set (normKey i idc.length).toNat x) else Py.Dict.get? T.ndata k' :=
  ⟨written T k col (normKey i idc.length).toNat x, RefineViews.node_write_through T k col idc x i hid hk hl hi, rfl,
    fun k' => written_get T k k' col _ x⟩

/-- … and is read back through every view of that owner (`idx` in range): `x` at the positions that refer to the written row -/
theorem generated_write_then_view_read (T : DictSWC) (k : String) (col : List Int) (j : Nat) (x : Int) (idx : List Int) (nm : SWCNames)
    (hr : InRange idx col.length) :
    path_get_ndata ⟨written T k col j x, idx, nm⟩ k = some (idx.map fun i => if i.toNat = j then x else col.getD i.toNat 0) ∧
    ∀ k', k' ≠ k → path_get_ndata ⟨written T k col j x, idx, nm⟩ k' = path_get_ndata ⟨T, idx, nm⟩ k' :=
  ⟨RefineViews.write_then_view_read T k col j x idx nm hr, fun k' h => RefineViews.write_frame T k k' col j x idx nm h⟩

/-- a store through a node handle of a PATH / BRANCH is lost (the code that exists: `Path.get_ndata` is a fancy index, a new array) -/
theorem generated_path_node_write_lost (n : PNode) (k : String) (x : Int) (r : PNode × Unit) (h : pnode_setitem n k x = some r) : r.1 = n := by
  simp only [pnode_setitem, pnode_setitem.body, Py.map_finish_bind, Py.finish_next, Option.map_some, Option.bind_eq_some_iff] at h
  obtain ⟨_, _, _, _, h⟩ := h
  cases h; rfl

/-! ## detach / copy -/

/-- `path.detach()`: positions `0 .. n-1` over a new object whose id / pid are `0 .. n-1` / `-1 .. n-2` and whose every other column is
the path's column; read through the detached path, every such column is equal to what the path reported -/
theorem generated_detach (T : DictSWC) (idx : List Int) (nm : SWCNames) (idc : List Int)
    (hid : Py.Dict.get? T.ndata nm.id = some idc) (hri : InRange idx idc.length)
    (hall : ∀ k ∈ Py.Dict.keys T.ndata, (path_get_ndata ⟨T, idx, nm⟩ k).isSome) :
    ∃ D, path_detach ⟨T, idx, nm⟩ = some ⟨⟨D, nm⟩, arangeL idx.length, nm⟩ ∧
      Py.Dict.get? D nm.pid = some (pidL idx.length) ∧ (nm.id ≠ nm.pid → Py.Dict.get? D nm.id = some (arangeL idx.length)) ∧
      ∀ key gk, key ≠ nm.id → key ≠ nm.pid → path_get_ndata ⟨T, idx, nm⟩ key = some gk →
        Py.Dict.get? D key = some gk ∧ path_get_ndata ⟨⟨D, nm⟩, arangeL idx.length, nm⟩ key = some gk := by
  obtain ⟨D, h1, h2⟩ := path_detach_eq ⟨T, idx, nm⟩ _ (path_get_ndata_spec T idx nm nm.id idc hid hri) hall
  exact ⟨D, h1, detached_content_reads T idx nm D _ rfl h2⟩

/-- `tree.copy()` as translated returns a record equal to `T`.  Records are values here, so nothing is said about storage: that the copy
owns fresh arrays is `copy_fresh` of the heap model, which is tied to the code by the `np.shares_memory` observations. -/
theorem generated_copy (T : DictSWC) : swc_copy T = some T := rfl

/-! ## segments -/

/-- **a branch's segments are its consecutive node pairs**: `branch.get_compartments()` has one member per position `1 .. n-1`, and for
every column the members report, in order, exactly the consecutive pairs of the branch's column -/
theorem generated_branch_segments (T : DictSWC) (idx : List Int) (nm : SWCNames) (key : String) (col idc : List Int)
    (hid : Py.Dict.get? T.ndata nm.id = some idc) (hri : InRange idx idc.length)
    (hk : Py.Dict.get? T.ndata key = some col) (hr : InRange idx col.length) :
    ∃ cs, branch_get_compartments ⟨T, idx, nm⟩ = some cs ∧
      cs.map (fun c => ppath_get_ndata c key) = ((gather col idx).zip ((gather col idx).drop 1)).map fun p => some [p.1, p.2] := by
  have hgk := path_get_ndata_spec T idx nm key col hk hr
  refine ⟨_, branch_get_compartments_eq ⟨T, idx, nm⟩ _ (path_get_ndata_spec T idx nm nm.id idc hid hri), ?_⟩
  refine List.ext_getElem ?_ fun k h1 h2 => ?_
  · simp only [List.length_map, List.length_range, List.length_drop, List.length_zip, gather_length]; omega
  have hlt : 1 + k < (gather col idx).length := by simp only [List.length_map, List.length_range, gather_length] at h1 ⊢; omega
  simp only [List.getElem_map, List.getElem_range, List.getElem_zip, List.getElem_drop,
    branch_compartment_read ⟨T, idx, nm⟩ key _ hgk nm k (Nat.add_comm 1 k ▸ hlt), Nat.add_comm k 1, Py.getD_eq_getElem _ _ hlt,
    Py.getD_eq_getElem _ _ (Nat.lt_of_succ_lt (Nat.add_comm 1 k ▸ hlt))]

/-- **a tree's segments are its (parent, child) pairs**: `tree.get_compartments()` has one member per row `1 .. n-1`, in order, over the
tree itself, with index array `[pid[i], id[i]]`; as pairs these are `zip(pid, id)[1:]` (what the heap model's `segments` returns) -/
theorem generated_tree_segments (T : DictSWC) (pidc idc : List Int) (hp : Py.Dict.get? T.ndata T.names.pid = some pidc)
    (hi : Py.Dict.get? T.ndata T.names.id = some idc) (hl : pidc.length = idc.length) :
    ∃ cs, tree_get_compartments T = some cs ∧ (∀ c ∈ cs, c.attach = T) ∧
      cs.map (fun c => c.idx) = ((pidc.zip idc).drop 1).map fun p => [p.1, p.2] := by
  refine ⟨_, tree_get_compartments_eq T pidc idc hp hi hl, fun c hc => by obtain ⟨k, -, rfl⟩ := List.mem_map.1 hc; rfl, ?_⟩
  refine List.ext_getElem ?_ fun k h1 h2 => ?_
  · simp only [List.length_map, List.length_range, List.length_drop, List.length_zip, hl, Nat.min_self]
  have hlt : 1 + k < idc.length := by simp only [List.length_map, List.length_range] at h1; omega
  simp only [List.getElem_map, List.getElem_range, List.getElem_drop, List.getElem_zip, Nat.add_comm k 1,
    Py.getD_eq_getElem _ _ hlt, Py.getD_eq_getElem _ _ (hl ▸ hlt)]

/-! ## non-vacuity (kernel-evaluated on the generated definitions) -/
def exT : DictSWC := ⟨[("id", [0, 1, 2, 3]), ("pid", [-1, 0, 1, 1]), ("x", [5, 6, 7, 8])], ⟨"id", "pid"⟩⟩
def exP : Path := ⟨exT, [1, 3, 0], ⟨"id", "pid"⟩⟩
example : path_get_ndata exP "x" = some [6, 8, 5] := by decide +kernel
example : (path_getitem_int exP (-1)).bind (pnode_getitem · "x") = some 5 := by decide +kernel
example : path_getitem_int exP 3 = none ∧ path_getitem_int exP (-4) = none := by decide +kernel
example : (path_getitem_slice exP (none, none, some (-1))).map (·.map (·.idx)) = some [2, 1, 0] := by decide +kernel
example : (path_getitem_slice exP (some (-2), some 9, none)).map (·.map (·.idx)) = some [1, 2] := by decide +kernel
example : path_getitem_slice exP (none, none, some 0) = none := by decide +kernel
example : ((tree_getitem_int exT (-1)).bind (tnode_setitem · "x" 80)).bind (fun r => path_get_ndata ⟨r.1.attach, [1, 3, 0], ⟨"id", "pid"⟩⟩ "x")
    = some [6, 80, 5] := by decide +kernel
example : ((path_getitem_int exP 1).bind (pnode_setitem · "x" 80)).map (·.1.attach.attach) = some exT := by decide +kernel
example : (path_detach exP).bind (fun p => (path_get_ndata p "x").bind fun a => (path_get_ndata p "id").bind fun b =>
    (path_get_ndata p "pid").map fun c => (a, b, c)) = some ([6, 8, 5], [0, 1, 2], [-1, 0, 1]) := by decide +kernel
example : (branch_get_compartments exP).map (·.map (ppath_get_ndata · "id")) = some [some [1, 3], some [3, 0]] := by decide +kernel
example : (tree_get_compartments exT).map (·.map (·.idx)) = some [[0, 1], [1, 2], [1, 3]] := by decide +kernel

end C09
