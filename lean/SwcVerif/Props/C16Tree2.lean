import SwcVerif.Props.C16Gen
import SwcVerif.Props.C08BranchTree
import SwcVerif.Refine.ResampleTree2
import SwcVerif.Props.C16Tree
import SwcVerif.Refine.Node
import SwcVerif.Proofs.Represent
/-! # C16 at the level of whole trees

What the translated `TreeSmoother.__call__` leaves in the coordinate columns of a well-formed tree (`generated_smooth_tree`, the order of
the branches being irrelevant); a rank for the branch tree (a branch's first node comes before its last in the preorder listing); and with
it the translated `Resampler.__call__` on every well-formed tree: `Rep` of the resampled branch tree is derived, not assumed
(`generated_resample_tree_wf`). -/
namespace C16Tree2
open Gen.Algo Py Resample RefineSmoothTree C08 Trav Branches

/-! ## one step and the fold, on branches that share end points only -/

/-- the rows of the branch after one step are the smoothed rows -/
theorem gather_stepCol (k : Nat) (col : List Rat) (b : List Int) (hv : Valid col.length b) (hn : b.Nodup) :
    gather (stepCol k col b) b = convSmooth (gather col b) k :=
  gather_put b col _ hv hn (by rw [C16.convSmooth_length, gather_length])

theorem getD_of_ends (k : Nat) (col col' : List Rat) (b : List Int) (hg : gather col' b = convSmooth (gather col b) k) (p : Nat)
    (hp : p < b.length) (hend : p = 0 ∨ p + 1 = b.length) : col'.getD (b[p]).toNat 0 = col.getD (b[p]).toNat 0 := by
  have h := C16.convSmooth_ends (gather col b) k p (by rwa [gather_length])
  rw [← hg] at h
  simpa only [gather, List.getElem?_map, List.getElem?_eq_getElem hp, Option.map_some, Option.some.injEq] using h

theorem mem_mid (b : List Int) (p : Nat) (h0 : 0 < p) (hp : p + 1 < b.length) : b[p]'(Nat.lt_of_succ_lt hp) ∈ mid b := by
  match b, p, h0 with
  | a :: t, q + 1, _ =>
    have hq : q < t.dropLast.length := by
      rw [List.length_dropLast]; exact Nat.lt_sub_of_add_lt (Nat.lt_of_succ_lt_succ hp)
    exact List.mem_of_getElem (List.getElem_dropLast hq)

/-- one step changes interior rows of the branch only (the end points are rewritten with their own value) -/
theorem stepCol_frame (k : Nat) (col : List Rat) (b : List Int) (hv : Valid col.length b) (hn : b.Nodup) (j : Nat)
    (hj : ∀ m ∈ mid b, m.toNat ≠ j) : (stepCol k col b).getD j 0 = col.getD j 0 := by
  by_cases hex : ∃ x ∈ b, x.toNat = j
  · obtain ⟨x, hx, rfl⟩ := hex
    obtain ⟨p, hp, rfl⟩ := List.mem_iff_getElem.1 hx
    refine getD_of_ends k col _ b (gather_stepCol k col b hv hn) p hp ?_
    by_contra hc
    exact hj _ (mem_mid b p (by omega) (by omega)) rfl
  · exact put_getD_not_mem j b col _ (fun x hx he => hex ⟨x, hx, he⟩)

/-- the hypotheses on a list of branches: `≥ 2` valid distinct rows each -/
def Good (n : Nat) (brs : List (List Int)) : Prop := ∀ b ∈ brs, 2 ≤ b.length ∧ Valid n b ∧ b.Nodup

theorem foldl_frame (k n : Nat) : ∀ (brs : List (List Int)) (col : List Rat), col.length = n → Good n brs → ∀ j : Nat,
    (∀ b ∈ brs, ∀ m ∈ mid b, m.toNat ≠ j) → (brs.foldl (stepCol k) col).getD j 0 = col.getD j 0
  | [], _, _, _, _, _ => rfl
  | b :: bs, col, hl, hg, j, hj => by
    obtain ⟨hb, hgs⟩ := List.forall_mem_cons.1 hg
    obtain ⟨hjb, hjs⟩ := List.forall_mem_cons.1 hj
    rw [List.foldl_cons, foldl_frame k n bs _ ((stepCol_length ..).trans hl) hgs j hjs]
    exact stepCol_frame k col b (hl ▸ hb.2.1) hb.2.2 j hjb

theorem mid_sub (b : List Int) : ∀ m ∈ mid b, m ∈ b := fun _ hm =>
  List.mem_of_mem_tail ((List.dropLast_sublist _).subset hm)

def Apart (b b' : List Int) : Prop := (∀ m ∈ mid b, m ∉ b') ∧ ∀ m ∈ mid b', m ∉ b

theorem foldl_untouched (k n : Nat) (brs : List (List Int)) (col : List Rat) (hl : col.length = n) (hg : Good n brs) (b : List Int)
    (hv : Valid n b) (h : ∀ b' ∈ brs, ∀ m ∈ mid b', m ∉ b) : gather (brs.foldl (stepCol k) col) b = gather col b :=
  List.map_congr_left fun x hx => foldl_frame k n brs col hl hg _ fun b' hb' m hm e =>
    h b' hb' m hm (toNat_inj ((hg b' hb').2.1 m (mid_sub b' m hm)).1 (hv x hx).1 e ▸ hx)

/-- **the fold on branches whose interiors meet no other branch**: afterwards the rows of EVERY branch are the smoothed ORIGINAL rows of that
branch — so the order of the branches does not matter, and a row shared by several branches (an end point) received its own old value every
time: the branches before `b` leave its rows alone, the step of `b` smooths them, the branches after `b` leave them alone -/
theorem foldl_gather (k n : Nat) (brs : List (List Int)) (col : List Rat) (hl : col.length = n) (hg : Good n brs)
    (hp : brs.Pairwise Apart) (b : List Int) (hb : b ∈ brs) :
    gather (brs.foldl (stepCol k) col) b = convSmooth (gather col b) k := by
  obtain ⟨-, hbv, hbn⟩ := hg b hb
  obtain ⟨pre, post, rfl⟩ := List.append_of_mem hb
  rw [List.pairwise_append, List.pairwise_cons] at hp
  have hpre : Good n pre := fun b' h' => hg b' (List.mem_append_left _ h')
  have hpost : Good n post := fun b' h' => hg b' (List.mem_append_right _ (List.mem_cons_of_mem _ h'))
  have hl' : (pre.foldl (stepCol k) col).length = n := (foldl_stepCol_length ..).trans hl
  rw [List.foldl_append, List.foldl_cons,
    foldl_untouched k n post _ ((stepCol_length ..).trans hl') hpost b hbv fun b' h' => (hp.2.1.1 b' h').2,
    gather_stepCol k _ b (hl' ▸ hbv) hbn,
    foldl_untouched k n pre col hl hpre b hbv fun b' h' => (hp.2.2 b' h' b List.mem_cons_self).1]

/-! ## the branches of a tree: distinct rows, interiors that meet no other branch -/

-- a node is the child end of an edge (and the root of the subtree) at most as often as it is a node
mutual
theorem es_count (a : Int) : ∀ r : Rose, ((edges r).map Prod.snd).count a + [r.id].count a ≤ r.ids.count a
  | .node i ks => by
    have := esL_count a ks
    have e : (ks.map (fun k => (i, k.id))).map Prod.snd = ks.map Rose.id := by simp [Function.comp_def]
    have hid : (Rose.node i ks).id = i := rfl
    simp only [edges, Rose.ids, hid, List.map_append, e, List.count_append, List.count_cons, List.count_nil]
    omega
theorem esL_count (a : Int) : ∀ ks : List Rose, (ks.map Rose.id).count a + ((edgesL ks).map Prod.snd).count a ≤ (idsL ks).count a
  | [] => by simp [edgesL, idsL]
  | r :: rs => by
    have h1 := es_count a r
    have h2 := esL_count a rs
    simp only [edgesL, idsL, List.map_cons, List.map_append, List.count_append, List.count_cons, List.count_nil] at h1 ⊢
    omega
end

/-- every node is a non-first member of at most one branch, at most once; the root of none -/
theorem tails_nodup (r : Rose) (hD : r.ids.Nodup) : (r.id :: (branchesOf r).flatMap List.tail).Nodup := by
  have hp := (branches_partition_edges r).map Prod.snd
  simp only [List.map_flatMap, pairs_snd] at hp
  refine (hp.cons r.id).nodup_iff.2 (List.nodup_iff_count_le_one.2 fun a => ?_)
  have h1 := es_count a r
  have h2 := List.nodup_iff_count_le_one.1 hD a
  simp only [List.count_cons, List.count_nil] at h1 ⊢
  omega

theorem chains_nodup (r : Rose) : r.ids.Nodup → (∀ b ∈ closed r, b.Nodup) ∧ (chain r).Nodup := by
  induction r using branch_ind with
  | leaf i => exact fun _ => ⟨by simp [closed_leaf], by simp [chain_leaf]⟩
  | one i k ih =>
    intro hD
    rw [Rose.ids, idsL, idsL, List.append_nil, List.nodup_cons] at hD
    rw [closed_one, chain_one]
    exact ⟨(ih hD.2).1, List.nodup_cons.2 ⟨fun h => hD.1 (chain_sub_ids k i h), (ih hD.2).2⟩⟩
  | many i k1 k2 t ih =>
    intro hD
    rw [Rose.ids, idsL_eq, List.nodup_cons, List.mem_flatMap] at hD
    have hk := (List.nodup_flatMap.1 hD.2).1
    refine ⟨fun b hb => ?_, by simp [chain_many]⟩
    obtain ⟨k, hk', rfl | hb⟩ := mem_closed_many.1 hb
    · exact List.nodup_cons.2 ⟨fun h => hD.1 ⟨k, hk', chain_sub_ids k i h⟩, (ih k hk' (hk k hk')).2⟩
    · exact (ih k hk' (hk k hk')).1 b hb

theorem branch_nodup (r : Rose) (hD : r.ids.Nodup) (b : List Int) (hb : b ∈ branchesOf r) : b.Nodup := by
  rcases mem_branchesOf hb with hb | ⟨rfl, -⟩
  · exact (chains_nodup r hD).1 b hb
  · exact (chains_nodup r hD).2

theorem good_tree (r : Rose) (pids : List Int) (h : C06.IsTree r pids) : Good pids.length (branchesOf r) := by
  intro b hb
  refine ⟨?_, ?_, branch_nodup r h.1.2 b hb⟩
  · obtain ⟨top, m, last, rfl, _⟩ := branch_shape _ r h.1.1 b hb
    simp
  · intro x hx
    exact (C06.isTree_mem h x).1 (branch_mem r b hb x hx)

theorem mid_eq (top last : Int) (m : List Int) : mid (top :: (m ++ [last])) = m := by simp [mid]

/-- an interior row of one branch is on no other branch of the tree (it has exactly one child; first nodes of branches are the root or
furcations; every node is a non-first member of one branch only) -/
theorem pairwise_tree (r : Rose) (pids : List Int) (h : C06.IsTree r pids) :
    (branchesOf r).Pairwise Apart := by
  obtain ⟨hroot, hT⟩ := List.nodup_cons.1 (tails_nodup r h.1.2)
  have key : ∀ b ∈ branchesOf r, ∀ b' ∈ branchesOf r, List.Disjoint b.tail b'.tail → ∀ m ∈ mid b, m ∉ b' := by
    intro b hb b' hb' hd m hm hmb'
    obtain ⟨top, mi, last, rfl, _, hmid, _⟩ := branch_shape _ r h.1.1 b hb
    obtain ⟨top', mi', last', rfl, htop', _, _⟩ := branch_shape _ r h.1.1 b' hb'
    rw [mid_eq] at hm
    have hmt : m ∈ (top :: (mi ++ [last])).tail := by simp [hm]
    rcases List.mem_cons.1 hmb' with rfl | hmt'
    · rcases htop' with rfl | h2
      · exact hroot (List.mem_flatMap.2 ⟨_, hb, hmt⟩)
      · have := hmid m hm; omega
    · exact hd hmt hmt'
  refine ((List.nodup_flatMap.1 hT).2).imp_of_mem ?_
  intro b b' hb hb' hd
  exact ⟨key b hb b' hb' hd, key b' hb' b hb (fun a h1 h2 => hd h2 h1)⟩

/-- **`TreeSmoother.__call__` as translated, on every well-formed tree** (`C06.IsTree`: any shape / depth / size), three coordinate columns of
the tree's length, every window `np.ones(k)`, `k ≥ 1`, every fuel `≥ 2 n + 1`: the generated function does not raise and returns columns
* of the same length (node count; ids, parents, radii are not touched: the generated function does not even take them apart from the topology);
* in which the rows of EVERY branch of `branchesOf r` (= the generated `get_branches`) are `convSmooth` of the ORIGINAL rows of that branch
  (`= conv_smooth` generated from `BranchConvSmoother`, `C16.generated_smooth_eq_model`) — although the loop smooths the CURRENT rows, in
  branch order, and writes a furcation once per branch it ends or starts: every such write stores the value the row already has (`stepCol_frame`);
* in which every row that is not strictly inside a branch (root, furcations, tips) keeps its coordinates. -/
theorem generated_smooth_tree (r : Rose) (pids : List Int) (h : C06.IsTree r pids) (xs ys zs : List Rat) (k F : Nat) (hk : 1 ≤ k)
    (hx : xs.length = pids.length) (hy : ys.length = pids.length) (hz : zs.length = pids.length) :
    ∃ xs' ys' zs', smooth_tree ratFld (2 * r.size + F + 1) (Sub.rangeI pids.length) pids xs ys zs (List.replicate k 1)
        = some (xs', ys', zs', ()) ∧
      xs' = (branchesOf r).foldl (stepCol k) xs ∧ ys' = (branchesOf r).foldl (stepCol k) ys ∧ zs' = (branchesOf r).foldl (stepCol k) zs ∧
      xs'.length = pids.length ∧ ys'.length = pids.length ∧ zs'.length = pids.length ∧
      (∀ b ∈ branchesOf r, gather xs' b = convSmooth (gather xs b) k ∧ gather ys' b = convSmooth (gather ys b) k ∧
        gather zs' b = convSmooth (gather zs b) k) ∧
      (∀ j : Nat, (∀ b ∈ branchesOf r, ∀ m ∈ mid b, m.toNat ≠ j) →
        xs'.getD j 0 = xs.getD j 0 ∧ ys'.getD j 0 = ys.getD j 0 ∧ zs'.getD j 0 = zs.getD j 0) := by
  have hg := good_tree r pids h
  have hp := pairwise_tree r pids h
  refine ⟨_, _, _, smooth_tree_eq k hk _ _ pids xs ys zs (branchesOf r) (generated_getBranches_eq _ pids r h.1 h.2.2.1 F)
    (hy.trans hx.symm) (hz.trans hx.symm) (fun b hb => ⟨(hg b hb).1, hx ▸ (hg b hb).2.1⟩), rfl, rfl, rfl,
    (foldl_stepCol_length ..).trans hx, (foldl_stepCol_length ..).trans hy, (foldl_stepCol_length ..).trans hz,
    fun b hb => ⟨foldl_gather k _ _ xs hx hg hp b hb, foldl_gather k _ _ ys hy hg hp b hb, foldl_gather k _ _ zs hz hg hp b hb⟩,
    fun j hj => ⟨foldl_frame k _ _ xs hx hg j hj, foldl_frame k _ _ ys hy hg j hj, foldl_frame k _ _ zs hz hg j hj⟩⟩

/-- **end points of every branch keep their coordinates** in the column the generated smoother returns (by `generated_smooth_tree` the fold
over `branchesOf r`): read off the per-branch statement `foldl_gather` with `C16.convSmooth_ends` -/
theorem generated_smooth_tree_endpoints (r : Rose) (pids : List Int) (h : C06.IsTree r pids) (xs : List Rat) (k : Nat)
    (hx : xs.length = pids.length) (b : List Int) (hb : b ∈ branchesOf r) (p : Nat) (hp : p < b.length) (hend : p = 0 ∨ p + 1 = b.length) :
    ((branchesOf r).foldl (stepCol k) xs).getD (b[p]).toNat 0 = xs.getD (b[p]).toNat 0 :=
  getD_of_ends k xs _ b (foldl_gather k _ _ xs hx (good_tree r pids h) (pairwise_tree r pids h) b hb) p hp hend

/-- non-vacuity (kernel-evaluated): the tree `0 ← 1 ← 2 ← {3 ← 4, 5}` (branches `[0,1,2]`, `[2,3,4]`, `[2,5]`), window 3: rows 1 and 3 move to the
mean of their neighbourhood, the root, the furcation 2 (written three times) and the tips 4, 5 stay -/
example : smooth_tree ratFld 13 [0, 1, 2, 3, 4, 5] [-1, 0, 1, 2, 3, 2] [0, 3, 3, 9, 6, 1] [0, 0, 0, 0, 0, 0] [1, 1, 1, 1, 1, 1] [1, 1, 1]
    = some ([0, 2, 3, 6, 6, 1], [0, 0, 0, 0, 0, 0], [1, 1, 1, 1, 1, 1], ()) := by decide +kernel

example : C06.IsTree (.node 0 [.node 1 [.node 2 [.node 3 [.node 4 []], .node 5 []]]]) [-1, 0, 1, 2, 3, 2] := by
  refine ⟨⟨?_, by decide⟩, by decide, rfl, rfl⟩
  simp only [Agrees, AgreesL, and_true]
  decide

/-! ## the order of the branches does not matter -/

/-- the fold over any reordering of the branches gives the same column -/
theorem foldl_perm (k n : Nat) (brs brs' : List (List Int)) (col : List Rat) (hl : col.length = n) (hg : Good n brs)
    (hp : brs.Pairwise Apart) (hperm : brs'.Perm brs) :
    brs'.foldl (stepCol k) col = brs.foldl (stepCol k) col := by
  have hg' : Good n brs' := fun b hb => hg b (hperm.mem_iff.1 hb)
  have hp' : brs'.Pairwise Apart :=
    (hperm.pairwise_iff (fun h => ⟨h.2, h.1⟩)).2 hp
  apply List.ext_getElem (by simp)
  intro j h1 h2
  rw [← getD_eq_getElem _ 0 h1, ← getD_eq_getElem _ 0 h2]
  by_cases hex : ∃ b ∈ brs, ∃ m ∈ mid b, m.toNat = j
  · obtain ⟨b, hb, m, hm, rfl⟩ := hex
    exact List.map_inj_left.1 ((foldl_gather k n brs' col hl hg' hp' b (hperm.mem_iff.2 hb)).trans
      (foldl_gather k n brs col hl hg hp b hb).symm) m (mid_sub b m hm)
  · have hex' : ∀ b ∈ brs, ∀ m ∈ mid b, m.toNat ≠ j := fun b hb m hm he => hex ⟨b, hb, m, hm, he⟩
    rw [foldl_frame k n brs' col hl hg' j (fun b hb => hex' b (hperm.mem_iff.1 hb)), foldl_frame k n brs col hl hg j hex']

/-- **on a well-formed tree the smoother's result does not depend on the order in which the branches are visited**: the fold over any permutation
of `branchesOf r` is the column the generated `TreeSmoother.__call__` returns (`generated_smooth_tree`) -/
theorem generated_smooth_tree_order (r : Rose) (pids : List Int) (h : C06.IsTree r pids) (col : List Rat) (k : Nat)
    (hl : col.length = pids.length) (brs' : List (List Int)) (hperm : brs'.Perm (branchesOf r)) :
    brs'.foldl (stepCol k) col = (branchesOf r).foldl (stepCol k) col :=
  foldl_perm k _ _ _ col hl (good_tree r pids h) (pairwise_tree r pids h) hperm

end C16Tree2

/-! ## parents come before children in the preorder listing: a rank for the branch tree -/
namespace C16Tree2
open C08 Trav Branches

mutual
theorem edge_sub : ∀ r : Rose, ∀ p ∈ edges r, [p.1, p.2].Sublist r.ids
  | .node i ks => by
    intro p hp
    simp only [edges, List.mem_append, List.mem_map] at hp
    rcases hp with ⟨k, hk, rfl⟩ | hp
    · refine List.Sublist.cons_cons i (List.singleton_sublist.2 ?_)
      rw [idsL_eq]
      exact List.mem_flatMap.2 ⟨k, hk, ids_head k⟩
    · exact (edgeL_sub ks p hp).cons i
theorem edgeL_sub : ∀ ks : List Rose, ∀ p ∈ edgesL ks, [p.1, p.2].Sublist (idsL ks)
  | [] => by simp [edgesL]
  | r :: rs => by
    intro p hp
    simp only [edgesL, List.mem_append] at hp
    rcases hp with hp | hp
    · exact (edge_sub r p hp).trans (List.sublist_append_left _ _)
    · exact (edgeL_sub rs p hp).trans (List.sublist_append_right _ _)
end

theorem idxOf_lt_of_sublist (a c : Int) : ∀ l : List Int, l.Nodup → [a, c].Sublist l → l.idxOf a < l.idxOf c
  | [], _, h => by cases h
  | x :: l, hn, h => by
    rw [List.nodup_cons] at hn
    cases h with
    | cons _ h' =>
      have ha : a ∈ l := h'.subset List.mem_cons_self
      have hc : c ∈ l := h'.subset (List.mem_cons_of_mem _ List.mem_cons_self)
      rw [List.idxOf_cons_ne _ fun e : x = a => hn.1 (e ▸ ha), List.idxOf_cons_ne _ fun e : x = c => hn.1 (e ▸ hc)]
      exact Nat.succ_lt_succ (idxOf_lt_of_sublist a c l hn.2 h')
    | cons_cons _ h' =>
      rw [List.idxOf_cons_self, List.idxOf_cons_ne _ fun e : a = c => hn.1 (e ▸ h'.subset List.mem_cons_self)]
      exact Nat.succ_pos _

theorem chain_lt (f : Int → Nat) : ∀ (a : Int) (t : List Int), t ≠ [] → (∀ p ∈ pairs (a :: t), f p.1 < f p.2) →
    f a < f ((a :: t).getLastD 0)
  | _, [], h, _ => absurd rfl h
  | a, [c], _, hp => hp (a, c) List.mem_cons_self
  | a, c :: d :: t, _, hp =>
    (hp (a, c) List.mem_cons_self).trans
      (chain_lt f c (d :: t) (List.cons_ne_nil _ _) fun p hpm => hp p (List.mem_cons_of_mem _ hpm))

/-- the first node of every branch comes before its last node in the preorder listing of the tree -/
theorem branch_pre_lt (kidsOf : Int → List Int) (r : Rose) (hA : Agrees kidsOf r) (hD : r.ids.Nodup) (b : List Int) (hb : b ∈ branchesOf r) :
    r.ids.idxOf (b.headD 0) < r.ids.idxOf (b.getLastD 0) := by
  obtain ⟨top, mi, last, rfl, _⟩ := branch_shape kidsOf r hA b hb
  exact chain_lt (fun x => r.ids.idxOf x) top (mi ++ [last]) (by simp) (fun p hp =>
    idxOf_lt_of_sublist _ _ _ hD (edge_sub r p ((branches_partition_edges r).mem_iff.1 (List.mem_flatMap.2 ⟨_, hb, hp⟩))))

end C16Tree2

namespace C16Tree
open Asm Gen.Algo RefineAsm RefineResamTree C16Asm Trav

section
variable {σ : Type} [Inhabited σ] (resample : σ → List Int → σ × List Int)
  (pair : σ → List (List Int) → List Int → σ × List ((List Int) × Int)) (dupFirst dupLast : List Int → Int → Bool)

/-- what is asked of the pairing callback (ANY function otherwise; an assumption on the parameter — nothing here relates it to the library's
greedy `pair` of `C16.pair_exact`): the pairs it returns do not depend on the callback state, and it hands back only children it was given -/
def PairOK : Prop :=
  (∀ (s s' : σ) brs cs, (pair s brs cs).2 = (pair s' brs cs).2) ∧ ∀ (s : σ) brs cs, ∀ pr ∈ (pair s brs cs).2, pr.2 ∈ cs

/-- the parent column `tpid` of a table whose ids are positions is acyclic: the rank `rk` drops from every row to its children -/
def Ranked (tpid : List Int) (rk : Int → Nat) : Prop :=
  ∀ j c : Int, 0 ≤ j → c ∈ tableKids (Sub.rangeI tpid.length) tpid j → rk c < rk j

theorem kids_ranked (tpid : List Int) (rk : Int → Nat) (hrk : Ranked tpid rk) (x y : Int)
    (hx : 0 ≤ x ∧ x.toNat < tpid.length) (hy : y ∈ tableKids (Sub.rangeI tpid.length) tpid x) :
    (0 ≤ y ∧ y.toNat < tpid.length) ∧ rk y < rk x :=
  have ⟨hc0, hc1, _⟩ := (C06.mem_tableKids tpid x y).1 hy
  ⟨⟨hc0, hc1⟩, hrk x y hx.1 hy⟩

/-- **`Rep` derived** for a branch tree whose ids are positions and whose parent column is acyclic (a rank that drops from parent to child):
whatever the resampler callback returns (no condition on the number of samples), the resampled branch tree represents a rose tree -/
theorem rep_of_ranked (tid tpid : List Int) (branches : Py.Dict Int (List (List Int))) (hid : tid = Sub.rangeI tpid.length)
    (h0 : 0 < tpid.length) (hp : PairOK pair) (rk : Int → Nat) (hrk : Ranked tpid rk) :
    ∃ root, Rep pair dupFirst dupLast tid tpid branches root 0 := by
  subst hid
  refine rep_exists pair dupFirst dupLast _ tpid branches (fun h => 0 ≤ h ∧ h.toNat < tpid.length) rk ?_ (rk 0 + 1) 0 ⟨le_refl _, h0⟩
    (by omega)
  intro h hd
  have hlt := (Int.toNat_lt hd.1).1 hd.2
  exact ⟨tableKids (Sub.rangeI tpid.length) tpid h, h, RefineNode.node_children_spec _ tpid h hd.1 hlt,
    RefineNode.idx_rangeI _ h hd.1 hlt, fun s s' => hp.1 s s' _ _,
    fun s pr hpr => kids_ranked tpid rk hrk h pr.2 hd (hp.2 s _ _ pr hpr)⟩

/-- **the branch tree of a well-formed tree has an acyclic parent column**: the rank `n - (preorder position of the original node)` drops
from every key node to its children -/
theorem branchTree_ranked (r : Rose) (pids : List Int) (h : C06.IsTree r pids) :
    let nodes := 0 :: (C08.branchesOf r).map (fun b => b.getLastD 0)
    Ranked (-1 :: (C08.branchesOf r).map (fun b => ((nodes.idxOf (b.headD 0) : Nat) : Int)))
      fun x => r.ids.length - r.ids.idxOf (nodes.getD x.toNat 0) := by
  intro nodes j c hj hc
  obtain ⟨-, hc1, hcj⟩ := (C06.mem_tableKids _ j c).1 hc
  beta_reduce
  generalize c.toNat = n at hc1 hcj ⊢
  cases n with
  | zero => have : j = -1 := hcj.symm; omega
  | succ c' =>
    have hc' : c' < (C08.branchesOf r).length := by
      rw [List.length_cons, List.length_map] at hc1
      exact Nat.lt_of_succ_lt_succ hc1
    have hb := List.getElem_mem hc'
    have hlt := C16Tree2.branch_pre_lt _ r h.1.1 h.1.2 _ hb
    have hmem : ((C08.branchesOf r)[c']).headD 0 ∈ nodes := by
      have := C08.branch_head_mem _ r h.1.1 h.1.2 _ hb
      rwa [h.2.2.1] at this
    have e1 : nodes.getD (c' + 1) 0 = ((C08.branchesOf r)[c']).getLastD 0 := by
      rw [List.getD_cons_succ, Py.getD_map _ _ [] 0 hc', Py.getD_eq_getElem _ [] hc']
    have e2 : nodes.getD j.toNat 0 = ((C08.branchesOf r)[c']).headD 0 := by
      simp only [List.getElem_cons_succ, List.getElem_map] at hcj
      rw [← hcj, Int.toNat_natCast, Py.getD_eq_getElem _ 0 (List.idxOf_lt_length_of_mem hmem), List.getElem_idxOf]
    rw [e1, e2]
    have := List.idxOf_le_length (a := ((C08.branchesOf r)[c']).getLastD 0) (l := r.ids)
    omega

theorem fromTree_ranked (r : Rose) (pids : List Int) (h : C06.IsTree r pids) :
    ∃ t : BranchTreeObj, (∀ F, bt_from_tree (2 * r.size + F + 1) (Sub.rangeI pids.length) pids = some t) ∧
      t.id = Sub.rangeI t.pid.length ∧ t.pid.length = (C08.branchesOf r).length + 1 ∧
      ∃ rk, Ranked t.pid rk := by
  obtain ⟨groups, hm, _⟩ := C08.branchTree_model_spec r pids h
  refine ⟨RefineBranchTree.toObj ⟨_, 0 :: (C08.branchesOf r).map (fun b => b.getLastD 0), groups⟩, fun F => ?_, ?_, ?_, _,
    branchTree_ranked r pids h⟩
  · rw [C08.generated_fromTree_eq_model r pids h F, hm]; rfl
  · refine (Py.range_natCast _).trans ?_
    simp only [RefineBranchTree.toObj, Sub.rangeI, List.length_cons, List.length_map]
    rfl
  · exact congrArg Nat.succ (List.length_map _)

/-- **the resampled tree is a well-formed sorted tree, `Rep` derived**: for EVERY well-formed tree (`C06.IsTree`), every
branch-resampler callback (any function; no condition on the number of samples is needed for this statement) and every pairing callback that is
state-independent and returns only children it was given (`PairOK`), the resampled branch tree produced by the generated `bt_from_tree`
represents a rose tree `root`, and for every fuel `≥ 2 n + 1` and `≥ root.size + 1` the generated `Resampler.__call__` returns a table with ids
`0 .. m-1`, a `C07.WF` parent column, root first, every parent an earlier row, `1 + weight root` rows.
The fuel condition is in terms of the existential `root` (no bound on `root.size`, since `PairOK` lets `pair` return a child several times);
for matchings (`PairOK1`) `generated_resample_tree_wf` below has every fuel `≥ 2 n + 1`. -/
theorem generated_resample_tree_wf_rootfuel_partial (r : Rose) (pids : List Int) (h : C06.IsTree r pids) (hp : PairOK pair) (cbs : σ) :
    ∃ root : BT, ∀ F : Nat, root.size + 1 ≤ 2 * r.size + F + 1 →
      ∃ s' nid npid, resam_tree resample pair dupFirst dupLast (2 * r.size + F + 1) (Sub.rangeI pids.length) pids cbs = some (s', (nid, npid)) ∧
        C07.WF npid ∧ npid.length = 1 + weight root ∧ nid = (List.range npid.length).map (fun (k : Nat) => (k : Int)) ∧
        npid.head? = some (-1) ∧ ∀ k (h : k < npid.length), 0 < k → 0 ≤ npid[k] ∧ npid[k] < (k : Int) := by
  obtain ⟨t, ht, hid, hlen, rk, hrk⟩ := fromTree_ranked r pids h
  obtain ⟨root, hrep⟩ := rep_of_ranked pair dupFirst dupLast t.id t.pid (mapDict resample cbs [] t.branches).2 hid
    (hlen ▸ Nat.succ_pos _) hp rk hrk
  exact ⟨root, fun F hf => generated_resample_tree_wf_partial resample pair dupFirst dupLast root _ _ pids cbs t (ht F) hf hrep⟩

/-- `PairOK` + every child handed back at most once when the children are distinct (a matching; like `PairOK` an assumption on the parameter) -/
def PairOK1 : Prop := PairOK pair ∧ ∀ (s : σ) brs cs, cs.Nodup → ((pair s brs cs).2.map (·.2)).Nodup

/-- `rep_of_ranked` with the size bound: the rose tree has at most as many key nodes as the table has rows -/
theorem rep_of_ranked_sized (tid tpid : List Int) (branches : Py.Dict Int (List (List Int))) (hid : tid = Sub.rangeI tpid.length)
    (h0 : 0 < tpid.length) (hp : PairOK1 pair) (rk : Int → Nat) (hrk : Ranked tpid rk) :
    ∃ root, Rep pair dupFirst dupLast tid tpid branches root 0 ∧ root.size ≤ tpid.length := by
  subst hid
  have hk := kids_ranked tpid rk hrk
  obtain ⟨root, hrep, hnd, hdesc⟩ := rep_exists_sized pair dupFirst dupLast _ tpid branches (tableKids (Sub.rangeI tpid.length) tpid)
    (fun h => 0 ≤ h ∧ h.toNat < tpid.length) rk
    (fun h hd =>
      have hlt := (Int.toNat_lt hd.1).1 hd.2
      ⟨h, RefineNode.node_children_spec _ tpid h hd.1 hlt, RefineNode.idx_rangeI _ h hd.1 hlt,
        fun s s' => hp.1.1 s s' _ _, fun s => ⟨hp.1.2 s _ _, hp.2 s _ _ (Represent.tableKids_nodup _ tpid h)⟩⟩)
    hk
    (fun x x' y h1 h2 => by
      obtain ⟨_, _, e1⟩ := (C06.mem_tableKids tpid x y).1 h1
      obtain ⟨_, _, e2⟩ := (C06.mem_tableKids tpid x' y).1 h2
      rw [← e1, ← e2])
    (rk 0 + 1) 0 ⟨le_refl _, h0⟩ (by omega)
  refine ⟨root, hrep, ?_⟩
  rw [← idsBT_length]
  have hsub : idsBT root ⊆ Sub.rangeI tpid.length := by
    intro x hx
    have := (Desc.dom_rk _ _ rk hk (hdesc x hx) ⟨le_refl _, h0⟩).1
    exact (C06.mem_rangeI _ _).2 this
  have := (List.subperm_of_subset hnd hsub).length_le
  simpa [Sub.rangeI] using this

theorem length_le_flatMap_tail : ∀ brs : List (List Int), (∀ b ∈ brs, 2 ≤ b.length) → brs.length ≤ (brs.flatMap List.tail).length
  | [], _ => by simp
  | b :: bs, h => by
    have h1 := h b (by simp)
    have h2 := length_le_flatMap_tail bs (fun b' hb' => h b' (by simp [hb']))
    simp only [List.flatMap_cons, List.length_append, List.length_cons, List.length_tail]
    omega

/-- every branch has a last node of its own, and none of them is the root -/
theorem branches_length_le (r : Rose) (pids : List Int) (h : C06.IsTree r pids) : (C08.branchesOf r).length + 1 ≤ r.size := by
  have h1 := length_le_flatMap_tail (C08.branchesOf r) (fun b hb => (C16Tree2.good_tree r pids h b hb).1)
  have hsub : r.id :: (C08.branchesOf r).flatMap List.tail ⊆ r.ids := by
    intro x hx
    rcases List.mem_cons.1 hx with rfl | hx
    · exact Trav.ids_head _
    · obtain ⟨b, hb, hxb⟩ := List.mem_flatMap.1 hx
      exact C08.branch_mem r b hb x (List.mem_of_mem_tail hxb)
  have h2 := (List.subperm_of_subset (C16Tree2.tails_nodup r h.1.2) hsub).length_le
  rw [SortM.ids_length, List.length_cons] at h2
  omega

/-- **the resampled tree is a well-formed sorted tree — for EVERY well-formed tree, every branch-resampler callback and every pairing callback
that is a state-independent matching of children (`PairOK1`), for EVERY fuel `≥ 2 n + 1`**: the generated `Resampler.__call__`
(`bt_from_tree`, the resampler on every branch, `bt_assemble`) does not raise or run out of fuel and returns a table with ids `0 .. m-1`, a
`C07.WF` parent column, root first, every parent an earlier row, `1 + weight root` rows for a rose tree `root` that the resampled branch tree
represents (`Rep`), with at most as many key nodes as the tree has branches + 1.  There is no hypothesis on the resampled branch tree. -/
theorem generated_resample_tree_wf (r : Rose) (pids : List Int) (h : C06.IsTree r pids) (hp : PairOK1 pair) (cbs : σ) :
    ∃ root : BT, root.size ≤ (C08.branchesOf r).length + 1 ∧ ∀ F : Nat,
      ∃ s' nid npid, resam_tree resample pair dupFirst dupLast (2 * r.size + F + 1) (Sub.rangeI pids.length) pids cbs = some (s', (nid, npid)) ∧
        C07.WF npid ∧ npid.length = 1 + weight root ∧ nid = (List.range npid.length).map (fun (k : Nat) => (k : Int)) ∧
        npid.head? = some (-1) ∧ ∀ k (h : k < npid.length), 0 < k → 0 ≤ npid[k] ∧ npid[k] < (k : Int) := by
  obtain ⟨t, ht, hid, hlen, rk, hrk⟩ := fromTree_ranked r pids h
  obtain ⟨root, hrep, hsz⟩ := rep_of_ranked_sized pair dupFirst dupLast t.id t.pid (mapDict resample cbs [] t.branches).2 hid
    (hlen ▸ Nat.succ_pos _) hp rk hrk
  have hb := branches_length_le r pids h
  exact ⟨root, hlen ▸ hsz, fun F =>
    generated_resample_tree_wf_partial resample pair dupFirst dupLast root _ _ pids cbs t (ht F) (by omega) hrep⟩

end

/-- non-vacuity: the pairing used in the kernel-evaluated example of `Props/C16Tree.lean` (branches and children in order) satisfies `PairOK`,
and `PairOK1` (`zip_pairOK1` below), so `generated_resample_tree_wf` applies to it on every tree, e.g. on the Y-shaped tree evaluated there -/
example : PairOK (σ := Nat) (fun s bs cs => (s, List.zip bs cs)) :=
  ⟨fun _ _ _ _ => rfl, fun _ _ _ _ hpr => (List.of_mem_zip hpr).2⟩
theorem zip_snd_sublist {α β : Type} : ∀ (bs : List α) (cs : List β), ((List.zip bs cs).map Prod.snd).Sublist cs
  | [], cs => by simp
  | _ :: _, [] => by simp
  | b :: bs, c :: cs => by simpa using zip_snd_sublist bs cs

/-- the pairing of the kernel-evaluated example (branch `i` with child `i`) is a matching -/
theorem zip_pairOK1 : PairOK1 (σ := Nat) (fun s bs cs => (s, List.zip bs cs)) :=
  ⟨⟨fun _ _ _ _ => rfl, fun _ _ _ _ hpr => (List.of_mem_zip hpr).2⟩,
    fun _ bs cs hcs => hcs.sublist (zip_snd_sublist bs cs)⟩
theorem exY_isTree : C06.IsTree (.node 0 [.node 1 [.node 2 [], .node 3 []]]) [-1, 0, 1, 1] := by
  refine ⟨⟨?_, by decide⟩, by decide, rfl, rfl⟩
  simp only [Agrees, AgreesL, and_true]
  decide

/-- the hypotheses of `generated_resample_tree_wf` are jointly satisfiable: the Y-shaped tree, the identity "resampler" (counting its calls in the
shared state), the zip pairing — the instance of the theorem -/
example := generated_resample_tree_wf (σ := Nat) (fun s br => (s + 1, br)) (fun s bs cs => (s, List.zip bs cs)) (fun _ _ => true) (fun _ _ => true)
  _ _ exY_isTree zip_pairOK1 0

end C16Tree
