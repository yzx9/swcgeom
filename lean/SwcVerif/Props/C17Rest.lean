import SwcVerif.Props.C17Front
import SwcVerif.Props.C07Gen
import SwcVerif.Gen.AlgoMstRest
/-! # C17, the rest of `swcgeom/transforms/mst.py` tied to the source by the translator

`Gen.Algo.cuntz_init` / `Gen.Algo.mst_init` are regenerated on every run from `PointsToCuntzMST.__init__` / `PointsToMST.__init__`,
`Gen.Algo.mst_tail` from the final `if self.sort: t = sort_tree(t)` of `PointsToCuntzMST.__call__` and `Gen.Algo.sort_tree_pub` from
`core/tree_utils.py::sort_tree` (which calls the generated `_sort_tree`, `Gen.Algo.sort_tree_`).

* `generated_cuntz_init` / `generated_mst_init`: what the constructors store, for every value of their parameters.
* `generated_ctor_limit` / `generated_cuntz_ctor`: which `bf` / limit / `exclude_soma` / `sort` the LOOP then sees for every way of SPELLING
  the arguments of `PointsToMST(...)` (positional / keyword `furcations`, the deprecated kf `k_furcations`, defaults, `sort` through
  `**kwargs`) and of `PointsToCuntzMST(...)`. The binding of a spelling to the parameters (`MstArgs.bind`, `CuntzArgs.bind`: Python's call
  protocol with the DEFAULTS of the two `def`s — those are checked against the source on every run by the `defaults` field of the specs in
  harness/algo_specs/17c_mstrest.py, and the suite c17.genrest runs the real constructors under every spelling) is hand-written.
* `generated_tail_sorted` / `generated_call_sorted_spanning`: the tree the USER receives (`sort=True`, the default): the final sort succeeds on
  the parents of the generated `__call__` and returns ids `0…n-1`, a well-formed tree whose parents precede their children, of the same
  size, the type column carried along by the row permutation. -/
namespace C17
open Mst Gen.Algo RefineMst RefineMstFront SortM

/-! ## the constructors -/

/-- **`PointsToCuntzMST.__init__` as generated**: never raises; stores `np.clip(bf, 0, 1)` and the other three parameters unchanged -/
theorem generated_cuntz_init (bf : Rat) (k : Int) (ex sort : Bool) :
    cuntz_init (K := Rat) bf k ex sort = some (Py.clip bf 0 1, k, ex, sort, ()) := by
  simp only [cuntz_init, cuntz_init.body, Py.seq, Py.finish, Option.map]

theorem clip_eq_min_max {K : Type} [LinearOrder K] (x lo hi : K) : Py.clip x lo hi = min hi (max x lo) := by
  rw [min_def_lt, max_def_lt]; rfl

theorem clip_of_le {K : Type} [LinearOrder K] (x lo hi : K) (h : lo ≤ hi) :
    lo ≤ Py.clip x lo hi ∧ Py.clip x lo hi ≤ hi ∧ (lo ≤ x → x ≤ hi → Py.clip x lo hi = x) ∧ (x < lo → Py.clip x lo hi = lo) ∧
      (hi < x → Py.clip x lo hi = hi) := by
  rw [clip_eq_min_max]
  refine ⟨le_min h (le_max_right x lo), min_le_left _ _, fun h0 h1 => ?_, fun h0 => ?_, fun h1 => ?_⟩
  · rw [max_eq_left h0, min_eq_right h1]
  · rw [max_eq_right h0.le, min_eq_right h]
  · rw [max_eq_left (h.trans h1.le), min_eq_left h1.le]

theorem clip_spec (bf : Rat) :
    0 ≤ Py.clip bf 0 1 ∧ Py.clip bf 0 1 ≤ 1 ∧ (0 ≤ bf → bf ≤ 1 → Py.clip bf 0 1 = bf) ∧ (bf < 0 → Py.clip bf 0 1 = 0) ∧
      (1 < bf → Py.clip bf 0 1 = 1) :=
  clip_of_le bf 0 1 zero_le_one

/-- **`PointsToMST.__init__` as generated**: never raises; `bf = 0` (`np.clip(0, 0, 1)`), the limit is the deprecated kf when it is given
(a DeprecationWarning, site 0, is issued) and `furcations` otherwise, `sort` is the `**kwargs` entry when present and the default `True` of
`PointsToCuntzMST.__init__` otherwise -/
theorem generated_mst_init (k : Int) (kf : Option Int) (ex : Bool) (so : Option Bool) :
    mst_init (K := Rat) k kf ex so = some (0, kf.getD k, ex, so.getD true, (if kf.isSome then [0] else []), ()) := by
  cases kf <;> cases so <;> rfl

/-- a call `PointsToMST(...)` as WRITTEN: `furcations` positionally and / or by keyword, the alias, `exclude_soma`, `sort` (in `**kwargs`);
`none` = not written -/
structure MstArgs where
  pos : Option Int := none
  kw : Option Int := none
  kf : Option Int := none
  ex : Option Bool := none
  sort : Option Bool := none

/-- Python's binding of the written arguments to the parameters of `PointsToMST.__init__` (defaults `furcations=2`, `k_furcations=None`,
`exclude_soma=True`); `none` = TypeError (`furcations` given twice) -/
def MstArgs.bind (a : MstArgs) : Option (Int × Option Int × Bool × Option Bool) :=
  if a.pos.isSome && a.kw.isSome then none else some ((a.pos.orElse fun _ => a.kw).getD 2, a.kf, a.ex.getD true, a.sort)

/-- **which parameters the loop sees after `PointsToMST(...)`, for every spelling of the arguments**: `bf = 0`; the limit is the alias if
written, else the positional / keyword `furcations` if written, else 2; `exclude_soma` / `sort` are the written values, else `True` -/
theorem generated_ctor_limit (a : MstArgs) (h : ¬ (a.pos.isSome ∧ a.kw.isSome)) :
    ∃ p, a.bind = some p ∧
      mst_init (K := Rat) p.1 p.2.1 p.2.2.1 p.2.2.2 =
        some (0, (a.kf.orElse fun _ => a.pos.orElse fun _ => a.kw).getD 2, a.ex.getD true, a.sort.getD true,
          (if a.kf.isSome then [0] else []), ()) := by
  refine ⟨_, if_neg (by rw [Bool.and_eq_true]; exact h), ?_⟩
  rw [generated_mst_init]
  cases a.kf <;> rfl

/-- a call `PointsToCuntzMST(...)` as written (keyword-only parameters) -/
structure CuntzArgs where
  bf : Option Rat := none
  k : Option Int := none
  ex : Option Bool := none
  sort : Option Bool := none

/-- defaults `bf=0.4`, `furcations=2`, `exclude_soma=True`, `sort=True` -/
def CuntzArgs.bind (a : CuntzArgs) : Rat × Int × Bool × Bool := (a.bf.getD (2 / 5), a.k.getD 2, a.ex.getD true, a.sort.getD true)

/-- **which parameters the loop sees after `PointsToCuntzMST(...)`**: `bf` forced into `[0, 1]` (unchanged when already there: the default
0.4 is), the others as written, else their defaults -/
theorem generated_cuntz_ctor (a : CuntzArgs) :
    ∃ bf', cuntz_init (K := Rat) a.bind.1 a.bind.2.1 a.bind.2.2.1 a.bind.2.2.2 = some (bf', a.k.getD 2, a.ex.getD true, a.sort.getD true, ()) ∧
      0 ≤ bf' ∧ bf' ≤ 1 ∧ (a.bf = none → bf' = 2 / 5) ∧ (∀ b, a.bf = some b → 0 ≤ b → b ≤ 1 → bf' = b) := by
  refine ⟨_, generated_cuntz_init _ _ _ _, (clip_spec _).1, (clip_spec _).2.1, ?_, ?_⟩
  · intro h
    simp only [CuntzArgs.bind, h, Option.getD_none]
    exact (clip_spec _).2.2.1 (by norm_num) (by norm_num)
  · intro b h h0 h1
    simp only [CuntzArgs.bind, h, Option.getD_some]
    exact (clip_spec _).2.2.1 h0 h1

/-! ## the final `if self.sort: t = sort_tree(t)` -/

/-- following parents (`up`) to row 0 is the walk `rootPath` of C07 ending at row 0 -/
theorem rootPath_of_up (s : Mst.St) (n : Nat) (hlen : s.pid.length = n) (h0 : s.pid.getD 0 0 = -1)
    (hpar : ∀ j, j < n → j ≠ 0 → ∃ i, i < n ∧ s.pid.getD j 0 = (i : Int)) :
    ∀ d j, j < n → up s d j = 0 → ∀ f, d ≤ f → (Redir.rootPath s.pid f (j : Int)).getLast? = some 0 := by
  intro d j hj
  have hn : 0 < n := Nat.zero_lt_of_lt hj
  refine up_induction hlen hpar (P := fun d j => ∀ f, d ≤ f → (Redir.rootPath s.pid f (j : Int)).getLast? = some 0) ?_ ?_ d j hj
  · intro _ f _
    cases f with
    | zero => rfl
    | succ f => rw [Redir.rp_succ, Int.toNat_natCast, Py.getD_default s.pid (-1) 0 (hlen ▸ hn), h0, if_pos rfl]; rfl
  · intro d i j _ e ih f hf
    obtain ⟨f', rfl⟩ : ∃ f', f = f' + 1 := ⟨f - 1, by omega⟩
    rw [Redir.rp_succ, Int.toNat_natCast, e, if_neg (by omega),
      List.getLast?_cons_of_ne_nil (Redir.rp_ne_nil _ _ _)]
    exact ih f' (by omega)

/-- the parents the greedy loop leaves (facts of `generated_call_spanning`) form a well-formed table rooted at row 0 -/
theorem wfr_of_spanning (s : Mst.St) (n : Nat) (hn : 0 < n) (hlen : s.pid.length = n) (h0 : s.pid.getD 0 0 = -1)
    (hpar : ∀ j, j < n → j ≠ 0 → ∃ i, i < n ∧ s.pid.getD j 0 = (i : Int))
    (hreach : ∀ j, j < n → ∃ d, d ≤ n ∧ up s d j = 0) : Pipeline.WFr s.pid 0 := by
  subst hlen
  refine ⟨?_, ?_, ?_⟩
  · rw [List.getElem?_eq_getElem hn, ← Py.getD_eq_getElem _ 0 hn, h0]
  · intro k hk k0
    obtain ⟨i, hi, hpi⟩ := hpar k hk k0
    rw [← Py.getD_eq_getElem _ 0 hk, hpi]
    exact ⟨Int.natCast_nonneg i, Int.ofNat_lt.mpr hi⟩
  · intro k hk
    obtain ⟨d, hd, hu⟩ := hreach k hk
    exact rootPath_of_up s _ rfl h0 hpar d k hk hu _ hd

/-- **the final `if self.sort: t = sort_tree(t)` as generated** on the table the generated `__call__` returns (any parents with the spanning
facts, any type column of the same length): with `sort = True` the generated `sort_tree` → `_sort_tree` succeeds and returns ids
`0 … n-1`, the parents of a WELL-FORMED tree in which EVERY PARENT PRECEDES ITS CHILDREN, of the same size, and the type column carried
along by the row permutation of C05's model; with `sort = False` the columns are returned unchanged. Fuel: any `n + 1 + F`. -/
theorem generated_tail_sorted (s : Mst.St) (n : Nat) (hn : 0 < n) (hlen : s.pid.length = n) (h0 : s.pid.getD 0 0 = -1)
    (hpar : ∀ j, j < n → j ≠ 0 → ∃ i, i < n ∧ s.pid.getD j 0 = (i : Int))
    (hreach : ∀ j, j < n → ∃ d, d ≤ n ∧ up s d j = 0) (types : List Int) (hlt : types.length = n) (F : Nat) :
    (∃ res, sortNodesImpl (C07.idsOf n) s.pid = .ok res ∧
      mst_tail (n + 1 + F) (C07.idsOf n) s.pid types true =
        some (Py.range (n : Int), res.newPids, permute types res.indices, ()) ∧
      C07.WF res.newPids ∧ (∀ j (h : j < res.newPids.length), 0 < j → res.newPids[j] < (j : Int)) ∧ res.newPids.length = n) ∧
    mst_tail (n + 1 + F) (C07.idsOf n) s.pid types false = some (C07.idsOf n, s.pid, types, ()) := by
  have hw := wfr_of_spanning s n hn hlen h0 hpar hreach
  obtain ⟨res, hres, hwf, hs, hl⟩ := Pipeline.wfr_sorted _ 0 hw
  rw [hlen] at hres hl
  have hres' : sortNodesImpl (C07.idsOf n) s.pid = .ok res := hres
  have hil : (C07.idsOf n).length = n := by simp [C07.idsOf]
  have hst := RefineRedirect.sortTree_refines (C07.idsOf n) s.pid types (Represent.rangeI_nodup n) (by rw [hil, hlen]) (by rw [hil, hlt])
    res hres' F
  rw [hil] at hst
  refine ⟨⟨res, hres', ?_, hwf, hs, hl⟩, ?_⟩
  · simp [mst_tail, mst_tail.body, sort_tree_pub, sort_tree_pub.body, Py.bind, Py.finish, hst]
  · simp [mst_tail, mst_tail.body, Py.skip, Py.finish]

/-- **the tree the user receives** (`sort=True`, the default of both constructors) — the generated `__call__` followed by the generated
final sort, for every cloud of triples, optional soma triple, ANY norm, every `bf`, every limit `k = -1 ∨ 1 ≤ k`: the call returns the table
`T` over `soma :: points` (`generated_call_spanning`: one row per point, a single tree rooted at row 0), and the final sort applied to ITS
id / parent / type columns succeeds and returns ids `0 … n-1`, a well-formed tree (row 0 is the only parentless row and every row
reaches it) in which every parent precedes its children, with as many rows as points, the types permuted along. That row 0 of the sorted
table is the soma / first point is not stated: nothing is said about `res.indices`. The coordinate columns are gathered by the same
permutation in `_sort_tree` (`tree.ndata[k][id_map]` for every column): they are not part of this 3-column instance (suite c17 compares
the point set of the real sorted tree). -/
theorem generated_call_sorted_spanning (norm : List Rat → Rat) (pts : List (List Rat)) (soma : Option (List Rat))
    (hp : Rows3 pts) (hs : ∀ s, soma = some s → s.length = 3) (hn : 0 < (allPts soma pts).length)
    (bf : Rat) (k : Int) (ex : Bool) (tg ts : Int) (hk : k = -1 ∨ 1 ≤ k) (F : Nat) :
    ∃ (s : Mst.St) (T : _) (res : Result), mst_call (K := Rat) norm pts soma bf k ex tg ts = some T ∧
      T = tableWith (allPts soma pts) tg ts s.pid (disOf norm (allPts soma pts)) ∧
      mst_tail ((allPts soma pts).length + 1 + F) T.1 T.2.2.2.2.2.2.1 T.2.1 true =
        some (Py.range ((allPts soma pts).length : Int), res.newPids, permute T.2.1 res.indices, ()) ∧
      sortNodesImpl T.1 s.pid = .ok res ∧
      C07.WF res.newPids ∧ (∀ j (h : j < res.newPids.length), 0 < j → res.newPids[j] < (j : Int)) ∧
      res.newPids.length = (allPts soma pts).length ∧
      mst_tail ((allPts soma pts).length + 1 + F) T.1 T.2.2.2.2.2.2.1 T.2.1 false = some (T.1, s.pid, T.2.1, ()) := by
  obtain ⟨s, hcall, hinv, _, h0, hpar, hreach⟩ := generated_call_spanning norm pts soma hp hs hn bf k ex tg ts hk
  obtain ⟨⟨res, hres, htail, hwf, hsorted, hl⟩, hns⟩ := generated_tail_sorted s _ hn hinv.len.1 h0 hpar hreach
    ((List.replicate (allPts soma pts).length tg).set 0 ts) (by simp) F
  exact ⟨s, _, res, hcall, rfl, htail, hres, hwf, hsorted, hl, hns⟩

/-- non-vacuity (kernel-evaluated): the generated tail on a 4-row table whose parents are not in sorted order -/
example : mst_tail 5 [0, 1, 2, 3] [-1, 2, 0, 0] [1, 7, 7, 7] true = some ([0, 1, 2, 3], [-1, 0, 0, 2], [1, 7, 7, 7], ()) := by decide +kernel
example : mst_tail 5 [0, 1, 2, 3] [-1, 2, 0, 0] [1, 7, 7, 7] false = some ([0, 1, 2, 3], [-1, 2, 0, 0], [1, 7, 7, 7], ()) := by decide +kernel
example : mst_init (K := Rat) 2 (some 5) false none = some (0, 5, false, true, [0], ()) := by rw [generated_mst_init]; rfl
example : cuntz_init (K := Rat) (3 / 2) (-1) true false = some (1, -1, true, false, ()) := by rw [generated_cuntz_init]; decide +kernel
example : ({ pos := some 3, kf := some 7 } : MstArgs).bind = some (3, some 7, true, none) := by decide +kernel

end C17
