import SwcVerif.Model.Subtree
import SwcVerif.Props.C04
import SwcVerif.Props.C05
import SwcVerif.Refine.PyRun
/-! # C06 — subtree extraction and pruning keep exactly the specified nodes

Theorems about the models of `Model/Subtree.lean` (tied to the code by the `c06.ops` correspondence:
new parents and new→old mapping compared exactly, exhaustively for all small sorted trees).
The traversals are C04's machine; by `Trav.main` they equal structural recursion on the rose that
represents the table, so every statement is for every tree shape, depth and numbering. -/
namespace C06
open Sub Trav

theorem zip_filter_fst (p : Int → Bool) : ∀ (a b : List Int), a.length ≤ b.length →
    ((List.zip a b).filter (fun ip => p ip.1)).map (·.1) = a.filter p :=
  fun _ _ h => List.filter_map.symm.trans (congrArg (List.filter p) (List.map_fst_zip h))

theorem pos?_some (l : List Int) (i j : Int) (h : pos? l i = some j) :
    0 ≤ j ∧ ∃ hj : j.toNat < l.length, l[j.toNat] = i := by
  simp only [pos?, Option.ite_none_right_eq_some, Option.some.injEq] at h
  obtain ⟨hlt, rfl⟩ := h
  exact ⟨Int.natCast_nonneg _, by simpa using hlt, by simp⟩

theorem pos?_isSome (l : List Int) (i : Int) : (pos? l i).isSome ↔ i ∈ l := by
  simp only [pos?, ← List.idxOf_lt_length_iff]
  split <;> simp [*]

theorem tk_length (ps : List Int) (k : Nat) (q : Int) :
    (SortM.tk ps k q).length = (ps.filter (· = q)).length := by
  induction ps generalizing k with
  | nil => simp [SortM.tk]
  | cons p ps ih =>
    simp only [SortM.tk, List.filter_cons]
    by_cases h : p = q <;> simp [h, ih]

theorem tableKids_rangeI (pids : List Int) (q : Int) :
    tableKids (rangeI pids.length) pids q = SortM.tk pids 0 q :=
  SortM.tableKids_range pids pids.length rfl q

/-- a row of the table `(0..n-1, pids)`: `j` is a child of `q` iff `pids[j] = q` -/
theorem mem_tableKids (pids : List Int) (q j : Int) :
    j ∈ tableKids (rangeI pids.length) pids q ↔ 0 ≤ j ∧ ∃ h : j.toNat < pids.length, pids[j.toNat] = q := by
  rw [SortM.mem_tableKids_zip, List.mem_iff_getElem]
  simp only [List.getElem_zip, Prod.mk.injEq, List.length_zip, rangeI, List.getElem_map, List.getElem_range, List.length_map,
    List.length_range, Nat.min_self]
  constructor
  · rintro ⟨m, hm, rfl, hq⟩
    exact ⟨Int.natCast_nonneg m, hm, hq⟩
  · rintro ⟨h0, hm, hq⟩
    exact ⟨j.toNat, hm, Int.toNat_of_nonneg h0, hq⟩

theorem mem_rangeI (n : Nat) (i : Int) : i ∈ rangeI n ↔ 0 ≤ i ∧ i.toNat < n := by
  simp only [rangeI, List.mem_map, List.mem_range]
  constructor
  · rintro ⟨a, ha, rfl⟩
    exact ⟨by simp, by simpa using ha⟩
  · rintro ⟨h0, h1⟩
    exact ⟨i.toNat, h1, by simp; omega⟩

theorem nodup_bound : ∀ (n : Nat) (l : List Int), l.Nodup → (∀ i ∈ l, 0 ≤ i ∧ i.toNat < n) → l.length ≤ n := by
  intro n l hd h
  have := hd.length_le_of_subset fun i hi => (mem_rangeI n i).2 (h i hi)
  simpa [rangeI] using this

theorem run_model {σ T K : Type} (ids pids : List Int) (r : Rose) (h : Represents r ids pids) (n : Nat) (hn : r.size ≤ n)
    (enter : σ → Int → Option T → σ × T) (leave : σ → Int → List K → σ × K) (s : σ) :
    (run (tableKids ids pids) enter leave (2 * n + 2) (init r.id s)).s = (spec enter leave r none s).1 := by
  rw [← Nat.add_sub_cancel' (Nat.le_trans (Nat.mul_le_mul_left 2 hn) (Nat.le_add_right _ 2)), C04.fuel_suffices ids pids r h]
  exact (C04.traverse_eq_spec ids pids r h enter leave s).2.1

theorem rose_size_le (r : Rose) (n : Nat) (hd : r.ids.Nodup) (h : ∀ i ∈ r.ids, 0 ≤ i ∧ i.toNat < n) : r.size ≤ n := by
  rw [← SortM.ids_length]; exact nodup_bound n _ hd h

/-! ## compaction: `to_sub_topology` -/

theorem ne_removal {v : Int} (h : 0 ≤ v) : v ≠ REMOVAL := by
  simp only [REMOVAL, Gen.Consts.removalMarker]; omega

theorem newPid_isSome (ids : List Int) (p : Int) : (if p = -1 then some (-1) else pos? ids p).isSome ↔ p = -1 ∨ p ∈ ids := by
  split <;> simp [*, pos?_isSome]

theorem newPid_some (ids : List Int) (p q : Int) (h : (if p = -1 then some (-1) else pos? ids p) = some q) :
    (p = -1 → q = -1) ∧ (p ≠ -1 → 0 ≤ q ∧ ids.getD q.toNat 0 = p) := by
  split at h
  · exact ⟨fun _ => (Option.some.inj h).symm, fun hp => absurd ‹_› hp⟩
  · obtain ⟨h0, hj, hget⟩ := pos?_some _ _ _ h
    exact ⟨fun hp => absurd hp ‹_›, fun _ => ⟨h0, by rw [Py.getD_eq_getElem _ _ hj]; exact hget⟩⟩

/-- **compaction keeps exactly the unmarked rows, in order, and remaps parents**: the mapping lists the
old ids of the kept rows; new ids are positions; a kept row without parent stays without parent; a kept
row with parent `p` gets as new parent the position of `p` among the kept rows (`mapping[newPid] = p`). -/
theorem toSubTopology_spec (subId subPid : List Int) (hl : subId.length = subPid.length) (res : SubTopo)
    (h : toSubTopology subId subPid = some res) :
    res.mapping = subId.filter (· ≠ REMOVAL) ∧
    res.newPid.length = res.mapping.length ∧
    ∀ k (hk : k < res.newPid.length),
      let p := (((List.zip subId subPid).filter (fun ip => ip.1 ≠ REMOVAL)).map (·.2)).getD k 0
      (p = -1 → res.newPid[k] = -1) ∧
      (p ≠ -1 → 0 ≤ res.newPid[k] ∧ res.mapping.getD res.newPid[k].toNat 0 = p) := by
  unfold toSubTopology at h
  simp only [Option.map_eq_some_iff] at h
  obtain ⟨np, hnp, rfl⟩ := h
  obtain ⟨hlen, hk⟩ := Py.mapM_eq_some _ _ _ hnp
  refine ⟨zip_filter_fst (fun x => decide (x ≠ REMOVAL)) subId subPid (Nat.le_of_eq hl), by simp [hlen], fun k hkn => ?_⟩
  have hk1 : k < ((List.zip subId subPid).filter (fun ip => decide (ip.1 ≠ REMOVAL))).length := hlen ▸ hkn
  simp only
  rw [Py.getD_eq_getElem _ _ (by simpa using hk1), List.getElem_map]
  exact newPid_some _ _ _ (hk k hk1 hkn)

theorem toSubTopology_rows (subId subPid : List Int) (rows : List (Int × Int)) (ids : List Int)
    (hrows : (List.zip subId subPid).filter (fun ip => ip.1 ≠ REMOVAL) = rows) (hids : rows.map (·.1) = ids)
    (hpar : ∀ ip ∈ rows, ip.2 = -1 ∨ ip.2 ∈ ids) :
    ∃ res, toSubTopology subId subPid = some res ∧ res.mapping = ids ∧ res.newPid.length = rows.length ∧
      ∀ k (h1 : k < rows.length) (h2 : k < res.newPid.length),
        (rows[k].2 = -1 → res.newPid[k] = -1) ∧
        (rows[k].2 ≠ -1 → 0 ≤ res.newPid[k] ∧ res.mapping.getD res.newPid[k].toNat 0 = rows[k].2) := by
  subst hrows hids
  obtain ⟨np, hnp⟩ := Option.isSome_iff_exists.1 ((Py.mapM_isSome_iff _ _).2 fun ip hip => (newPid_isSome _ _).2 (hpar ip hip))
  obtain ⟨hlen, hk⟩ := Py.mapM_eq_some _ _ _ hnp
  exact ⟨⟨np, _⟩, by rw [toSubTopology, hnp]; rfl, rfl, hlen, fun k h1 h2 => newPid_some _ _ _ (hk k h1 h2)⟩

-- with the weaker hypothesis `subId.length ≤ subPid.length` (`List.zip` truncates)
theorem toSubTopology_ok_iff' (subId subPid : List Int) (hl : subId.length ≤ subPid.length) :
    (toSubTopology subId subPid).isSome ↔
      ∀ ip ∈ (List.zip subId subPid).filter (fun ip => ip.1 ≠ REMOVAL),
        ip.2 = -1 ∨ ip.2 ∈ subId.filter (· ≠ REMOVAL) := by
  rw [← zip_filter_fst (fun x => decide (x ≠ REMOVAL)) subId subPid hl]
  simp only [toSubTopology, Option.isSome_map, Py.mapM_isSome_iff, newPid_isSome]

/-- compaction fails (KeyError in the code) exactly when some kept row's parent is neither `-1` nor kept -/
theorem toSubTopology_ok_iff (subId subPid : List Int) (hl : subId.length = subPid.length) :
    (toSubTopology subId subPid).isSome ↔
      ∀ ip ∈ (List.zip subId subPid).filter (fun ip => ip.1 ≠ REMOVAL),
        ip.2 = -1 ∨ ip.2 ∈ subId.filter (· ≠ REMOVAL) :=
  toSubTopology_ok_iff' subId subPid (by omega)

/-- every per-node column is read through the mapping: the survivors keep all their attributes -/
theorem attrs_preserved {α : Type} [Inhabited α] (col : List α) (mapping : List Int) (k : Nat) (hk : k < mapping.length) :
    (takeRows col mapping).length = mapping.length ∧
    (takeRows col mapping)[k]'(by simp [takeRows]; exact hk) = col.getD (mapping[k]).toNat default :=
  ⟨List.length_map _, List.getElem_map _⟩

/-! ## `get_subtree` -/

mutual
theorem spec_logEnter : ∀ (r : Rose) (pv : Option Unit) (acc : List Int),
    spec logEnterIds noLeave r pv acc = (acc ++ C04.enterOrder r, ())
  | .node i ks, pv, acc => by
    simp only [spec, logEnterIds, noLeave, C04.enterOrder]
    rw [specRev_logEnter ks () (acc ++ [i])]
    simp
theorem specRev_logEnter : ∀ (ks : List Rose) (cur : Unit) (acc : List Int),
    (specRev logEnterIds noLeave ks cur acc).1 = acc ++ C04.enterOrderRev ks
  | [], _, acc => by simp [specRev, C04.enterOrderRev]
  | r :: rs, cur, acc => by
    simp only [specRev, C04.enterOrderRev]
    rw [spec_logEnter r, specRev_logEnter rs]
    simp
end

mutual
theorem edge_of_mem : ∀ (r : Rose) (v : Int), v ∈ r.ids →
    v = r.id ∨ ∃ a, a ∈ r.ids ∧ (a, v) ∈ C05.edges r
  | .node i ks, v, hv => by
    simp only [Rose.ids, List.mem_cons] at hv
    rcases hv with hv | hv
    · left; simp [Rose.id, hv]
    · right
      rcases edge_of_memL ks v hv with ⟨k, hk, rfl⟩ | ⟨a, ha, he⟩
      · refine ⟨i, by simp [Rose.ids], ?_⟩
        simp only [C05.edges, List.mem_append, List.mem_map]
        exact Or.inl ⟨k, hk, rfl⟩
      · exact ⟨a, by simp [Rose.ids, ha], by simp [C05.edges, he]⟩
theorem edge_of_memL : ∀ (ks : List Rose) (v : Int), v ∈ idsL ks →
    (∃ k ∈ ks, v = k.id) ∨ ∃ a, a ∈ idsL ks ∧ (a, v) ∈ C05.edgesL ks
  | [], v, hv => by simp [idsL] at hv
  | r :: rs, v, hv => by
    simp only [idsL, List.mem_append] at hv
    rcases hv with hv | hv
    · rcases edge_of_mem r v hv with h | ⟨a, ha, he⟩
      · exact Or.inl ⟨r, by simp, h⟩
      · exact Or.inr ⟨a, by simp [idsL, ha], by simp [C05.edgesL, he]⟩
    · rcases edge_of_memL rs v hv with ⟨k, hk, h⟩ | ⟨a, ha, he⟩
      · exact Or.inl ⟨k, by simp [hk], h⟩
      · exact Or.inr ⟨a, by simp [idsL, ha], by simp [C05.edgesL, he]⟩
end

/-- an edge of the representing rose is a row of the table `(0..n-1, pids)` -/
theorem edge_parent (pids : List Int) (r : Rose) (h : Represents r (rangeI pids.length) pids) (a v : Int)
    (he : (a, v) ∈ C05.edges r) : 0 ≤ v ∧ v.toNat < pids.length ∧ pids.getD v.toNat (-1) = a := by
  have := C05.edge_is_row r _ _ h a v he
  rw [mem_tableKids] at this
  obtain ⟨h0, hlt, hq⟩ := this
  exact ⟨h0, hlt, by rw [Py.getD_eq_getElem _ _ hlt]; exact hq⟩

/-- **the subtree at a node is precisely that node and its descendants**: the kept old ids are the
`enter` order of the rose hanging at `n` (a permutation of its ids, `C04.enterOrder_perm`), the node
itself becomes the new root, and every other survivor's new parent is the new id of its old parent. -/
theorem subtree_nodes (pids : List Int) (s : Rose) (h : Represents s (rangeI pids.length) pids)
    (hin : ∀ i ∈ s.ids, 0 ≤ i ∧ i.toNat < pids.length) :
    ∃ res, getSubtree pids s.id = some res ∧
      res.mapping = C04.enterOrder s ∧ res.mapping.Perm s.ids ∧
      res.newPid.head? = some (-1) ∧
      ∀ k (hk : k < res.newPid.length), 0 < k →
        0 ≤ res.newPid[k] ∧ res.mapping.getD res.newPid[k].toNat 0 = pids.getD (res.mapping.getD k 0).toNat (-1) := by
  obtain ⟨i, ks⟩ := s
  have hperm := C04.enterOrder_perm (.node i ks)
  unfold getSubtree
  simp only
  rw [run_model _ _ _ h _ (rose_size_le _ _ h.2 hin), spec_logEnter, List.nil_append]
  simp only [C04.enterOrder] at hperm ⊢
  generalize hE : C04.enterOrderRev ks = E at hperm ⊢
  show ∃ res, toSubTopology (i :: E) (-1 :: E.map fun v => pids.getD v.toNat (-1)) = some res ∧ _
  have hEmem : ∀ v ∈ i :: E, 0 ≤ v ∧ v.toNat < pids.length := fun v hv => hin v (hperm.mem_iff.1 hv)
  have hpar : ∀ v ∈ E, pids.getD v.toNat (-1) ∈ i :: E := fun v hv => by
    have hmem : v ∈ idsL ks := (C04.enterOrderRev_perm ks).mem_iff.1 (hE ▸ hv)
    rcases edge_of_mem (.node i ks) v (List.mem_cons_of_mem _ hmem) with hroot | ⟨a, ha, he⟩
    · exact absurd ((show v = i from hroot) ▸ hmem) (List.nodup_cons.1 h.2).1
    · rw [(edge_parent pids _ h a _ he).2.2]
      exact hperm.mem_iff.2 ha
  -- the rows handed to the compaction: the root without parent, then the other entered ids with their parents; none is marked
  have hrows : (List.zip (i :: E) (-1 :: E.map fun v => pids.getD v.toNat (-1))).filter (fun ip => decide (ip.1 ≠ REMOVAL))
      = (i, -1) :: E.map fun v => (v, pids.getD v.toNat (-1)) := by
    rw [List.filter_eq_self.2 fun ip hip => decide_eq_true (ne_removal (hEmem ip.1 (List.of_mem_zip hip).1).1)]
    exact congrArg _ List.map_prod_left_eq_zip.symm
  obtain ⟨res, hres, hmap, hnl, hrw⟩ := toSubTopology_rows _ _ _ (i :: E) hrows
    (by rw [List.map_cons, List.map_map]; exact congrArg _ (List.map_id' _)) (by
      intro ip hip
      rcases List.mem_cons.1 hip with rfl | hip
      · exact Or.inl rfl
      · obtain ⟨v, hv, rfl⟩ := List.mem_map.1 hip
        exact Or.inr (hpar v hv))
  rw [List.length_cons, List.length_map] at hnl
  refine ⟨res, hres, hmap, hmap ▸ hperm, ?_, fun k hk hk0 => ?_⟩
  · rw [List.head?_eq_getElem?, List.getElem?_eq_getElem (by omega)]
    exact congrArg some ((hrw 0 (Nat.succ_pos _) (by omega)).1 rfl)
  · obtain ⟨k, rfl⟩ := Nat.exists_eq_succ_of_ne_zero (Nat.ne_of_gt hk0)
    have hkE : k < E.length := by omega
    have hrow := (hrw (k + 1) (by simpa using hkE) hk).2
    simp only [List.getElem_cons_succ, List.getElem_map] at hrow
    rw [hmap] at hrow ⊢
    rw [List.getD_cons_succ, Py.getD_eq_getElem _ _ hkE]
    exact hrow (by have := (hEmem _ (hpar _ (List.getElem_mem hkE))).1; omega)

/-! ## removal marks: `propagate_removal` -/

-- ids that end up marked: a node is marked when it was marked initially or its parent ends up marked
mutual
def removedSet (marked : Int → Bool) : Rose → Bool → List Int
  | .node i ks, inh => (if inh || marked i then [i] else []) ++ removedSetL marked ks (inh || marked i)
def removedSetL (marked : Int → Bool) : List Rose → Bool → List Int
  | [], _ => []
  | r :: rs, inh => removedSet marked r inh ++ removedSetL marked rs inh
end

/-- the whole table is the tree `r` rooted at node 0 (whose row has no parent) -/
def IsTree (r : Rose) (pids : List Int) : Prop :=
  Represents r (rangeI pids.length) pids ∧ r.ids.Perm (rangeI pids.length) ∧ r.id = 0 ∧ pids.head? = some (-1)

theorem isTree_size {r : Rose} {pids : List Int} (h : IsTree r pids) : r.size = pids.length := by
  rw [← SortM.ids_length]
  have := h.2.1.length_eq
  simpa [rangeI] using this

theorem isTree_mem {r : Rose} {pids : List Int} (h : IsTree r pids) (v : Int) :
    v ∈ r.ids ↔ 0 ≤ v ∧ v.toNat < pids.length := by
  rw [h.2.1.mem_iff, mem_rangeI]

/-- on a tree table every model traversal (fuel `2n+2`, start node 0) is structural recursion on `r` -/
theorem run_tree {σ T K : Type} {r : Rose} {pids : List Int} (h : IsTree r pids)
    (enter : σ → Int → Option T → σ × T) (leave : σ → Int → List K → σ × K) (s : σ) :
    (run (tableKids (rangeI pids.length) pids) enter leave (2 * pids.length + 2) (init 0 s)).s
      = (spec enter leave r none s).1 := by
  have := run_model _ _ r h.1 pids.length (Nat.le_of_eq (isTree_size h)) enter leave s
  rw [h.2.2.1] at this
  exact this

mutual
theorem removedSet_sublist (m : Int → Bool) : ∀ (r : Rose) (inh : Bool), (removedSet m r inh).Sublist r.ids
  | .node i ks, inh => by
    simp only [removedSet, Rose.ids]
    split
    · exact (removedSetL_sublist m ks _).cons_cons i
    · exact (removedSetL_sublist m ks _).cons i
theorem removedSetL_sublist (m : Int → Bool) : ∀ (ks : List Rose) (inh : Bool), (removedSetL m ks inh).Sublist (idsL ks)
  | [], _ => .slnil
  | r :: rs, inh => (removedSet_sublist m r inh).append (removedSetL_sublist m rs inh)
end

def decided (ids S : List Int) (m : Int → Bool) : Int → Bool := fun v => if v ∈ ids then decide (v ∈ S) else m v

theorem decided_of_not_mem {ids S : List Int} {m : Int → Bool} {v : Int} (h : v ∉ ids) : decided ids S m v = m v :=
  if_neg h

theorem decided_append {a b Sa Sb : List Int} (m : Int → Bool) (ha : Sa ⊆ a) (hb : Sb ⊆ b)
    (hd : ∀ v ∈ a, v ∉ b) : decided a Sa (decided b Sb m) = decided (a ++ b) (Sa ++ Sb) m := by
  funext v
  simp only [decided, List.mem_append]
  by_cases h1 : v ∈ a
  · have : v ∉ Sb := fun h => hd v h1 (hb h)
    simp [h1, this]
  · have : v ∉ Sa := fun h => h1 (ha h)
    simp [h1, this]

theorem upd_decided {ids S : List Int} (m : Int → Bool) {i : Int} (b : Bool) (hi : i ∉ ids) (hS : S ⊆ ids) :
    upd (decided ids S m) i b = decided (i :: ids) ((if b then [i] else []) ++ S) m := by
  funext v
  simp only [decided, upd, List.mem_cons, List.mem_append]
  by_cases hv : v = i
  · subst hv
    have : v ∉ S := fun h => hi (hS h)
    cases b <;> simp [this]
  · cases b <;> simp [hv]

theorem decided_upd {ids S : List Int} (m : Int → Bool) {i : Int} (b : Bool) (hi : i ∉ ids) :
    decided ids S (upd m i b) = upd (decided ids S m) i b := by
  funext v
  by_cases hv : v = i
  · subst hv; simp [decided, upd, hi]
  · simp [decided, upd, hv]

theorem propEnter_eq (m : Int → Bool) (i : Int) (pv : Option Bool) :
    propEnter m i pv = (upd m i (pv.getD false || m i), pv.getD false || m i) := by
  refine Prod.ext ?_ rfl
  funext v
  simp only [propEnter]
  by_cases hv : v = i
  · subst hv; cases pv.getD false <;> cases h : m v <;> simp [upd, h]
  · split <;> simp [upd, hv]

mutual
theorem spec_prop (m0 : Int → Bool) : ∀ (r : Rose) (pv : Option Bool) (m : Int → Bool), r.ids.Nodup →
    (∀ v ∈ r.ids, m v = m0 v) →
    spec propEnter noLeave r pv m = (decided r.ids (removedSet m0 r (pv.getD false)) m, ())
  | .node i ks, pv, m, hd, hm => by
    obtain ⟨hi, hdk⟩ := List.nodup_cons.1 hd
    simp only [spec, noLeave]
    rw [propEnter_eq, hm i List.mem_cons_self, specRev_prop m0 ks _ (upd m i _) hdk fun v hv =>
      (if_neg fun (e : v = i) => hi (e ▸ hv)).trans (hm v (List.mem_cons_of_mem _ hv))]
    rw [decided_upd _ _ hi, upd_decided _ _ hi (removedSetL_sublist m0 ks _).subset]
    rfl
theorem specRev_prop (m0 : Int → Bool) : ∀ (ks : List Rose) (cur : Bool) (m : Int → Bool), (idsL ks).Nodup →
    (∀ v ∈ idsL ks, m v = m0 v) →
    (specRev propEnter noLeave ks cur m).1 = decided (idsL ks) (removedSetL m0 ks cur) m
  | [], _, m, _, _ => funext fun v => (decided_of_not_mem List.not_mem_nil).symm
  | r :: rs, cur, m, hd, hm => by
    simp only [idsL, List.nodup_append] at hd
    obtain ⟨hdr, hdrs, hdisj⟩ := hd
    simp only [specRev]
    rw [specRev_prop m0 rs cur m hdrs fun v hv => hm v (by simp [idsL, hv]),
      spec_prop m0 r (some cur) _ hdr fun v hv =>
        (decided_of_not_mem fun hh => hdisj v hv v hh rfl).trans (hm v (by simp [idsL, hv]))]
    exact decided_append m (removedSet_sublist m0 r _).subset (removedSetL_sublist m0 rs _).subset fun v h1 h2 => hdisj v h1 v h2 rfl
end

/-- **marks reach exactly the marked nodes and everything below them** -/
theorem propagate_marks (pids : List Int) (r : Rose) (h : IsTree r pids) (marked : Int → Bool) (v : Int) :
    propagateRemoval pids marked v = if v ∈ r.ids then decide (v ∈ removedSet marked r false) else marked v := by
  unfold propagateRemoval
  rw [run_tree h, spec_prop marked r none marked h.1.2 (fun _ _ => rfl)]
  rfl

mutual
theorem removedSet_true (m : Int → Bool) : ∀ r : Rose, removedSet m r true = r.ids
  | .node i ks => by simp [removedSet, Rose.ids, removedSetL_true m ks]
theorem removedSetL_true (m : Int → Bool) : ∀ ks : List Rose, removedSetL m ks true = idsL ks
  | [] => by simp [removedSetL, idsL]
  | r :: rs => by simp [removedSetL, idsL, removedSet_true m r, removedSetL_true m rs]
end

/-- once a node is removed, its whole subtree is (stated as a permutation; `removedSet_true` is the equality) -/
theorem removedSet_all (marked : Int → Bool) (r : Rose) : (removedSet marked r true).Perm r.ids := by
  rw [removedSet_true]

mutual
theorem removedSet_sound' (m : Int → Bool) : ∀ (r : Rose) (inh : Bool) (v : Int), v ∈ removedSet m r inh →
    (inh = true ∧ v = r.id) ∨ m v = true ∨ ∃ a, a ∈ removedSet m r inh ∧ (a, v) ∈ C05.edges r
  | .node i ks, inh, v, hv => by
    simp only [removedSet, List.mem_append] at hv
    rcases hv with hv | hv
    · split at hv
      · rename_i hb
        simp only [List.mem_singleton] at hv
        subst hv
        simp only [Bool.or_eq_true] at hb
        rcases hb with hb | hb
        · exact Or.inl ⟨hb, rfl⟩
        · exact Or.inr (Or.inl hb)
      · simp at hv
    · rcases removedSetL_sound' m ks _ v hv with ⟨hb, k, hk, rfl⟩ | hmv | ⟨a, ha, he⟩
      · right; right
        refine ⟨i, ?_, ?_⟩
        · simp [removedSet, hb]
        · simp only [C05.edges, List.mem_append, List.mem_map]
          exact Or.inl ⟨k, hk, rfl⟩
      · exact Or.inr (Or.inl hmv)
      · right; right
        exact ⟨a, by simp [removedSet, ha], by simp [C05.edges, he]⟩
theorem removedSetL_sound' (m : Int → Bool) : ∀ (ks : List Rose) (inh : Bool) (v : Int), v ∈ removedSetL m ks inh →
    (inh = true ∧ ∃ k ∈ ks, v = k.id) ∨ m v = true ∨ ∃ a, a ∈ removedSetL m ks inh ∧ (a, v) ∈ C05.edgesL ks
  | [], _, v, hv => by simp [removedSetL] at hv
  | r :: rs, inh, v, hv => by
    simp only [removedSetL, List.mem_append] at hv
    rcases hv with hv | hv
    · rcases removedSet_sound' m r inh v hv with ⟨hb, hv⟩ | hmv | ⟨a, ha, he⟩
      · exact Or.inl ⟨hb, r, by simp, hv⟩
      · exact Or.inr (Or.inl hmv)
      · exact Or.inr (Or.inr ⟨a, by simp [removedSetL, ha], by simp [C05.edgesL, he]⟩)
    · rcases removedSetL_sound' m rs inh v hv with ⟨hb, k, hk, hv⟩ | hmv | ⟨a, ha, he⟩
      · exact Or.inl ⟨hb, k, by simp [hk], hv⟩
      · exact Or.inr (Or.inl hmv)
      · exact Or.inr (Or.inr ⟨a, by simp [removedSetL, ha], by simp [C05.edgesL, he]⟩)
end

/-- a node that is neither marked nor below a marked node survives: the removed set only contains marked
nodes and nodes with a removed parent -/
theorem removedSet_sound (marked : Int → Bool) (r : Rose) (v : Int) (hv : v ∈ removedSet marked r false) :
    marked v = true ∨ ∃ a, a ∈ removedSet marked r false ∧ (a, v) ∈ C05.edges r := by
  rcases removedSet_sound' marked r false v hv with ⟨hb, _⟩ | h | h
  · cases hb
  · exact Or.inl h
  · exact Or.inr h

/-! ## `to_subtree` -/

mutual
theorem edges_src : ∀ (r : Rose) (a v : Int), (a, v) ∈ C05.edges r → a ∈ r.ids
  | .node i ks, a, v, h => by
    simp only [C05.edges, List.mem_append, List.mem_map, Prod.mk.injEq] at h
    simp only [Rose.ids, List.mem_cons]
    rcases h with ⟨k, _, rfl, _⟩ | h
    · exact Or.inl rfl
    · exact Or.inr (edgesL_src ks a v h)
theorem edgesL_src : ∀ (ks : List Rose) (a v : Int), (a, v) ∈ C05.edgesL ks → a ∈ idsL ks
  | [], a, v, h => by simp [C05.edgesL] at h
  | r :: rs, a, v, h => by
    simp only [C05.edgesL, List.mem_append] at h
    simp only [idsL, List.mem_append]
    rcases h with h | h
    · exact Or.inl (edges_src r a v h)
    · exact Or.inr (edgesL_src rs a v h)
end

-- the removed set is closed under "child of" (needs distinct ids: the edge and the removal must be about
-- the same occurrence of the parent id)
mutual
theorem removedSet_down (m : Int → Bool) : ∀ (r : Rose) (inh : Bool), r.ids.Nodup → ∀ a v : Int,
    (a, v) ∈ C05.edges r → a ∈ removedSet m r inh → v ∈ removedSet m r inh
  | .node i ks, inh, hd, a, v, he, ha => by
    simp only [Rose.ids, List.nodup_cons] at hd
    simp only [C05.edges, List.mem_append, List.mem_map, Prod.mk.injEq] at he
    simp only [removedSet, List.mem_append] at ha ⊢
    right
    rcases he with ⟨k, hk, rfl, rfl⟩ | he
    · rcases ha with ha | ha
      · cases hb : (inh || m i) with
        | false => simp [hb] at ha
        | true => rw [removedSetL_true]; exact mem_idsL_of_mem hk
      · exact absurd ((removedSetL_sublist m ks _).subset ha) hd.1
    · have hsrc := edgesL_src ks a v he
      rcases ha with ha | ha
      · have : a = i := by split at ha <;> simp_all
        exact absurd (this ▸ hsrc) hd.1
      · exact removedSetL_down m ks _ hd.2 a v he ha
theorem removedSetL_down (m : Int → Bool) : ∀ (ks : List Rose) (inh : Bool), (idsL ks).Nodup → ∀ a v : Int,
    (a, v) ∈ C05.edgesL ks → a ∈ removedSetL m ks inh → v ∈ removedSetL m ks inh
  | [], _, _, a, v, he, _ => by simp [C05.edgesL] at he
  | r :: rs, inh, hd, a, v, he, ha => by
    simp only [idsL, List.nodup_append] at hd
    obtain ⟨hdr, hdrs, hdisj⟩ := hd
    simp only [C05.edgesL, List.mem_append] at he
    simp only [removedSetL, List.mem_append] at ha ⊢
    rcases he with he | he
    · have hsrc := edges_src r a v he
      rcases ha with ha | ha
      · exact Or.inl (removedSet_down m r inh hdr a v he ha)
      · exact absurd rfl (hdisj a hsrc a ((removedSetL_sublist m rs _).subset ha))
    · have hsrc := edgesL_src rs a v he
      rcases ha with ha | ha
      · exact absurd rfl (hdisj a ((removedSet_sublist m r _).subset ha) a hsrc)
      · exact Or.inr (removedSetL_down m rs inh hdrs a v he ha)
end

theorem marked_rows (M : Int → Bool) (g : Int → Int) : ∀ l : List Int, (∀ i ∈ l, i ≠ REMOVAL) →
    (l.map fun i => (if M i = true then REMOVAL else i, g i)).filter (fun ip => decide (ip.1 ≠ REMOVAL))
      = (l.filter fun v => !M v).map fun i => (i, g i)
  | [], _ => rfl
  | a :: l, h => by
    have ha : a ≠ REMOVAL := h a List.mem_cons_self
    simp only [List.map_cons, List.filter_cons, marked_rows M g l fun i hi => h i (List.mem_cons_of_mem _ hi)]
    cases M a <;> simp [ha]

theorem kept_rows (pids : List Int) (M : Int → Bool) :
    (List.zip ((rangeI pids.length).map fun i => if M i = true then REMOVAL else i) pids).filter (fun ip => decide (ip.1 ≠ REMOVAL))
      = ((rangeI pids.length).filter (fun v => !M v)).map fun j => (j, pids.getD j.toNat (-1)) := by
  have hz : List.zip ((rangeI pids.length).map fun i => if M i = true then REMOVAL else i) pids
      = (rangeI pids.length).map fun j => ((if M j = true then REMOVAL else j), pids.getD j.toNat (-1)) := by
    refine List.ext_getElem (by simp [rangeI]) fun k h1 h2 => ?_
    have hk : k < pids.length := by simpa [rangeI] using h2
    simp only [List.getElem_zip, List.getElem_map, rangeI, List.getElem_range, Int.ofNat_eq_natCast, Int.toNat_natCast,
      Py.getD_eq_getElem _ _ hk]
  rw [hz]
  exact marked_rows M _ _ fun i hi => ne_removal ((mem_rangeI _ _).1 hi).1

/-- **removing a set of nodes returns precisely the nodes that are neither removed nor below a removed
node**, in increasing id order, with parents remapped and the root (if it survives) still a root -/
theorem toSubtree_kept (pids : List Int) (r : Rose) (h : IsTree r pids) (removals : List Int) :
    ∃ res, toSubtree pids removals = some res ∧
      res.mapping = (rangeI pids.length).filter (fun v => !decide (v ∈ removedSet (fun i => removals.contains i) r false)) ∧
      res.newPid.length = res.mapping.length ∧
      ∀ k (hk : k < res.newPid.length),
        let p := pids.getD (res.mapping.getD k 0).toNat (-1)
        (p = -1 → res.newPid[k] = -1) ∧ (p ≠ -1 → 0 ≤ res.newPid[k] ∧ res.mapping.getD res.newPid[k].toNat 0 = p) := by
  obtain ⟨hrep, hperm, hroot, hhead⟩ := id h
  unfold toSubtree
  simp only
  generalize hM : propagateRemoval pids (fun i => removals.contains i) = M
  have hMv : ∀ v, v ∈ r.ids → M v = decide (v ∈ removedSet (fun i => removals.contains i) r false) := by
    intro v hv; rw [← hM, propagate_marks pids r h, if_pos hv]
  -- a kept row's parent is `-1` (the root) or kept: otherwise the row would be below a removed node
  obtain ⟨res, hres, hmap, hnl, hrw⟩ := toSubTopology_rows _ pids _ ((rangeI pids.length).filter (fun v => !M v)) (kept_rows pids M)
    (by rw [List.map_map]; exact List.map_id' _) (by
      intro ip hip
      obtain ⟨j, hj, rfl⟩ := List.mem_map.1 hip
      obtain ⟨hjr, hMj⟩ := List.mem_filter.1 hj
      have hmem : j ∈ r.ids := hperm.mem_iff.2 hjr
      rcases edge_of_mem r _ hmem with hr | ⟨a, ha, he⟩
      · left
        rw [hr, hroot]
        cases pids with
        | nil => simp at hhead
        | cons a as => simpa using hhead
      · right
        rw [(edge_parent pids r hrep a _ he).2.2]
        refine List.mem_filter.2 ⟨hperm.mem_iff.1 ha, ?_⟩
        rw [hMv a ha]
        rw [hMv j hmem] at hMj
        simp only [Bool.not_eq_eq_eq_not, Bool.not_true, decide_eq_false_iff_not] at hMj ⊢
        exact fun hrs => hMj (removedSet_down _ r false hrep.2 a _ he hrs))
  rw [List.length_map] at hnl
  refine ⟨res, hres, hmap.trans (List.filter_congr fun v hv => by rw [hMv v (hperm.mem_iff.2 hv)]), by rw [hnl, hmap], fun k hk => ?_⟩
  have hrow := hrw k (by rw [List.length_map]; exact hnl ▸ hk) hk
  simp only [List.getElem_map] at hrow
  simpa only [hmap, Py.getD_eq_getElem _ _ (hnl ▸ hk)] using hrow

/-! ## `cut_tree` -/
section cut
variable {T K : Type}

-- ids the `enter`-mode wrapper collects: where the user callback says "remove", and everything below
-- (without calling the user callback there)
mutual
def cutSpec (ue : Int → Option T → T × Bool) : Rose → Option (T × Bool) → List Int
  | .node i ks, parent =>
    match parent with
    | some (pv, true) => i :: cutSpecRev ue ks (pv, true)
    | _ =>
      let r := ue i (parent.map (·.1))
      (if r.2 then [i] else []) ++ cutSpecRev ue ks r
def cutSpecRev (ue : Int → Option T → T × Bool) : List Rose → T × Bool → List Int
  | [], _ => []
  | r :: rs, cur => cutSpecRev ue rs cur ++ cutSpec ue r (some cur)
end

mutual
theorem spec_cutEnter (ue : Int → Option T → T × Bool) : ∀ (r : Rose) (pv : Option (T × Bool)) (rem : List Int),
    (spec (cutEnter ue) noLeave r pv rem).1 = rem ++ cutSpec ue r pv
  | .node i ks, pv, rem => by
    simp only [spec, noLeave]
    rw [specRev_cutEnter ue ks]
    match pv with
    | some (p, true) => simp [cutEnter, cutSpec]
    | some (p, false) | none =>
      simp only [cutEnter, cutSpec]
      split <;> simp
theorem specRev_cutEnter (ue : Int → Option T → T × Bool) : ∀ (ks : List Rose) (cur : T × Bool) (rem : List Int),
    (specRev (cutEnter ue) noLeave ks cur rem).1 = rem ++ cutSpecRev ue ks cur
  | [], _, rem => by simp [specRev, cutSpecRev]
  | r :: rs, cur, rem => by
    simp only [specRev, cutSpecRev]
    rw [spec_cutEnter ue r, specRev_cutEnter ue rs]
    simp
end

/-- **cutting by an `enter` callback removes precisely the nodes the callback designates and their
descendants**: the collected removal list is `cutSpec`, which is then handed to `to_subtree` -/
theorem cutEnter_removed (pids : List Int) (r : Rose) (h : IsTree r pids) (ue : Int → Option T → T × Bool) :
    cutTreeEnter pids ue = toSubtree pids (cutSpec ue r none) := by
  simp only [cutTreeEnter, run_tree h, spec_cutEnter, List.nil_append]

-- ids the `leave`-mode wrapper collects, in post-order
mutual
def leaveVal (ul : Int → List K → K × Bool) : Rose → K
  | .node i ks => (ul i (leaveValL ul ks)).1
def leaveValL (ul : Int → List K → K × Bool) : List Rose → List K
  | [] => []
  | r :: rs => leaveVal ul r :: leaveValL ul rs
end
mutual
def cutLeaveSpec (ul : Int → List K → K × Bool) : Rose → List Int
  | .node i ks => cutLeaveSpecRev ul ks ++ (if (ul i (leaveValL ul ks)).2 then [i] else [])
def cutLeaveSpecRev (ul : Int → List K → K × Bool) : List Rose → List Int
  | [] => []
  | r :: rs => cutLeaveSpecRev ul rs ++ cutLeaveSpec ul r
end

mutual
theorem spec_cutLeave (ul : Int → List K → K × Bool) : ∀ (r : Rose) (pv : Option Unit) (rem : List Int),
    spec noEnter (cutLeave ul) r pv rem = (rem ++ cutLeaveSpec ul r, leaveVal ul r)
  | .node i ks, pv, rem => by
    simp only [spec, noEnter]
    rw [specRev_cutLeave ul ks]
    simp only [cutLeave, cutLeaveSpec, leaveVal]
    split <;> simp
theorem specRev_cutLeave (ul : Int → List K → K × Bool) : ∀ (ks : List Rose) (cur : Unit) (rem : List Int),
    specRev noEnter (cutLeave ul) ks cur rem = (rem ++ cutLeaveSpecRev ul ks, leaveValL ul ks)
  | [], _, rem => by simp [specRev, cutLeaveSpecRev, leaveValL]
  | r :: rs, cur, rem => by
    simp only [specRev, cutLeaveSpecRev, leaveValL]
    rw [specRev_cutLeave ul rs, spec_cutLeave ul r]
    simp
end

theorem cutLeave_removed (pids : List Int) (r : Rose) (h : IsTree r pids) (ul : Int → List K → K × Bool) :
    cutTreeLeave pids ul = toSubtree pids (cutLeaveSpec ul r) := by
  simp only [cutTreeLeave, run_tree h, spec_cutLeave, List.nil_append]
end cut

/-! ## `CutByType` -/

-- a node is kept when it has the type or some node below it has
mutual
def keepT (types : Int → Int) (ty : Int) : Rose → Bool
  | .node i ks => types i == ty || keepTL types ty ks
def keepTL (types : Int → Int) (ty : Int) : List Rose → Bool
  | [] => false
  | r :: rs => keepT types ty r || keepTL types ty rs
end
mutual
def droppedT (types : Int → Int) (ty : Int) : Rose → List Int
  | .node i ks => (if keepT types ty (.node i ks) then [] else [i]) ++ droppedTL types ty ks
def droppedTL (types : Int → Int) (ty : Int) : List Rose → List Int
  | [] => []
  | r :: rs => droppedT types ty r ++ droppedTL types ty rs
end

mutual
theorem droppedT_sublist (types : Int → Int) (ty : Int) : ∀ r : Rose, (droppedT types ty r).Sublist r.ids
  | .node i ks => by
    simp only [droppedT, Rose.ids]
    split
    · exact (droppedTL_sublist types ty ks).cons i
    · exact (droppedTL_sublist types ty ks).cons_cons i
theorem droppedTL_sublist (types : Int → Int) (ty : Int) : ∀ ks : List Rose, (droppedTL types ty ks).Sublist (idsL ks)
  | [] => .slnil
  | r :: rs => (droppedT_sublist types ty r).append (droppedTL_sublist types ty rs)
end

theorem keepTL_any (types : Int → Int) (ty : Int) : ∀ ks : List Rose,
    (ks.map (keepT types ty)).any id = keepTL types ty ks
  | [] => by simp [keepTL]
  | r :: rs => by simp [keepTL, keepTL_any types ty rs]

theorem typeLeave_eq (m : Int → Bool) (i : Int) (kc : List Bool) :
    typeLeave m i kc = (upd m i (m i && !kc.any id), !(m i && !kc.any id)) := by
  have hm : (if (m i && kc.any id) = true then upd m i false else m) = upd m i (m i && !kc.any id) := by
    funext v
    by_cases hv : v = i
    · subst hv; cases h1 : m v <;> cases h2 : kc.any id <;> simp [upd, h1]
    · cases (m i && kc.any id) <;> simp [upd, hv]
  simp only [typeLeave, hm, upd, if_true]

mutual
theorem spec_type (types : Int → Int) (ty : Int) : ∀ (r : Rose) (pv : Option Unit) (m : Int → Bool), r.ids.Nodup →
    (∀ v ∈ r.ids, m v = (types v != ty)) →
    spec noEnter typeLeave r pv m = (decided r.ids (droppedT types ty r) m, keepT types ty r)
  | .node i ks, pv, m, hd, hm => by
    obtain ⟨hi, hdk⟩ := List.nodup_cons.1 hd
    simp only [spec, noEnter]
    rw [show specRev noEnter typeLeave ks () m = (decided (idsL ks) (droppedTL types ty ks) m, ks.map (keepT types ty)) from
      specRev_type types ty ks _ m hdk fun v hv => hm v (List.mem_cons_of_mem _ hv)]
    dsimp only
    rw [typeLeave_eq, keepTL_any, decided_of_not_mem hi, hm i List.mem_cons_self, upd_decided _ _ hi (droppedTL_sublist types ty ks).subset]
    have hk : (!((types i != ty) && !keepTL types ty ks)) = keepT types ty (.node i ks) := by
      simp only [keepT, bne]; cases (types i == ty) <;> cases keepTL types ty ks <;> rfl
    simp only [droppedT, Rose.ids, ← hk]
    cases ((types i != ty) && !keepTL types ty ks) <;> rfl
theorem specRev_type (types : Int → Int) (ty : Int) : ∀ (ks : List Rose) (cur : Unit) (m : Int → Bool), (idsL ks).Nodup →
    (∀ v ∈ idsL ks, m v = (types v != ty)) →
    specRev noEnter typeLeave ks cur m
      = (fun v => if v ∈ idsL ks then decide (v ∈ droppedTL types ty ks) else m v, ks.map (keepT types ty))
  | [], _, m, _, _ => by simp [specRev, idsL]
  | r :: rs, cur, m, hd, hm => by
    simp only [idsL, List.nodup_append] at hd
    obtain ⟨hdr, hdrs, hdisj⟩ := hd
    simp only [specRev]
    rw [show specRev noEnter typeLeave rs cur m = (decided (idsL rs) (droppedTL types ty rs) m, rs.map (keepT types ty)) from
        specRev_type types ty rs cur m hdrs fun v hv => hm v (by simp [idsL, hv]),
      spec_type types ty r (some cur) (decided (idsL rs) (droppedTL types ty rs) m) hdr fun v hv =>
        (decided_of_not_mem fun hh => hdisj v hv v hh rfl).trans (hm v (by simp [idsL, hv]))]
    exact Prod.ext (decided_append m (droppedT_sublist types ty r).subset (droppedTL_sublist types ty rs).subset fun v h1 h2 => hdisj v h1 v h2 rfl) rfl
end

/-- **cutting by type keeps exactly the nodes that have the type or an own descendant of that type**
(the typed nodes and their ancestors) -/
theorem cutByType_kept (pids types : List Int) (ty : Int) (r : Rose) (h : IsTree r pids) (hl : types.length = pids.length) :
    ∃ rm : List Int, cutByType pids types ty = toSubtree pids rm ∧
      ∀ v, v ∈ rm ↔ v ∈ droppedT (fun i => types.getD i.toNat 0) ty r := by
  unfold cutByType
  simp only
  rw [run_tree h, spec_type (fun i => types.getD i.toNat 0) ty r none _ h.1.2 (by
    intro v hv
    have := (isTree_mem h v).1 hv
    simp [this.1, this.2])]
  refine ⟨_, rfl, ?_⟩
  intro v
  simp only [List.mem_filter]
  constructor
  · rintro ⟨hv, hd⟩
    have hv' : v ∈ r.ids := h.2.1.mem_iff.2 hv
    simpa only [decided, hv', if_true, decide_eq_true_eq] using hd
  · intro hd
    have hv' : v ∈ r.ids := (droppedT_sublist _ _ r).subset hd
    exact ⟨h.2.1.mem_iff.1 hv', by simp only [decided, hv', if_true, decide_eq_true_eq]; exact hd⟩

/-! ## `CutByFurcationOrder` -/

/-- the level rule: the root has level 0, a furcation raises the level by one, a node is cut when its
level reaches the maximum (its descendants then go with it, `cutEnter_removed`) -/
theorem cutByOrder_rule (pids : List Int) (m : Int) (n : Int) (pl : Option Int) :
    orderEnter pids m n pl =
      ((match pl with | none => 0 | some l => if isFurcation pids n then l + 1 else l),
       decide ((match pl with | none => (0 : Int) | some l => if isFurcation pids n then l + 1 else l) ≥ m)) ∧
    cutByOrder pids m = cutTreeEnter pids (orderEnter pids m) := ⟨rfl, rfl⟩

/-- `is_furcation` = two or more children in the table -/
theorem isFurcation_iff (pids : List Int) (n : Int) :
    isFurcation pids n = true ↔ 2 ≤ (tableKids (rangeI pids.length) pids n).length := by
  rw [tableKids_rangeI, tk_length]
  simp [isFurcation]
  omega

/-! ## `CutShortTipBranch` -/

/-- length of the unbranched chain hanging below a node down to a tip (`none` if it branches) -/
def chainLen? (elen : Int → Int) : Rose → Option Int
  | .node _ [] => some 0
  | .node _ [k] => (chainLen? elen k).map (· + elen k.id)
  | .node _ _ => none

-- the children of a branching node whose hanging chain reaches a tip without branching and is short
mutual
def tipRemoved (elen : Int → Int) (thre : Int) : Rose → List Int
  | .node _ ks => tipRemovedRev elen thre ks ++
      (if ks.length ≥ 2 then ks.filterMap (fun k => match chainLen? elen k with
          | some L => if L + elen k.id > thre then none else some k.id
          | none => none) else [])
def tipRemovedRev (elen : Int → Int) (thre : Int) : List Rose → List Int
  | [] => []
  | r :: rs => tipRemovedRev elen thre rs ++ tipRemoved elen thre r
end

/-- the loop of `_leave` over the values of two or more children appends, in order, the children whose chain is short -/
theorem tip_foldl (elen : Int → Int) (thre : Int) : ∀ (ks : List Rose) (rem : List Int),
    (ks.map fun k => (chainLen? elen k).map (·, k.id)).foldl (fun acc c => match c with
        | none => acc
        | some (dis, child) => if dis + elen child > thre then acc else acc ++ [child]) rem
      = rem ++ ks.filterMap (fun k => match chainLen? elen k with
          | some L => if L + elen k.id > thre then none else some k.id
          | none => none)
  | [], rem => by simp
  | k :: ks, rem => by
    rw [List.map_cons, List.foldl_cons, List.filterMap_cons, tip_foldl elen thre ks]
    cases chainLen? elen k with
    | none => rfl
    | some L => by_cases h : L + elen k.id > thre <;> simp [h]

mutual
theorem spec_tip (elen : Int → Int) (thre : Int) : ∀ (r : Rose) (pv : Option Unit) (rem : List Int),
    spec noEnter (tipLeave elen thre) r pv rem
      = (rem ++ tipRemoved elen thre r, (chainLen? elen r).map (·, r.id))
  | .node i ks, pv, rem => by
    simp only [spec, noEnter]
    rw [specRev_tip elen thre ks]
    rw [show (Rose.node i ks).id = i from rfl]
    match ks with
    | [] => simp [tipLeave, tipRemoved, tipRemovedRev, chainLen?]
    | [k] =>
      simp only [List.map_cons, List.map_nil]
      cases hc : chainLen? elen k <;> simp [tipLeave, tipRemoved, chainLen?, hc]
    | k1 :: k2 :: ks =>
      simp only [tipRemoved, chainLen?, List.length_cons, ge_iff_le, Nat.le_add_left, if_true, Option.map_none]
      rw [← List.append_assoc, ← tip_foldl]
      simp only [List.map_cons]
      cases chainLen? elen k1 <;> rfl
theorem specRev_tip (elen : Int → Int) (thre : Int) : ∀ (ks : List Rose) (cur : Unit) (rem : List Int),
    specRev noEnter (tipLeave elen thre) ks cur rem
      = (rem ++ tipRemovedRev elen thre ks, ks.map (fun k => (chainLen? elen k).map (·, k.id)))
  | [], _, rem => by simp [specRev, tipRemovedRev]
  | r :: rs, cur, rem => by
    simp only [specRev, tipRemovedRev]
    rw [specRev_tip elen thre rs, spec_tip elen thre r]
    simp
end

/-- **cutting short terminal branches removes precisely the chains that hang from a furcation, reach a tip
without another furcation, and are no longer than the threshold** (measured from the furcation) -/
theorem cutShortTip_removed (pids : List Int) (r : Rose) (h : IsTree r pids) (elen : Int → Int) (thre : Int) :
    cutShortTip pids elen thre = toSubtree pids (tipRemoved elen thre r) := by
  simp only [cutShortTip, run_tree h, spec_tip, List.nil_append]

-- non-vacuity / concrete behaviour
def exPids : List Int := [-1, 0, 1, 1, 0]
def exRose : Rose := .node 0 [.node 1 [.node 2 [], .node 3 []], .node 4 []]
example : IsTree exRose exPids := by
  refine ⟨⟨?_, by decide⟩, by decide, rfl, rfl⟩
  simp [exRose, exPids, Agrees, AgreesL, tableKids, Rose.id, rangeI, List.range, List.range.loop]
example : getSubtree exPids 1 = some ⟨[-1, 0, 0], [1, 3, 2]⟩ := by decide +kernel
example : toSubtree exPids [2] = some ⟨[-1, 0, 1, 0], [0, 1, 3, 4]⟩ := by decide +kernel
example : cutByType exPids [1, 3, 2, 3, 3] 2 = some ⟨[-1, 0, 1], [0, 1, 2]⟩ := by decide +kernel
example : cutByOrder exPids 1 = some ⟨[-1, 0], [0, 4]⟩ := by decide +kernel
example : cutShortTip exPids (fun c => [0, 1, 1, 5, 1].getD c.toNat 0) 2 = some ⟨[-1, 0, 1], [0, 1, 3]⟩ := by decide +kernel

end C06
