import SwcVerif.Props.C05
import SwcVerif.Refine.Sort
/-! # C05, tied to the source by the translator

`Gen.Algo.sort_nodes_impl` is regenerated from `swcgeom/core/swc_utils/normalizer.py::sort_nodes_impl` on every run.
`RefineSort.sort_refines` proves that it returns the model's result whenever the model succeeds on a table with distinct ids; with `C05.sort_ok`
this gives the result of the code as translated on EVERY tree table, and the C05 theorems (`sort_perm`, `sort_sorted`,
`sort_parent`, `sort_indices`, `sort_again`, …) speak about exactly that record. -/
namespace C05
open SortM Gen.Algo

/-- **The translated `sort_nodes_impl` on every tree table** (any distinct ids, any row order, root anywhere): it raises
nothing and returns `(arange(n), new_pids)` and the row indices of the structural pre-order `pre r (-1) 0`. -/
theorem generated_sort_ok (r : Rose) (ids pids : List Int) (h : IsTreeTable r ids pids) (F : Nat) :
    sort_nodes_impl (ids.length + 1 + F) (ids, pids) =
      some ((Py.range (ids.length : Int), (pre r (-1) 0).map (·.2)),
            (pre r (-1) 0).map (fun op => ((indexOf ids op.1 : Nat) : Int))) := by
  simpa [List.map_map, Function.comp_def] using
    RefineSort.sort_refines ids pids (tree_nodup r ids pids h) _ (sort_ok r ids pids h) F

/-- the translated function and the model agree on every table on which the model succeeds (distinct ids) -/
theorem generated_eq_model (ids pids : List Int) (hnd : ids.Nodup) (res : Result) (h : sortNodesImpl ids pids = .ok res) (F : Nat) :
    sort_nodes_impl (ids.length + 1 + F) (ids, pids) =
      some ((Py.range (ids.length : Int), res.newPids), res.indices.map (fun (k : Nat) => (k : Int))) :=
  RefineSort.sort_refines ids pids hnd res h F

/-- non-vacuity: the translated function on a concrete shuffled table with a gap in the ids (kernel-evaluated) -/
example : sort_nodes_impl 8 ([7, 3, 9, 4], [3, -1, 3, 9]) = some (([0, 1, 2, 3], [-1, 0, 1, 0]), [1, 2, 3, 0]) := by
  decide +kernel

end C05
