import SwcVerif.Proofs.Assemble
import SwcVerif.Proofs.Pipeline
/-! # C16 / C03 — the table built by `BranchTreeAssembler` is a well-formed, sorted tree with the branch tree's connectivity

`Model/Assemble.lean` models the assembler loop (explicit stack of (key node, new id of its copy), id allocation by the
length of the node list).  Here: the loop equals a structural recursion over the branch tree (`machine_eq_sub`), it stops
after one iteration per key node, the result is a parent-before-child tree table (hence `C07.WF`, so resampling is a
pipeline step of C03), it has one row per key node plus one per interior sample, and every branch of the input is a chain
of exactly its samples from the copy of its parent key node to the copy of its child key node. -/
namespace C16Asm
open Asm

theorem run_succ_some {st st' : St} (n : Nat) (h : step st = some st') : run (n + 1) st = run n st' := by simp [run, h]
theorem run_none {st : St} (h : step st = none) (n : Nat) : run n st = st := by cases n <;> simp [run, h]
theorem run_add (a b : Nat) (st : St) : run (a + b) st = run b (run a st) := by
  induction a generalizing st with
  | zero => simp [run]
  | succ a ih =>
    cases hs : step st with
    | none => rw [run_none hs, run_none hs, run_none hs]
    | some st' =>
      have : a + 1 + b = (a + b) + 1 := by omega
      rw [this, run_succ_some _ hs, run_succ_some _ hs]
      exact ih st'

-- **the loop is structural recursion**: popping `(t, sid)` and running one iteration per key node of `t` appends exactly
-- `sub t sid (length so far)` and leaves the rest of the stack alone
mutual
theorem machine_eq_sub (t : BT) (sid : Nat) (rest : List (BT × Nat)) (out : List Int) :
    run t.size ⟨(t, sid) :: rest, out⟩ = ⟨rest, out ++ sub t sid out.length⟩ := by
  match t with
  | .node i m ks =>
    have e1 : (BT.node i m ks).size = 1 + Asm.sizeL ks := by simp [BT.size]
    rw [e1, run_add]
    have hstep : run 1 ⟨(BT.node i m ks, sid) :: rest, out⟩ =
        ⟨(List.zip ks (chains ks sid out.length).2).reverse ++ rest, out ++ (chains ks sid out.length).1⟩ := by
      simp [run, step, BT.kids]
    rw [hstep]
    have := machine_eq_subRev ks (chains ks sid out.length).2 (chains_length ks sid out.length) rest (out ++ (chains ks sid out.length).1)
    rw [this]
    simp [sub, List.append_assoc]
theorem machine_eq_subRev (ks : List BT) (cids : List Nat) (hl : cids.length = ks.length) (rest : List (BT × Nat)) (out : List Int) :
    run (Asm.sizeL ks) ⟨(List.zip ks cids).reverse ++ rest, out⟩ = ⟨rest, out ++ subRev ks cids out.length⟩ := by
  match ks, cids, hl with
  | [], _, _ => simp [Asm.sizeL, run, subRev]
  | k :: ks, [], hl => simp at hl
  | k :: ks, cid :: cids, hl =>
    have e : Asm.sizeL (k :: ks) = Asm.sizeL ks + k.size := by simp [Asm.sizeL]; omega
    rw [e, run_add]
    have hz : (List.zip (k :: ks) (cid :: cids)).reverse ++ rest = (List.zip ks cids).reverse ++ ((k, cid) :: rest) := by
      simp
    rw [hz, machine_eq_subRev ks cids (by simpa using hl) ((k, cid) :: rest) out, machine_eq_sub k cid rest _]
    simp [subRev, List.append_assoc]
end

/-- the assembled table is `-1` followed by the structural rows, and the loop has emptied its stack after one iteration per
key node (the fuel of `assemble` suffices) -/
theorem assemble_eq (root : BT) :
    assemble root = -1 :: sub root 0 1 ∧ (run root.size ⟨[(root, 0)], [-1]⟩).stack = [] := by
  have := machine_eq_sub root 0 [] [-1]
  simp [assemble, this]

/-! ### parents precede children -/

/-- every row of `rows`, placed from absolute position `L` on, has a non-negative parent strictly before itself -/
def Below (L : Nat) (rows : List Int) : Prop :=
  ∀ j (h : j < rows.length), 0 ≤ rows[j] ∧ rows[j] < ((L + j : Nat) : Int)

theorem Below.append {L : Nat} {a b : List Int} (ha : Below L a) (hb : Below (L + a.length) b) : Below L (a ++ b) := by
  intro j hj
  rw [List.getElem_append]
  split
  · exact ha j _
  · have := hb (j - a.length) (by rw [List.length_append] at hj; omega)
    rwa [show L + a.length + (j - a.length) = L + j by omega] at this

theorem Below.nil (L : Nat) : Below L [] := by intro j hj; simp at hj

theorem chainRows_below (p L m : Nat) (hp : p < L) : Below L (chainRows p L m) := by
  intro j hj
  simp only [chainRows] at hj ⊢
  cases j with
  | zero => simp; omega
  | succ j =>
    simp only [List.length_cons, List.length_map, List.length_range] at hj
    simp only [List.getElem_cons_succ, List.getElem_map, List.getElem_range]
    omega

theorem chains_below : ∀ (ks : List BT) (p L : Nat), p < L →
    Below L (chains ks p L).1 ∧ ∀ c ∈ (chains ks p L).2, c < L + (chains ks p L).1.length := by
  intro ks
  induction ks with
  | nil => intro p L _; exact ⟨Below.nil L, by simp [chains]⟩
  | cons k ks ih =>
    intro p L hp
    obtain ⟨h1, h2⟩ := ih p (L + k.m + 1) (by omega)
    simp only [chains]
    refine ⟨(chainRows_below p L k.m hp).append (by rw [chainRows_length]; simpa [Nat.add_assoc] using h1), ?_⟩
    intro c hc
    simp only [List.mem_cons] at hc
    simp only [List.length_append, chainRows_length]
    rcases hc with rfl | hc
    · omega
    · have := h2 c hc; omega

mutual
theorem sub_below (t : BT) (sid L : Nat) (hs : sid < L) : Below L (sub t sid L) := by
  match t with
  | .node i m ks =>
    obtain ⟨h1, h2⟩ := chains_below ks sid L hs
    simp only [sub]
    exact h1.append (subRev_below ks _ _ h2)
theorem subRev_below (ks : List BT) (cids : List Nat) (L : Nat) (hc : ∀ c ∈ cids, c < L) : Below L (subRev ks cids L) := by
  match ks, cids with
  | [], _ => simp only [subRev]; exact Below.nil L
  | _ :: _, [] => simp only [subRev]; exact Below.nil L
  | k :: ks, cid :: cids =>
    simp only [subRev]
    have h1 := subRev_below ks cids L (fun c hc' => hc c (List.mem_cons_of_mem _ hc'))
    exact h1.append (sub_below k cid _ (by have := hc cid List.mem_cons_self; omega))
end

/-- **the assembled table is a well-formed tree with parents before children** (whatever the branch tree, the sample
counts and the pairing order): row 0 is the only root, every other row's parent is an earlier row -/
theorem assemble_sorted (root : BT) :
    (assemble root).head? = some (-1) ∧
    ∀ k (h : k < (assemble root).length), 0 < k → 0 ≤ (assemble root)[k] ∧ (assemble root)[k] < (k : Int) := by
  rw [(assemble_eq root).1]
  refine ⟨rfl, ?_⟩
  intro k hk h0
  cases k with
  | zero => omega
  | succ k => simpa only [List.getElem_cons_succ, Nat.add_comm 1 k] using sub_below root 0 1 Nat.one_pos k (Nat.lt_of_succ_lt_succ hk)

theorem assemble_wf (root : BT) : C07.WF (assemble root) := by
  obtain ⟨h0, hs⟩ := assemble_sorted root
  exact Pipeline.wf_of_sorted _ h0 (fun k hk hpos => (hs k hk hpos).2) (fun k hk hpos => (hs k hk hpos).1)

/-! ### one row per key node and per interior sample -/
mutual
def weight : BT → Nat
  | .node _ _ ks => weightL ks
def weightL : List BT → Nat
  | [] => 0
  | k :: ks => (k.m + 1) + weight k + weightL ks
end

theorem chains_rows_length : ∀ (ks : List BT) (p L : Nat),
    (chains ks p L).1.length = (ks.map (fun k => k.m + 1)).sum := by
  intro ks
  induction ks with
  | nil => intro p L; rfl
  | cons k ks ih => intro p L; simp [chains, chainRows_length, ih]

mutual
theorem sub_length (t : BT) (sid L : Nat) : (sub t sid L).length = weight t := by
  match t with
  | .node i m ks =>
    simp only [sub, weight, List.length_append, chains_rows_length]
    rw [subRev_length ks _ _ (chains_length ks sid L)]
    exact (weightL_split ks).symm
theorem subRev_length (ks : List BT) (cids : List Nat) (L : Nat) (hl : cids.length = ks.length) :
    (subRev ks cids L).length = (ks.map weight).sum := by
  match ks, cids, hl with
  | [], _, _ => simp [subRev]
  | k :: ks, [], hl => simp at hl
  | k :: ks, cid :: cids, hl =>
    simp only [subRev, List.length_append, List.map_cons, List.sum_cons]
    rw [subRev_length ks cids L (by simpa using hl), sub_length k cid _]
    omega
theorem weightL_split (ks : List BT) : weightL ks = (ks.map (fun k => k.m + 1)).sum + (ks.map weight).sum := by
  match ks with
  | [] => simp [weightL]
  | k :: ks => simp only [weightL, List.map_cons, List.sum_cons]; rw [weightL_split ks]; omega
end

/-- the assembled tree has one row for the root and, for every other key node, one row for itself and one per interior sample of
the branch that leads to it -/
theorem assemble_length (root : BT) : (assemble root).length = 1 + weight root := by
  rw [(assemble_eq root).1, List.length_cons, sub_length]; omega

/-! ### every branch is a chain of its samples between the copies of its two key nodes -/

theorem chains_append : ∀ (pre post : List BT) (p L : Nat),
    (chains (pre ++ post) p L).1 = (chains pre p L).1 ++ (chains post p (L + (chains pre p L).1.length)).1 ∧
    (chains (pre ++ post) p L).2 = (chains pre p L).2 ++ (chains post p (L + (chains pre p L).1.length)).2 := by
  intro pre
  induction pre with
  | nil => intro post p L; simp [chains]
  | cons k ks ih =>
    intro post p L
    obtain ⟨h1, h2⟩ := ih post p (L + k.m + 1)
    simp only [List.cons_append, chains, h1, h2, List.length_append, chainRows_length]
    have e : L + k.m + 1 + (chains ks p (L + k.m + 1)).1.length = L + (k.m + 1 + (chains ks p (L + k.m + 1)).1.length) := by omega
    rw [e]
    simp [List.append_assoc]

/-- **connectivity and samples of every branch**: when the copy `sid` of a key node is expanded at table length `L`, the branch to
its child `k` (any position in the pairing order) occupies the `k.m + 1` consecutive rows starting at
`off = L + (rows of the earlier siblings' branches)`: the first hangs off `sid`, each further one off its predecessor, and the
last of them is the copy of `k` (the id under which `k`'s own children are attached) -/
theorem branch_is_chain (pre post : List BT) (k : BT) (sid L : Nat) :
    let off := L + (chains pre sid L).1.length
    (chains (pre ++ k :: post) sid L).1 =
      (chains pre sid L).1 ++ chainRows sid off k.m ++ (chains post sid (off + k.m + 1)).1 ∧
    (chains (pre ++ k :: post) sid L).2 =
      (chains pre sid L).2 ++ (off + k.m) :: (chains post sid (off + k.m + 1)).2 := by
  obtain ⟨h1, h2⟩ := chains_append pre (k :: post) sid L
  simp only [h1, h2, chains, List.append_assoc]
  exact ⟨trivial, trivial⟩

end C16Asm
