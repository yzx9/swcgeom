import SwcVerif.Model.Branches
import SwcVerif.Props.C04
import SwcVerif.Proofs.NodeChain
import Mathlib.Data.List.Perm.Basic
/-! # C08 — branches, paths, tips and furcations decompose the tree exactly

The traversal loop is C04's machine (`C04.traverse_eq_spec`); the callbacks are the models of
`collect_branches`, `assign_path`/`collect_path`, `collect_furcations` (`Model/Branches.lean`, tied to the
code by the `c08.decomp` correspondence).  All statements are for every rose `r` that represents the
table (any shape, depth, distinct numbering); degrees are read off the table (`tableKids`). -/
namespace C08
open Trav Branches

/-- consecutive pairs of a list: the edges a branch / path runs along -/
def pairs : List Int → List (Int × Int)
  | a :: b :: t => (a, b) :: pairs (b :: t)
  | _ => []

theorem pairs_cons_cons (a b : Int) (t : List Int) : pairs (a :: b :: t) = (a, b) :: pairs (b :: t) := rfl

theorem pairs_snd : ∀ b : List Int, (pairs b).map Prod.snd = b.tail
  | [] => rfl
  | [_] => rfl
  | a :: b :: t => by simp [pairs, pairs_snd (b :: t)]

-- the (parent, child) edges of a rose
mutual
def edges : Rose → List (Int × Int)
  | .node i ks => ks.map (fun k => (i, k.id)) ++ edgesL ks
def edgesL : List Rose → List (Int × Int)
  | [] => []
  | r :: rs => edges r ++ edgesL rs
end

-- ids of the childless nodes, in table (pre-)order
mutual
def tipsOf : Rose → List Int
  | .node i [] => [i]
  | .node _ (k :: ks) => tipsOfL (k :: ks)
def tipsOfL : List Rose → List Int
  | [] => []
  | r :: rs => tipsOf r ++ tipsOfL rs
end

-- ids of the nodes with two or more children
mutual
def furcsOf : Rose → List Int
  | .node i ks => (if ks.length > 1 then [i] else []) ++ furcsOfL ks
def furcsOfL : List Rose → List Int
  | [] => []
  | r :: rs => furcsOf r ++ furcsOfL rs
end

/-- the value `collect_branches` computes for a rose (structural recursion = what the loop computes, C04) -/
def branchVal (r : Rose) : BVal := (spec bEnter bLeave r none ()).2
/-- `get_branches` of a rose -/
def branchesOf (r : Rose) : List (List Int) := finish (branchVal r)

mutual
theorem rose_ind {P : Rose → Prop} (h : ∀ i ks, (∀ k ∈ ks, P k) → P (.node i ks)) : ∀ r, P r
  | .node i ks => h i ks (rose_indL h ks)
theorem rose_indL {P : Rose → Prop} (h : ∀ i ks, (∀ k ∈ ks, P k) → P (.node i ks)) : ∀ ks : List Rose, ∀ k ∈ ks, P k
  | [] => by simp
  | r :: rs => by
    intro k hk
    simp only [List.mem_cons] at hk
    rcases hk with h1 | h1
    · rw [h1]; exact rose_ind h r
    · exact rose_indL h rs k h1
end

theorem flatMap_of_rec {α : Type} {g : List Rose → List α} {f : Rose → List α} (h0 : g [] = [])
    (h1 : ∀ r rs, g (r :: rs) = f r ++ g rs) : ∀ ks, g ks = ks.flatMap f
  | [] => h0
  | r :: rs => by rw [h1, flatMap_of_rec h0 h1 rs, List.flatMap_cons]

theorem edgesL_eq (ks : List Rose) : edgesL ks = ks.flatMap edges := flatMap_of_rec rfl (fun _ _ => rfl) ks
theorem tipsOfL_eq (ks : List Rose) : tipsOfL ks = ks.flatMap tipsOf := flatMap_of_rec rfl (fun _ _ => rfl) ks
theorem furcsOfL_eq (ks : List Rose) : furcsOfL ks = ks.flatMap furcsOf := flatMap_of_rec rfl (fun _ _ => rfl) ks
theorem idsL_eq (ks : List Rose) : idsL ks = ks.flatMap Rose.ids := flatMap_of_rec rfl (fun _ _ => rfl) ks
theorem agreesL_iff (kidsOf : Int → List Int) (ks : List Rose) : AgreesL kidsOf ks ↔ ∀ k ∈ ks, Agrees kidsOf k := by
  induction ks with
  | nil => simp [AgreesL]
  | cons r rs ih => simp [AgreesL, ih]

theorem spec_b (r : Rose) (pv : Option Unit) (s : Unit) : spec bEnter bLeave r pv s = ((), branchVal r) := by
  cases r; rfl
theorem specRev_b (ks : List Rose) (cur : Unit) (s : Unit) : specRev bEnter bLeave ks cur s = ((), ks.map branchVal) := by
  induction ks with
  | nil => rfl
  | cons r rs ih => simp [specRev, ih, spec_b]
theorem branchVal_node (i : Int) (ks : List Rose) : branchVal (.node i ks) = collectBranches i (ks.map branchVal) := by
  simp [branchVal, spec, specRev_b, bLeave, bEnter]

theorem cb_nil (i : Int) : collectBranches i [] = ([], [i]) := rfl
theorem cb_one (i : Int) (p : BVal) : collectBranches i [p] = (p.1, p.2 ++ [i]) := by cases p; rfl
theorem cb_many (i : Int) (p q : BVal) (t : List BVal) : collectBranches i (p :: q :: t) =
    ((p :: q :: t).flatMap (fun sc => (sc.1 ++ [(sc.2 ++ [i]).reverse]).reverse), [i]) := rfl

/-- the loop computes `branchesOf` (instance of C04's core theorem) -/
theorem getBranches_eq (ids pids : List Int) (r : Rose) (h : Represents r ids pids) :
    getBranches ids pids r.id (2 * r.size) = branchesOf r := by
  simp only [getBranches, (C04.traverse_eq_spec ids pids r h bEnter bLeave ()).2.2]
  rfl

/-- closing one kid's value at node `i` -/
abbrev closeAt (i : Int) : BVal → List (List Int) := fun sc => (sc.1 ++ [(sc.2 ++ [i]).reverse]).reverse

theorem branchVal_many (i : Int) (k1 k2 : Rose) (t : List Rose) :
    branchVal (.node i (k1 :: k2 :: t)) = (((k1 :: k2 :: t).map branchVal).flatMap (closeAt i), [i]) := by
  rw [branchVal_node]; rfl

/-! `branchVal r` is a pair: the branches closed below the root of `r` (`closed r`), and the open chain, which read top-down (`chain r`) runs
from the root through only children to the first tip or furcation. -/

def chain (r : Rose) : List Int := (branchVal r).2.reverse
def closed (r : Rose) : List (List Int) := (branchVal r).1

theorem branch_ind {P : Rose → Prop} (leaf : ∀ i, P (.node i [])) (one : ∀ i k, P k → P (.node i [k]))
    (many : ∀ i k1 k2 t, (∀ k ∈ k1 :: k2 :: t, P k) → P (.node i (k1 :: k2 :: t))) : ∀ r, P r :=
  rose_ind fun i ks ih => match ks with
    | [] => leaf i
    | [k] => one i k (ih k List.mem_cons_self)
    | k1 :: k2 :: t => many i k1 k2 t ih

theorem chain_leaf (i : Int) : chain (.node i []) = [i] := rfl
theorem closed_leaf (i : Int) : closed (.node i []) = [] := rfl
theorem chain_one (i : Int) (k : Rose) : chain (.node i [k]) = i :: chain k := by
  simp [chain, branchVal_node, cb_one]
theorem closed_one (i : Int) (k : Rose) : closed (.node i [k]) = closed k := by
  simp [closed, branchVal_node, cb_one]
theorem chain_many (i : Int) (k1 k2 : Rose) (t : List Rose) : chain (.node i (k1 :: k2 :: t)) = [i] := by
  rw [chain, branchVal_many]; rfl

theorem closed_many (i : Int) (k1 k2 : Rose) (t : List Rose) :
    (closed (.node i (k1 :: k2 :: t))).Perm ((k1 :: k2 :: t).flatMap fun k => (i :: chain k) :: closed k) := by
  rw [closed, branchVal_many, List.flatMap_map]
  refine List.Perm.flatMap_left _ fun k _ => ((List.reverse_perm _).trans List.perm_append_comm).trans ?_
  simp [chain, closed]

theorem mem_closed_many {i : Int} {k1 k2 : Rose} {t : List Rose} {b : List Int} :
    b ∈ closed (.node i (k1 :: k2 :: t)) ↔ ∃ k ∈ k1 :: k2 :: t, b = i :: chain k ∨ b ∈ closed k := by
  simp only [(closed_many i k1 k2 t).mem_iff, List.mem_flatMap, List.mem_cons]

theorem branchesOf_eq (r : Rose) : branchesOf r = if (chain r).length > 1 then chain r :: closed r else closed r := by
  simp only [branchesOf, finish, chain, closed, List.length_reverse]

theorem mem_branchesOf {r : Rose} {b : List Int} (hb : b ∈ branchesOf r) : b ∈ closed r ∨ (b = chain r ∧ (chain r).length > 1) := by
  rw [branchesOf_eq] at hb
  split at hb
  · rename_i hlen
    exact (List.mem_cons.1 hb).elim (fun h => Or.inr ⟨h, hlen⟩) Or.inl
  · exact Or.inl hb

theorem mem_branchesOf_of_closed {r : Rose} {b : List Int} (hb : b ∈ closed r) : b ∈ branchesOf r := by
  rw [branchesOf_eq]; split
  · exact List.mem_cons_of_mem _ hb
  · exact hb

theorem chain_head (r : Rose) : ∃ t, chain r = r.id :: t := by
  cases r using branch_ind with
  | leaf i => exact ⟨[], rfl⟩
  | one i k _ => exact ⟨chain k, chain_one i k⟩
  | many i k1 k2 t _ => exact ⟨[], chain_many i k1 k2 t⟩

theorem pairs_cons_chain (i : Int) (k : Rose) : pairs (i :: chain k) = (i, k.id) :: pairs (chain k) := by
  obtain ⟨t, ht⟩ := chain_head k; rw [ht]; rfl

theorem getLastD_chain (r : Rose) (d d' : Int) : (chain r).getLastD d = (chain r).getLastD d' := by
  obtain ⟨t, ht⟩ := chain_head r; rw [ht, List.getLastD_cons, List.getLastD_cons]

/-- **The branches partition the edges**: listing the consecutive node pairs of all branches gives every
parent–child edge of the tree exactly once (a permutation of the edge list). -/
theorem branches_partition_edges (r : Rose) :
    ((branchesOf r).flatMap pairs).Perm (edges r) := by
  have inv : ∀ r, ((closed r).flatMap pairs ++ pairs (chain r)).Perm (edges r) := by
    intro r
    induction r using branch_ind with
    | leaf i => exact .refl _
    | one i k ih =>
      rw [closed_one, chain_one, pairs_cons_chain]
      simpa [edges, edgesL] using List.perm_middle.trans (ih.cons (i, k.id))
    | many i k1 k2 t ih =>
      rw [chain_many, edges, edgesL_eq]
      refine (((closed_many i k1 k2 t).flatMap_right pairs).append_right _).trans ?_
      rw [List.flatMap_assoc, show pairs [i] = [] from rfl, List.append_nil]
      refine (List.Perm.flatMap_left _ fun k hk => ?_).trans (List.map_append_flatMap_perm _ _ _).symm
      rw [List.flatMap_cons, pairs_cons_chain]
      exact ((List.perm_append_comm (l₁ := pairs (chain k))).trans (ih k hk)).cons _
  have h := inv r
  rw [branchesOf_eq]
  split
  · exact List.perm_append_comm.trans h
  · rename_i hlen
    obtain ⟨t, ht⟩ := chain_head r
    rw [ht] at h hlen
    cases t with
    | nil => simpa [pairs] using h
    | cons a t => simp at hlen

/-! `DownOK K x tl` (`Proofs/NodeChain.lean`): `tl` descends from `x` through only children to the first tip or furcation. -/
section
open RefineNodeBranch (DownOK)

theorem downOK_det {K : Int → List Int} : ∀ {c : Int} {l1 l2 : List Int}, DownOK K c l1 → DownOK K c l2 → l1 = l2 := by
  intro c l1 l2 h1
  induction h1 generalizing l2 with
  | stop c hc =>
    intro h2
    cases h2 with
    | stop => rfl
    | step _ j rest hK _ => rw [hK] at hc; simp at hc
  | step c j rest hK _ ih =>
    intro h2
    cases h2 with
    | stop _ hc => rw [hK] at hc; simp at hc
    | step _ j' rest' hK' h' =>
      rw [hK] at hK'
      simp only [List.cons.injEq, and_true] at hK'
      subst hK'
      rw [ih h']

theorem downOK_shape {K : Int → List Int} {c : Int} {l : List Int} (h : DownOK K c l) :
    ∃ mid last, c :: l = mid ++ [last] ∧ (∀ m ∈ mid, (K m).length = 1) ∧ ((K last).length = 0 ∨ 2 ≤ (K last).length) := by
  induction h with
  | stop c hc => exact ⟨[], c, rfl, by simp, hc⟩
  | step c j rest hK _ ih =>
    obtain ⟨mid, last, e, hm, hl⟩ := ih
    exact ⟨c :: mid, last, by rw [e]; rfl, List.forall_mem_cons.2 ⟨by rw [hK]; rfl, hm⟩, hl⟩

theorem kids_eq_singleton {l : List Int} {x : Int} (hx : x ∈ l) (h2 : ¬ 2 ≤ l.length) : l = [x] := by
  match l, hx, h2 with
  | [a], hx, _ => rw [List.mem_singleton.1 hx]
  | _ :: _ :: _, _, h2 => simp at h2

theorem chain_all (K : Int → List Int) (r : Rose) : Agrees K r →
    (∀ b ∈ closed r, ∃ top x rest, b = top :: x :: rest ∧ x ∈ K top ∧ 2 ≤ (K top).length ∧ DownOK K x rest) ∧
    (∃ rest, chain r = r.id :: rest ∧ DownOK K r.id rest) := by
  induction r using branch_ind with
  | leaf i => exact fun hA => ⟨by simp [closed_leaf], [], rfl, .stop i (Or.inl (by rw [hA.1]; rfl))⟩
  | one i k ih =>
    intro hA
    obtain ⟨h1, rest, e, hd⟩ := ih hA.2.1
    rw [closed_one, chain_one, e]
    exact ⟨h1, k.id :: rest, rfl, .step i k.id rest (by rw [hA.1]; rfl) hd⟩
  | many i k1 k2 t ih =>
    intro hA
    have h2 : 2 ≤ (K i).length := by rw [hA.1]; simp
    refine ⟨fun b hb => ?_, [], chain_many i k1 k2 t, .stop i (Or.inr h2)⟩
    obtain ⟨k, hk, rfl | hb⟩ := mem_closed_many.1 hb
    · obtain ⟨rest, e, hd⟩ := (ih k hk ((agreesL_iff _ _).1 hA.2 k hk)).2
      exact ⟨i, k.id, rest, by rw [e], by rw [hA.1]; exact List.mem_map_of_mem hk, h2, hd⟩
    · exact (ih k hk ((agreesL_iff _ _).1 hA.2 k hk)).1 b hb

theorem chain_eq {K : Int → List Int} {r : Rose} (hA : Agrees K r) {tl : List Int} (hd : DownOK K r.id tl) : chain r = r.id :: tl := by
  obtain ⟨-, rest, e, hd'⟩ := chain_all K r hA
  rw [e, downOK_det hd' hd]

theorem cover_all (K : Int → List Int) (r : Rose) : Agrees K r → ∀ top ∈ r.ids, 2 ≤ (K top).length → ∀ x ∈ K top,
    ∀ tl, DownOK K x tl → top :: x :: tl ∈ closed r := by
  induction r using branch_ind with
  | leaf i =>
    intro hA top htop h2 x hx
    rw [Rose.ids, idsL, List.mem_singleton] at htop
    rw [htop, hA.1] at hx; cases hx
  | one i k ih =>
    intro hA top htop h2
    rw [closed_one]
    rw [Rose.ids, idsL, idsL, List.append_nil, List.mem_cons] at htop
    rcases htop with rfl | htop
    · rw [hA.1] at h2; simp at h2
    · exact ih hA.2.1 top htop h2
  | many i k1 k2 t ih =>
    intro hA top htop h2 x hx tl hd
    have hAL := (agreesL_iff _ _).1 hA.2
    rw [Rose.ids, idsL_eq, List.mem_cons, List.mem_flatMap] at htop
    rcases htop with rfl | ⟨k, hk, htop⟩
    · -- the furcation is this node: `x` is the root of a kid, whose chain continues the branch
      rw [hA.1] at hx
      obtain ⟨k, hk, rfl⟩ := List.mem_map.1 hx
      exact mem_closed_many.2 ⟨k, hk, Or.inl (by rw [chain_eq (hAL k hk) hd])⟩
    · exact mem_closed_many.2 ⟨k, hk, Or.inr (ih k hk (hAL k hk) top htop h2 x hx tl hd)⟩

theorem bv_mem (r : Rose) : (∀ b ∈ closed r, b ⊆ r.ids) ∧ chain r ⊆ r.ids := by
  induction r using branch_ind with
  | leaf i => simp [closed_leaf, chain_leaf, Rose.ids]
  | one i k ih =>
    rw [closed_one, chain_one, Rose.ids, idsL, idsL, List.append_nil]
    exact ⟨fun b hb => List.subset_cons_of_subset i (ih.1 b hb), List.cons_subset_cons i ih.2⟩
  | many i k1 k2 t ih =>
    have sub : ∀ k ∈ k1 :: k2 :: t, k.ids ⊆ (Rose.node i (k1 :: k2 :: t)).ids := fun k hk x hx => by
      rw [Rose.ids, idsL_eq]; exact List.mem_cons_of_mem _ (List.mem_flatMap_of_mem hk hx)
    have top : i ∈ (Rose.node i (k1 :: k2 :: t)).ids := by rw [Rose.ids]; exact List.mem_cons_self
    rw [chain_many]
    refine ⟨fun b hb => ?_, List.cons_subset.2 ⟨top, List.nil_subset _⟩⟩
    obtain ⟨k, hk, rfl | hb⟩ := mem_closed_many.1 hb
    · exact List.cons_subset.2 ⟨top, (ih k hk).2.trans (sub k hk)⟩
    · exact ((ih k hk).1 b hb).trans (sub k hk)

theorem chain_sub_ids (r : Rose) : ∀ x ∈ chain r, x ∈ r.ids := fun _ hx => (bv_mem r).2 hx

theorem branch_mem (r : Rose) (b : List Int) (hb : b ∈ branchesOf r) (x : Int) (hx : x ∈ b) : x ∈ r.ids := by
  rcases mem_branchesOf hb with hb | ⟨rfl, -⟩
  · exact (bv_mem r).1 b hb hx
  · exact (bv_mem r).2 hx

/-- **The branches of the decomposition, characterised**: below the root or a furcation `top`, a child `x` followed by the chain of only
children below it — these lists and no others -/
theorem mem_branchesOf_iff (K : Int → List Int) (r : Rose) (hA : Agrees K r) (b : List Int) :
    b ∈ branchesOf r ↔ ∃ top x tl, b = top :: x :: tl ∧ top ∈ r.ids ∧ (2 ≤ (K top).length ∨ top = r.id) ∧ x ∈ K top ∧ DownOK K x tl := by
  constructor
  · intro hb
    obtain ⟨hcl, rest, e, hd⟩ := chain_all K r hA
    rcases mem_branchesOf hb with hb' | ⟨rfl, hlen⟩
    · obtain ⟨top, x, tl, rfl, hx, h2, hd'⟩ := hcl b hb'
      exact ⟨top, x, tl, rfl, branch_mem r _ hb top List.mem_cons_self, Or.inl h2, hx, hd'⟩
    · -- the stem: the chain of the root, which then has exactly one child
      rw [e] at hlen ⊢
      cases hd with
      | stop _ _ => simp at hlen
      | step _ j rest' hK hd' => exact ⟨r.id, j, rest', rfl, ids_head r, Or.inr rfl, by rw [hK]; simp, hd'⟩
  · rintro ⟨top, x, tl, rfl, htop, h, hx, hd⟩
    by_cases h2 : 2 ≤ (K top).length
    · exact mem_branchesOf_of_closed (cover_all K r hA top htop h2 x hx tl hd)
    · obtain rfl := h.resolve_left h2
      rw [branchesOf_eq, chain_eq hA (.step r.id x tl (kids_eq_singleton hx h2) hd), if_pos (by simp)]
      exact List.mem_cons_self

end

/-- **Shape of every branch**: it has at least two nodes, starts at the root or at a furcation, ends at a
furcation or a tip, and has only pass-through (one-child) nodes in between. -/
theorem branch_shape (kidsOf : Int → List Int) (r : Rose) (hA : Agrees kidsOf r) (b : List Int) (hb : b ∈ branchesOf r) :
    ∃ top mid last, b = top :: (mid ++ [last]) ∧
      (top = r.id ∨ 2 ≤ (kidsOf top).length) ∧
      (∀ m ∈ mid, (kidsOf m).length = 1) ∧
      ((kidsOf last).length = 0 ∨ 2 ≤ (kidsOf last).length) := by
  obtain ⟨top, x, tl, rfl, -, htop, -, hd⟩ := (mem_branchesOf_iff kidsOf r hA b).1 hb
  obtain ⟨mid, last, e, hm, hl⟩ := downOK_shape hd
  exact ⟨top, mid, last, by rw [e], htop.symm, hm, hl⟩

mutual
theorem ft_count (a : Int) : ∀ r : Rose, (furcsOf r).count a + (tipsOf r).count a ≤ r.ids.count a
  | .node i [] => by simp [furcsOf, furcsOfL, tipsOf, Rose.ids, idsL]
  | .node i (k :: ks) => by
    have := ft_countL a (k :: ks)
    have hc : (if (k :: ks).length > 1 then [i] else []).count a ≤ [i].count a := by split <;> simp
    rw [List.count_singleton] at hc
    rw [furcsOf, tipsOf, Rose.ids, List.count_append, List.count_cons]
    omega
theorem ft_countL (a : Int) : ∀ ks : List Rose, (furcsOfL ks).count a + (tipsOfL ks).count a ≤ (idsL ks).count a
  | [] => by simp [furcsOfL, tipsOfL, idsL]
  | r :: rs => by
    have h1 := ft_count a r
    have h2 := ft_countL a rs
    simp only [furcsOfL, tipsOfL, idsL, List.count_append]; omega
end

/-- end-point invariant: the last nodes of the closed branches, plus the bottom of the open chain, are the furcations and tips of the
subtree -/
theorem endInv_all (r : Rose) (d : Int) :
    ((closed r).map (fun b => b.getLastD d) ++ [(chain r).getLastD d]).Perm (furcsOf r ++ tipsOf r) := by
  induction r using branch_ind generalizing d with
  | leaf i => exact .refl _
  | one i k ih =>
    rw [closed_one, chain_one, List.getLastD_cons, getLastD_chain k i d]
    simpa [furcsOf, furcsOfL, tipsOf, tipsOfL] using ih d
  | many i k1 k2 t ih =>
    have h1 : ((closed (.node i (k1 :: k2 :: t))).map fun b => b.getLastD d).Perm
        ((k1 :: k2 :: t).flatMap furcsOf ++ (k1 :: k2 :: t).flatMap tipsOf) := by
      refine (((closed_many i k1 k2 t).map _).trans ?_).trans (List.flatMap_append_perm _ _ _).symm
      rw [List.map_flatMap]
      refine List.Perm.flatMap_left _ fun k hk => ?_
      rw [List.map_cons, List.getLastD_cons, getLastD_chain k i d]
      exact (List.perm_append_comm (l₁ := [_])).trans (ih k hk d)
    rw [chain_many, furcsOf, furcsOfL_eq, tipsOf, tipsOfL_eq, if_pos (by simp)]
    exact (h1.append_right [i]).trans (List.perm_append_comm.trans (by simp))

/-- the end points of the branches are exactly the non-root furcations and tips, each once
(so `BranchTree.from_tree` keeps exactly root ∪ furcations ∪ tips) -/
theorem branch_ends (r : Rose) (hD : r.ids.Nodup) :
    ((branchesOf r).map (fun b => b.getLastD r.id)).Perm
      ((furcsOf r ++ tipsOf r).erase r.id) := by
  have hE := endInv_all r r.id
  rw [branchesOf_eq]
  cases r using branch_ind with
  | leaf i => simp [chain_leaf, closed_leaf, furcsOf, furcsOfL, tipsOf, Rose.id]
  | one i k _ =>
    -- the root has one kid: its chain is closed by `finish`; the root is neither furcation nor tip
    have hi : i ∉ furcsOf (.node i [k]) ++ tipsOf (.node i [k]) := by
      simp only [Rose.ids, idsL, List.append_nil, List.nodup_cons] at hD
      have h := ft_count i k
      rw [List.count_eq_zero.2 hD.1] at h
      simp only [furcsOf, furcsOfL, tipsOf, tipsOfL, List.length_singleton, gt_iff_lt, Nat.lt_irrefl, if_false, List.nil_append,
        List.append_nil, ← List.count_eq_zero, List.count_append]
      omega
    obtain ⟨t, ht⟩ := chain_head k
    simp only [Rose.id] at hE ⊢
    rw [List.erase_of_not_mem hi, if_pos (by rw [chain_one, ht]; simp)]
    exact List.perm_append_comm.trans hE
  | many i k1 k2 t _ =>
    simp only [Rose.id, chain_many] at hE ⊢
    have := (List.perm_append_comm.trans hE).erase i
    rwa [show [i].getLastD i = i from rfl, List.singleton_append, List.erase_cons_head] at this

/-- `get_paths` of a rose -/
def pathsOf (r : Rose) : List (List Int) := (spec pEnter pLeave r none (fun _ => none)).2

theorem getPaths_eq (ids pids : List Int) (r : Rose) (h : Represents r ids pids) :
    getPaths ids pids r.id (2 * r.size) = pathsOf r := by
  simp only [getPaths, (C04.traverse_eq_spec ids pids r h pEnter pLeave fun _ => none).2.2]
  rfl

-- the root-to-tip paths below a node reached along `pre` (structural recursion)
mutual
def pathsFrom : Rose → List Int → List (List Int)
  | .node i [], pre => [pre ++ [i]]
  | .node i (k :: ks), pre => pathsFromL (k :: ks) (pre ++ [i])
def pathsFromL : List Rose → List Int → List (List Int)
  | [], _ => []
  | r :: rs, pre => pathsFrom r pre ++ pathsFromL rs pre
end

theorem pathsFromL_eq (ks : List Rose) (pre : List Int) : pathsFromL ks pre = ks.flatMap (fun k => pathsFrom k pre) :=
  flatMap_of_rec (g := (pathsFromL · pre)) rfl (fun _ _ => rfl) ks

mutual
theorem spec_p : ∀ (r : Rose) (pv : Option (List Int)) (d : PDict),
    (spec pEnter pLeave r pv d).2 = pathsFrom r (pv.getD [])
  | .node i [], pv, d => by
    simp [spec, specRev, pEnter, pLeave, pathsFrom, upd]
  | .node i (k :: ks), pv, d => by
    have h := specRev_p (k :: ks) (pv.getD [] ++ [i]) (upd d i (some (pv.getD [] ++ [i])))
    simp only [spec, pEnter, pathsFrom]
    rw [← h]
    simp only [specRev, pLeave]
theorem specRev_p : ∀ (ks : List Rose) (cur : List Int) (d : PDict),
    (specRev pEnter pLeave ks cur d).2.flatten = pathsFromL ks cur
  | [], _, _ => by simp [specRev, pathsFromL]
  | r :: rs, cur, d => by
    simp only [specRev, pathsFromL, List.flatten_cons]
    rw [specRev_p rs cur d, spec_p r (some cur)]
    simp
end

theorem pathsOf_eq (r : Rose) : pathsOf r = pathsFrom r [] := by
  simp [pathsOf, spec_p]

theorem pathsFrom_last (d : Int) (r : Rose) : ∀ pre, (pathsFrom r pre).map (fun p => p.getLastD d) = tipsOf r := by
  induction r using rose_ind with
  | h i ks ih =>
    intro pre
    cases ks with
    | nil => simp [pathsFrom, tipsOf]
    | cons k ks' =>
      simp only [pathsFrom, tipsOf, pathsFromL_eq, tipsOfL_eq, List.map_flatMap]
      exact List.flatMap_congr (fun k' hk' => ih k' hk' _)

theorem pathsFrom_edges (r : Rose) : ∀ pre, ∀ p ∈ pathsFrom r pre, ∃ q, p = pre ++ r.id :: q ∧ ∀ e ∈ pairs (r.id :: q), e ∈ edges r := by
  induction r using rose_ind with
  | h i ks ih =>
    intro pre p hp
    cases ks with
    | nil => exact ⟨[], by simpa [pathsFrom, Rose.id] using hp, by simp [pairs]⟩
    | cons k ks' =>
      simp only [pathsFrom, pathsFromL_eq, List.mem_flatMap] at hp
      obtain ⟨k', hk', hp⟩ := hp
      obtain ⟨q, rfl, he⟩ := ih k' hk' _ p hp
      refine ⟨k'.id :: q, by simp [Rose.id], fun e hmem => ?_⟩
      rw [Rose.id, pairs_cons_cons, List.mem_cons] at hmem
      simp only [edges, edgesL_eq, List.mem_append, List.mem_map, List.mem_flatMap]
      exact hmem.elim (fun h => Or.inl ⟨k', hk', h.symm⟩) fun h => Or.inr ⟨k', hk', he e h⟩

/-- **exactly one root-to-tip path per tip**: the paths' end points are the tips, in order, each path
starts at the root and runs along parent–child edges -/
theorem paths_one_per_tip (r : Rose) :
    (pathsOf r).map (fun p => p.getLastD r.id) = tipsOf r ∧
    (∀ p ∈ pathsOf r, p.head? = some r.id ∧ ∀ e ∈ pairs p, e ∈ edges r) := by
  rw [pathsOf_eq]
  refine ⟨pathsFrom_last r.id r [], fun p hp => ?_⟩
  obtain ⟨q, rfl, h⟩ := pathsFrom_edges r [] p hp
  exact ⟨rfl, h⟩

theorem tableKids_nil_iff : ∀ (ids pids : List Int), ids.length = pids.length →
    ∀ j, tableKids ids pids j = [] ↔ j ∉ pids
  | [], [], _, j => by simp [tableKids]
  | [], _ :: _, h, j => by simp at h
  | _ :: _, [], h, j => by simp at h
  | i :: is, p :: ps, h, j => by
    simp only [tableKids]
    have ih := tableKids_nil_iff is ps (by simpa using h) j
    by_cases hp : p = j
    · simp [hp]
    · have hp' : ¬ j = p := fun e => hp e.symm
      simp [hp, hp', ih]

/-- **tips are exactly the childless nodes** (`setdiff1d(ids, pids)`) -/
theorem tips_eq_childless (ids pids : List Int) (hl : ids.length = pids.length) (j : Int) :
    j ∈ getTips ids pids ↔ j ∈ ids ∧ tableKids ids pids j = [] := by
  rw [tableKids_nil_iff ids pids hl j]
  simp [getTips, List.mem_filter]

theorem mem_select_iff {f : Rose → List Int} {P : List Rose → Prop} {Q : List Int → Prop}
    (hf : ∀ i ks j, j ∈ f (.node i ks) ↔ j = i ∧ P ks ∨ ∃ k ∈ ks, j ∈ f k) (hPQ : ∀ ks, P ks ↔ Q (ks.map Rose.id))
    (K : Int → List Int) (r : Rose) : Agrees K r → ∀ j, j ∈ f r ↔ j ∈ r.ids ∧ Q (K j) := by
  induction r using rose_ind with
  | h i ks ih =>
    intro hA j
    have hAL := (agreesL_iff K ks).1 hA.2
    rw [hf, Rose.ids, idsL_eq, List.mem_cons, List.mem_flatMap, hPQ, ← hA.1]
    constructor
    · rintro (⟨rfl, h⟩ | ⟨k, hk, hj⟩)
      · exact ⟨Or.inl rfl, h⟩
      · have := (ih k hk (hAL k hk) j).1 hj
        exact ⟨Or.inr ⟨k, hk, this.1⟩, this.2⟩
    · rintro ⟨rfl | ⟨k, hk, hj⟩, h⟩
      · exact Or.inl ⟨rfl, h⟩
      · exact Or.inr ⟨k, hk, (ih k hk (hAL k hk) j).2 ⟨hj, h⟩⟩

/-- the childless nodes of the table are the leaves of the rose -/
theorem tipsOf_childless (kidsOf : Int → List Int) (r : Rose) (hA : Agrees kidsOf r) (j : Int) :
    j ∈ tipsOf r ↔ j ∈ r.ids ∧ kidsOf j = [] :=
  mem_select_iff (P := (· = [])) (Q := (· = [])) (fun i ks j => by cases ks <;> simp [tipsOf, tipsOfL_eq]) (by simp) kidsOf r hA j

-- the accumulator of `collect_furcations` after a subtree: what it was, plus the subtree's furcations
mutual
theorem spec_f : ∀ (r : Rose) (pv : Option Unit) (acc : List Int),
    (spec fEnter fLeave r pv acc).1.Perm (acc ++ furcsOf r)
  | .node i ks, pv, acc => by
    simp only [spec, fEnter, fLeave, furcsOf]
    have h := specRev_f ks () acc
    simp only [C04.specRev_length]
    split
    · exact (h.append_right [i]).trans (by rw [List.append_assoc]; exact List.perm_append_comm.append_left acc)
    · simpa using h
theorem specRev_f : ∀ (ks : List Rose) (cur : Unit) (acc : List Int),
    (specRev fEnter fLeave ks cur acc).1.Perm (acc ++ furcsOfL ks)
  | [], _, acc => by simp [specRev, furcsOfL]
  | r :: rs, cur, acc => by
    simp only [specRev, furcsOfL]
    have h1 := specRev_f rs cur acc
    have h2 := spec_f r (some cur) (specRev fEnter fLeave rs cur acc).1
    refine h2.trans ((h1.append_right _).trans ?_)
    rw [List.append_assoc]
    exact List.perm_append_comm.append_left acc
end

/-- **furcations are exactly the nodes with two or more children** -/
theorem furcations_eq (ids pids : List Int) (r : Rose) (h : Represents r ids pids) :
    (getFurcations ids pids r.id (2 * r.size)).Perm (furcsOf r) := by
  rw [getFurcations, (C04.traverse_eq_spec ids pids r h fEnter fLeave []).2.1]
  simpa using spec_f r none []

theorem furcsOf_ge2 (kidsOf : Int → List Int) (r : Rose) (hA : Agrees kidsOf r) (hD : r.ids.Nodup) (j : Int) :
    j ∈ furcsOf r ↔ j ∈ r.ids ∧ 2 ≤ (kidsOf j).length :=
  mem_select_iff (P := (1 < ·.length)) (Q := (2 ≤ ·.length))
    (fun i ks j => by by_cases h : 1 < ks.length <;> simp [furcsOf, furcsOfL_eq, h]) (fun ks => by rw [List.length_map]; exact Iff.rfl) kidsOf r hA j

/-- **the branch tree's table**, read off the definition: the ids are the root followed by the last node of every branch, the parents
`-1` followed by the first node of every branch.  (That the last nodes are the furcations and tips is `branch_ends`.) -/
theorem branchTree_table (root : Int) (brs : List (List Int)) :
    (branchTreeTable root brs).1 = root :: brs.map (fun b => b.getLastD root) ∧
    (branchTreeTable root brs).2 = -1 :: brs.map (fun b => b.headD root) := by
  exact ⟨rfl, rfl⟩

-- non-vacuity / concrete behaviour (kernel-evaluated)
def exR : Rose := .node 0 [.node 1 [.node 2 [.node 3 [], .node 4 [.node 5 []]], .node 6 []]]
example : branchesOf exR = [[0, 1], [1, 2], [2, 4, 5], [2, 3], [1, 6]] := by decide +kernel
example : branchesOf (.node 0 [.node 1 [.node 2 []]]) = [[0, 1, 2]] := by decide +kernel
example : branchesOf (.node 0 []) = [] := by decide +kernel
example : (branchesOf exR).flatMap pairs = [(0, 1), (1, 2), (2, 4), (4, 5), (2, 3), (1, 6)] := by decide +kernel
example : pathsOf exR = [[0, 1, 2, 3], [0, 1, 2, 4, 5], [0, 1, 6]] := by decide +kernel

end C08
