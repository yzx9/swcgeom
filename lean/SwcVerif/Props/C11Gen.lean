import SwcVerif.Proofs.Invariance
import SwcVerif.Refine.NodeFeat2
/-! # C11 for the GENERATED measures

The theorems of `Props/C11.lean` are about the hand-written feature models.  Here the same invariances are proved for the definitions the
translator regenerates from the source on every run: `Gen/AlgoLmGeo` (L-Measure geometry), `Gen/AlgoNodeFeat` (`Tree.length`, `Path.length`,
`straight_line_distance`, `tortuosity`, radial distance), `Gen/AlgoSholl` (`Sholl.intersect`), `Gen/AlgoLMeasure` (counts).  They are generic in the
numeric type `K` and in the Euclidean norm `norm : List K → K`.

A change of pose is a map `g` on coordinate rows.  `Invar.RowRel φ norm d g` says `norm (g a − g b) = φ (norm (a − b))` for all rows `a b` of
dimension `d` (and `g` keeps the dimension); `Invar.Homog F φ` says `φ` is additive, keeps signs and ratios.  `φ = id` is a rigid motion
(`generated_rigid_invariance`, `generated_rigid_source_matrices`; `Invar.rigid_rowRel`: the translation / rotation matrices generated from
the source are such maps), `φ = (s * ·)`, `s > 0`, a uniform scaling (`generated_scale`; `Invar.scale_rowRel`: the generated
`scale3d s s s`).  Every length becomes `φ` of itself (`Option.map φ`: the raising cases included), ratios and counts do not change, angles
do not change when `angle` does not. -/
namespace C11
open Gen.Algo LmGeo Invar RefineNf

section generic
variable {K : Type} [Inhabited K] [Add K] [Sub K] [Mul K] [OfNat K 0] [OfNat K 1] [LT K] [DecidableLT K] [LE K] [DecidableLE K]

/-- the table `xs' ys' zs'` is the table `xs ys zs` with every node's point mapped by `g` -/
def Moved (g : List K → List K) (n : Nat) (xs ys zs xs' ys' zs' : List K) : Prop :=
  RefineLmGeo.Cols n xs' ys' zs' ∧ ∀ i : Int, VI n i → pos xs' ys' zs' i = g (pos xs ys zs i)

/-- `Moved` is satisfiable for every `g` that keeps 3-vectors 3-vectors: the columns of the mapped rows -/
theorem moved_mapCols (g : List K → List K) (hlen : ∀ a, a.length = 3 → (g a).length = 3) {n : Nat} {xs ys zs : List K}
    (hc : RefineLmGeo.Cols n xs ys zs) : Moved g n xs ys zs (mapCols g xs ys zs 0) (mapCols g xs ys zs 1) (mapCols g xs ys zs 2) :=
  ⟨mapCols_cols g hc, fun i hi => pos_mapCols g hlen hc i hi⟩

/-- **generated L-Measure lengths under a change of pose** (`LMeasure.path_distance`, `euc_distance`, `Path.length`, `branch_pathlength`, `length`,
`contraction` of `swcgeom/analysis/lmeasure.py` as translated): on every well-formed tree, every node, every branch (list of nodes) and every
fuel the refinement theorem covers, the value on the moved table is `φ` of the value on the original (raising cases included); the
contraction — a ratio — is unchanged -/
theorem generated_lmgeo_under_map {F : Py.Fld K} {φ : K → K} (hφ : Homog F φ) (norm : List K → K) (g : List K → List K) (hg : RowRel φ norm 3 g)
    {xs ys zs xs' ys' zs' : List K} (pids : List Int) (hw : C07.WF pids) (hc : RefineLmGeo.Cols pids.length xs ys zs)
    (hm : Moved g pids.length xs ys zs xs' ys' zs') :
    (∀ k : Nat, k < pids.length → ∀ Fu : Nat,
      lm_path_distance norm (pids.length + 2 + Fu) pids xs' ys' zs' (k : Int) =
        (lm_path_distance norm (pids.length + 2 + Fu) pids xs ys zs (k : Int)).map φ) ∧
    (∀ (ids types : List Int) (k : Nat), k < pids.length →
      lm_euc_distance norm ids pids types xs' ys' zs' (k : Int) = (lm_euc_distance norm ids pids types xs ys zs (k : Int)).map φ) ∧
    (∀ br : List Int, (∀ i ∈ br, VI pids.length i) →
      path_length norm xs' ys' zs' br = (path_length norm xs ys zs br).map φ ∧
      lm_branch_pathlength norm xs' ys' zs' br = (lm_branch_pathlength norm xs ys zs br).map φ ∧
      lm_length norm xs' ys' zs' br = (lm_length norm xs ys zs br).map φ ∧
      lm_contraction F norm xs' ys' zs' br = lm_contraction F norm xs ys zs br) := by
  have hc' := hm.1
  have hd := distRel_of_pos hg hm.2
  refine ⟨fun k hk Fu => ?_, fun ids types k hk => ?_, fun br hb => ?_⟩
  · rw [C10.generated_path_distance norm pids hw hc.1 hc.2 hc.3 k hk Fu, C10.generated_path_distance norm pids hw hc'.1 hc'.2 hc'.3 k hk Fu]
    simp only [Option.map_some]
    congr 1
    apply sumFrom0_rel hφ
    intro e he
    have hv := steps_valid (rootPath_valid hw pids.length (k : Int) ⟨by omega, by omega⟩) e he
    exact hd _ _ hv.1 hv.2
  · have h := C10.generated_euc_distance norm ids pids types hc.1 hc.2 hc.3 k hk
    have h' := C10.generated_euc_distance norm ids pids types hc'.1 hc'.2 hc'.3 k hk
    by_cases ht : types.head? = some Gen.Consts.type_soma
    · rw [h.1 ht, h'.1 ht]
      simp only [Option.map_some]
      congr 1
      exact hd _ _ ⟨by omega, by omega⟩ ⟨by omega, by omega⟩
    · rw [h.2 ht, h'.2 ht]; rfl
  · have e := branchLength_rel hφ norm hd br hb
    refine ⟨?_, ?_, ?_, ?_⟩
    · rw [RefineLmGeo.pathLength_refines norm hc br hb, RefineLmGeo.pathLength_refines norm hc' br hb, e]; rfl
    · rw [RefineLmGeo.branchPathlength_refines norm hc br hb, RefineLmGeo.branchPathlength_refines norm hc' br hb, e]; rfl
    · rw [RefineLmGeo.length_refines norm hc br hb, RefineLmGeo.length_refines norm hc' br hb, e]; rfl
    · rw [RefineLmGeo.contraction_refines F norm hc br hb, RefineLmGeo.contraction_refines F norm hc' br hb]
      unfold contraction
      cases h1 : br.head? with
      | none => rfl
      | some a =>
        cases h2 : br.getLast? with
        | none => rfl
        | some b =>
          simp only []
          rw [e, hd a b (hb a (List.mem_of_mem_head? h1)) (hb b (List.mem_of_mem_getLast? h2)), hφ.fdiv]

/-- **generated bifurcation angles under a change of pose** (`LMeasure.bif_ampl_local`, `bif_ampl_remote` as translated), at every bifurcation
(a node with exactly two children) of a well-formed tree: unchanged, provided the `angle` parameter gives the same answer on mapped edge
vectors, `angle (g u − g w) (g v − g w) = angle (u − w) (v − w)` (for the source's `angle` — arccos of the normalised inner product — this is
`C11.rigid_preserves_angles` / `angle_data_scale`: inner products and norms are determined by the distances) -/
theorem generated_bif_angles_under_map (angle : List K → List K → Option K) (degrees : K → K) (g : List K → List K)
    (hang : ∀ u v w : List K, u.length = 3 → v.length = 3 → w.length = 3 →
      angle (vsub (g u) (g w)) (vsub (g v) (g w)) = angle (vsub u w) (vsub v w))
    {xs ys zs xs' ys' zs' : List K} (pids : List Int) (hw : C07.WF pids) (hc : RefineLmGeo.Cols pids.length xs ys zs)
    (hm : Moved g pids.length xs ys zs xs' ys' zs') (k : Nat) (hk : k < pids.length) (a b : Int)
    (hkids : RefineLmGeo.kids pids (k : Int) = [a, b]) :
    lm_bif_ampl_local angle degrees (Sub.rangeI pids.length) pids xs' ys' zs' (k : Int) =
      lm_bif_ampl_local angle degrees (Sub.rangeI pids.length) pids xs ys zs (k : Int) ∧
    ∀ Fu : Nat, pids.length + 1 ≤ Fu →
      lm_bif_ampl_remote angle degrees Fu (Sub.rangeI pids.length) pids xs' ys' zs' (k : Int) =
        lm_bif_ampl_remote angle degrees Fu (Sub.rangeI pids.length) pids xs ys zs (k : Int) := by
  have ha := angleRel_of_pos angle hang hm.2
  have hc' := hm.1
  have va := kids_VI pids k a (by rw [hkids]; simp)
  have vb := kids_VI pids k b (by rw [hkids]; simp)
  have vk : VI pids.length (k : Int) := ⟨by omega, by omega⟩
  refine ⟨?_, fun Fu hF => ?_⟩
  · rw [((C10.generated_bif_ampl_local angle degrees pids hc.1 hc.2 hc.3 k hk).1 a b hkids).2,
      ((C10.generated_bif_ampl_local angle degrees pids hc'.1 hc'.2 hc'.3 k hk).1 a b hkids).2, ha a b k va vb vk]
  · obtain ⟨la, lb, hla, hlb, _, e⟩ := (C10.generated_bif_ampl_remote angle degrees pids hw hc.1 hc.2 hc.3 k hk Fu hF).1 a b hkids
    obtain ⟨la', lb', hla', hlb', _, e'⟩ := (C10.generated_bif_ampl_remote angle degrees pids hw hc'.1 hc'.2 hc'.3 k hk Fu hF).1 a b hkids
    have h1 : la' = la := by rw [hla] at hla'; simpa using hla'.symm
    have h2 : lb' = lb := by rw [hlb] at hlb'; simpa using hlb'.symm
    subst h1 h2
    -- the far end of a daughter's branch is a node of the table
    have last_valid : ∀ (c : Int) (l : Nat), VI pids.length c → (RefineNodeBranch.nodeBranch pids Fu c).getLast? = some (l : Int) →
        VI pids.length (l : Int) :=
      fun c l vc hl => RefineNodeBranch.nodeBranch_valid hw Fu c vc.1 vc.2 _ (List.mem_of_mem_getLast? hl)
    rw [e, e', ha _ _ k (last_valid a la' va hla) (last_valid b lb' vb hlb) vk]

/-- **generated feature geometry under a change of pose** (`Tree.length`, `Path.length`, `Path.straight_line_distance`, `Path.tortuosity`,
`NodeFeatures.get_radial_distance` as translated; the table of coordinate rows `axyz` is mapped row by row): lengths and distances become `φ` of
themselves, the tortuosity — a ratio, with its zero-length guard — is unchanged; for every tree object with coordinates of dimension `d`,
every path of rows -/
theorem generated_nodefeat_under_map {F : Py.Fld K} {φ : K → K} (hφ : Homog F φ) (norm : List K → K) (d : Nat) (g : List K → List K)
    (hg : RowRel φ norm d g) (axyz : List (List K)) (hdim : ∀ r ∈ axyz, r.length = d) :
    (∀ pids : List Int, C10.GeoTree pids axyz d →
      nf_tree_length norm (Sub.rangeI pids.length) pids (axyz.map g) = (nf_tree_length norm (Sub.rangeI pids.length) pids axyz).map φ) ∧
    (∀ idx : List Int, (∀ i ∈ idx, Valid axyz i) → nf_path_length norm (axyz.map g) idx = (nf_path_length norm axyz idx).map φ) ∧
    (∀ (a : Int) (mid : List Int) (b : Int), (∀ i ∈ a :: (mid ++ [b]), Valid axyz i) →
      nf_path_straight norm (axyz.map g) (a :: (mid ++ [b])) = (nf_path_straight norm axyz (a :: (mid ++ [b]))).map φ ∧
      nf_path_tortuosity F norm (axyz.map g) (a :: (mid ++ [b])) = nf_path_tortuosity F norm axyz (a :: (mid ++ [b]))) ∧
    (∀ ids pids types : List Int, 0 < axyz.length →
      nf_radial_distance norm ids pids types (axyz.map g) = (nf_radial_distance norm ids pids types axyz).map (List.map φ)) := by
  refine ⟨fun pids h => ?_, fun idx hv => path_length_rel hφ hg axyz hdim idx hv, fun a mid b hv =>
    ⟨straight_rel hg axyz hdim a mid b (hv a List.mem_cons_self) (hv b (by simp)), ?_⟩, fun ids pids types h0 => ?_⟩
  · rw [C10.generated_tree_length norm pids axyz d h, C10.generated_tree_length norm pids (axyz.map g) d (geoTree_map hg h)]
    simp only [Option.map_some, sumK_eq]
    congr 1
    apply sumFrom0_rel hφ
    intro k hk
    have hk' : k + 1 < pids.length := by simp at hk; omega
    have hp : Valid axyz (pids.getD (k + 1) 0) := ⟨(h.par k hk').1, by rw [h.len]; exact (h.par k hk').2⟩
    have hc : Valid axyz ((k + 1 : Nat) : Int) := ⟨by omega, by rw [h.len]; simpa using hk'⟩
    simp only [sumFrom, List.foldl_cons, List.foldl_nil]
    rw [vec_map hg axyz h.dim _ _ hp hc, hφ.add, hφ.zero]
  · rw [tortuosity_refines, tortuosity_refines, path_length_rel hφ hg axyz hdim _ hv,
      straight_rel hg axyz hdim a mid b (hv a List.mem_cons_self) (hv b (by simp))]
    cases nf_path_length norm axyz (a :: (mid ++ [b])) with
    | none => rfl
    | some L =>
      simp only [Option.map_some, Option.bind_some, hφ.neg, hφ.pos]
      split
      · rfl
      · cases nf_path_straight norm axyz (a :: (mid ++ [b])) with
        | none => rfl
        | some S => simp only [Option.map_some, Option.bind_some, hφ.div]
  · have v0 : Valid axyz 0 := ⟨le_refl _, by simpa using h0⟩
    have l0 := hdim _ (row_mem axyz 0 v0)
    have h := radial_refines norm ids pids types axyz h0 (by intro r hr; rw [hdim r hr, l0])
    have h' := radial_refines norm ids pids types (axyz.map g) (by simpa using h0) (by
      intro r hr
      rw [hg.dim_map hdim r hr, row_map g axyz 0 v0, hg.len _ l0])
    by_cases ht : types.head? = some Gen.Consts.type_soma
    · rw [h.1 ht, h'.1 ht, row_map g axyz 0 v0]
      simp only [Option.map_some, List.map_map]
      congr 1
      apply List.map_congr_left
      intro r hr
      exact hg.dist _ _ (hdim r hr) l0
    · rw [h.2 ht, h'.2 ht]; rfl

/-- **generated Sholl counts under a monotone change of the root distances** (`Sholl.intersect` as translated, on the segment end radii
`pairs`): the count at radius `φ r` over the radii `φ a, φ b` is the count at `r` over `a, b` — the profile only stretches along the
radius axis.  (The root distances are the generated radial distances, which `generated_nodefeat_under_map` maps by `φ`.) -/
theorem generated_sholl_under_map (φ : K → K) (hle : ∀ a b, φ a ≤ φ b ↔ a ≤ b) (hlt : ∀ a b, φ a < φ b ↔ a < b) (pairs : List (K × K)) (r : K) :
    sholl_intersect (RefineSholl.rows (pairs.map fun p => (φ p.1, φ p.2))) (φ r) = sholl_intersect (RefineSholl.rows pairs) r := by
  rw [RefineSholl.intersect_refines, RefineSholl.intersect_refines, List.filter_map, List.length_map]
  congr 4
  funext p
  simp [RefineSholl.straddle, hle, hlt]

/-- `generated_nodefeat_under_map` at `φ = id` -/
theorem generated_nodefeat_rigid (F : Py.Fld K) (norm : List K → K) (g : List K → List K) (hg : RowRel (fun x => x) norm 3 g)
    (pids : List Int) (axyz : List (List K)) (ht : C10.GeoTree pids axyz 3) :
    nf_tree_length norm (Sub.rangeI pids.length) pids (axyz.map g) = nf_tree_length norm (Sub.rangeI pids.length) pids axyz ∧
    (∀ (a : Int) (mid : List Int) (b : Int), (∀ i ∈ a :: (mid ++ [b]), Valid axyz i) →
      nf_path_length norm (axyz.map g) (a :: (mid ++ [b])) = nf_path_length norm axyz (a :: (mid ++ [b])) ∧
      nf_path_tortuosity F norm (axyz.map g) (a :: (mid ++ [b])) = nf_path_tortuosity F norm axyz (a :: (mid ++ [b]))) ∧
    (∀ ids types : List Int, 0 < axyz.length →
      nf_radial_distance norm ids pids types (axyz.map g) = nf_radial_distance norm ids pids types axyz) := by
  have h2 := generated_nodefeat_under_map (Homog.id F) norm 3 g hg axyz ht.dim
  exact ⟨by rw [h2.1 pids ht, Option.map_id'], fun a mid b hv => ⟨by rw [h2.2.1 _ hv, Option.map_id'], (h2.2.2.1 a mid b hv).2⟩,
    fun ids types h0 => by simp [h2.2.2.2 ids pids types h0]⟩

/-- **rigid motions change no generated measure**: `generated_lmgeo_under_map` / `generated_nodefeat_under_map` at `φ = id` -/
theorem generated_rigid_invariance (F : Py.Fld K) (norm : List K → K) (g : List K → List K) (hg : RowRel (fun x => x) norm 3 g)
    {xs ys zs xs' ys' zs' : List K} (pids : List Int) (hw : C07.WF pids) (hc : RefineLmGeo.Cols pids.length xs ys zs)
    (hm : Moved g pids.length xs ys zs xs' ys' zs') (axyz : List (List K)) (ht : C10.GeoTree pids axyz 3) :
    (∀ k : Nat, k < pids.length → ∀ Fu : Nat,
      lm_path_distance norm (pids.length + 2 + Fu) pids xs' ys' zs' (k : Int) = lm_path_distance norm (pids.length + 2 + Fu) pids xs ys zs (k : Int)) ∧
    (∀ (ids types : List Int) (k : Nat), k < pids.length →
      lm_euc_distance norm ids pids types xs' ys' zs' (k : Int) = lm_euc_distance norm ids pids types xs ys zs (k : Int)) ∧
    (∀ br : List Int, (∀ i ∈ br, VI pids.length i) →
      lm_branch_pathlength norm xs' ys' zs' br = lm_branch_pathlength norm xs ys zs br ∧
      lm_contraction F norm xs' ys' zs' br = lm_contraction F norm xs ys zs br) ∧
    nf_tree_length norm (Sub.rangeI pids.length) pids (axyz.map g) = nf_tree_length norm (Sub.rangeI pids.length) pids axyz ∧
    (∀ (a : Int) (mid : List Int) (b : Int), (∀ i ∈ a :: (mid ++ [b]), Valid axyz i) →
      nf_path_length norm (axyz.map g) (a :: (mid ++ [b])) = nf_path_length norm axyz (a :: (mid ++ [b])) ∧
      nf_path_tortuosity F norm (axyz.map g) (a :: (mid ++ [b])) = nf_path_tortuosity F norm axyz (a :: (mid ++ [b]))) ∧
    (∀ ids types : List Int, 0 < axyz.length →
      nf_radial_distance norm ids pids types (axyz.map g) = nf_radial_distance norm ids pids types axyz) := by
  have h1 := generated_lmgeo_under_map (Homog.id F) norm g hg pids hw hc hm
  have h2 := generated_nodefeat_rigid F norm g hg pids axyz ht
  exact ⟨fun k hk Fu => by rw [h1.1 k hk Fu, Option.map_id'], fun ids types k hk => by rw [h1.2.1 ids types k hk, Option.map_id'],
    fun br hb => ⟨by rw [(h1.2.2 br hb).2.1, Option.map_id'], (h1.2.2 br hb).2.2.2⟩, h2.1, h2.2.1, h2.2.2⟩

/-- **the topological measures take no coordinates**: the generated `n_tips`, `n_bifs`, `n_branch`, `n_stems`, `branch_order`, `terminal_degree`,
`fragmentation` are functions of the id / parent / type columns alone — no change of the coordinate table can change them.  (That is read
off their signatures; the statement records it as the equality of a constant function's values at two coordinate tables, which is `rfl`.) -/
theorem generated_counts_coordinate_free (fuel : Nat) (ids pids types : List Int) (k : Int) (b : List Int) (axyz axyz' : List (List K)) :
    (fun (_ : List (List K)) => (lm_n_tips ids pids types, lm_n_bifs fuel ids pids types, lm_n_branch fuel ids pids types,
      lm_n_stems ids pids types, lm_branch_order fuel ids pids k, lm_terminal_degree fuel ids pids k, lm_fragmentation b)) axyz =
    (fun (_ : List (List K)) => (lm_n_tips ids pids types, lm_n_bifs fuel ids pids types, lm_n_branch fuel ids pids types,
      lm_n_stems ids pids types, lm_branch_order fuel ids pids k, lm_terminal_degree fuel ids pids k, lm_fragmentation b)) axyz' := rfl
end generic

/-! ## renumbering -/

/-- **renumbering the nodes changes neither the generated `n_tips` nor the generated `n_bifs`**: `σ` injective and permuting the ids `0 .. n-1`,
the new parent column the `σ`-image of the old one as a multiset of rows (`Invar.Renumbered`: rows `(σ i, σ pids[i])` in any order — what
`pids'[σ i] = σ (pids[i])` gives); both tables tree objects (`C06.IsTree`, needed by the refinement theorem of `n_bifs` only), every fuel
`≥ 2n + 1` -/
theorem generated_counts_renumbered (σ : Int → Int) (pids pids' types types' : List Int) (h : Renumbered σ pids pids') :
    lm_n_tips (Sub.rangeI pids'.length) pids' types' = lm_n_tips (Sub.rangeI pids.length) pids types ∧
    ∀ (r r' : Rose), C06.IsTree r pids → C06.IsTree r' pids' → ∀ F : Nat,
      lm_n_bifs (2 * pids'.length + F + 1) (Sub.rangeI pids'.length) pids' types' =
        lm_n_bifs (2 * pids.length + F + 1) (Sub.rangeI pids.length) pids types := by
  constructor
  · rw [C10.generated_n_tips, C10.generated_n_tips]
    have e : ∀ p : List Int, (fun i => decide (tableKids (Sub.rangeI p.length) p i = [])) =
        fun i => (fun n : Nat => decide (n = 0)) (tableKids (Sub.rangeI p.length) p i).length := by
      intro p; funext i; simp [List.length_eq_zero_iff]
    rw [e pids, e pids']
    exact congrArg (fun n : Nat => some (n : Int)) (h.count_kids (fun n : Nat => decide (n = 0)))
  · intro r r' ht ht' F
    rw [C10.generated_n_bifs pids types r ht F, C10.generated_n_bifs pids' types' r' ht' F]
    exact congrArg (fun n : Nat => some (n : Int)) (h.count_kids (fun n : Nat => decide (2 ≤ n)))

/-- **renumbering the nodes does not change the generated `n_stems`**: a valid renumbering keeps the root at id 0 (`σ 0 = 0`: the library requires
the root to be the first row) and the first row's type; the translated `LMeasure.n_stems` — the number of children of node 0 when that row is
typed as soma, `Tree.soma`'s `ValueError` otherwise — then gives the same answer (the raising case included) on both tables -/
theorem generated_n_stems_renumbered (σ : Int → Int) (pids pids' types types' : List Int) (h : Renumbered σ pids pids') (h0 : σ 0 = 0)
    (hn : 0 < pids.length) (ht : types'.head? = types.head?) :
    lm_n_stems (Sub.rangeI pids'.length) pids' types' = lm_n_stems (Sub.rangeI pids.length) pids types := by
  have hn' : 0 < pids'.length := by rw [h.len]; exact hn
  have a := C10.generated_n_stems pids types hn
  have b := C10.generated_n_stems pids' types' hn'
  have k := h.kids_len 0
  rw [h0] at k
  by_cases hs : types.head? = some Gen.Consts.type_soma
  · rw [a.1 hs, b.1 (by rw [ht]; exact hs), k]
  · rw [a.2 hs, b.2 (by rw [ht]; exact hs)]

section field
variable {K : Type} [Field K] [LinearOrder K] [IsStrictOrderedRing K] [Inhabited K]

/-- **uniform scaling by `s > 0`** (any row map that multiplies the norm of every difference by `s`; `Invar.scale_rowRel`: the generated
`scale3d s s s`), in an ordered field whose `Py.Fld` division is the field division: generated lengths (`path_distance`, `euc_distance`,
`branch_pathlength`, `Tree.length`, `Path.length`, radial distances) are multiplied by `s`; the ratios (`contraction`, `tortuosity`) do not
change; the Sholl count at radius `s · r` over the scaled root distances is the count at `r` -/
theorem generated_scale (F : Py.Fld K) (hF : ∀ a b : K, F.div a b = a / b) (s : K) (hs : 0 < s) (norm : List K → K) (g : List K → List K)
    (hg : RowRel (fun x => s * x) norm 3 g) {xs ys zs xs' ys' zs' : List K} (pids : List Int) (hw : C07.WF pids)
    (hc : RefineLmGeo.Cols pids.length xs ys zs) (hm : Moved g pids.length xs ys zs xs' ys' zs') (axyz : List (List K))
    (ht : C10.GeoTree pids axyz 3) :
    (∀ k : Nat, k < pids.length → ∀ Fu : Nat,
      lm_path_distance norm (pids.length + 2 + Fu) pids xs' ys' zs' (k : Int) =
        (lm_path_distance norm (pids.length + 2 + Fu) pids xs ys zs (k : Int)).map (s * ·)) ∧
    (∀ (ids types : List Int) (k : Nat), k < pids.length →
      lm_euc_distance norm ids pids types xs' ys' zs' (k : Int) = (lm_euc_distance norm ids pids types xs ys zs (k : Int)).map (s * ·)) ∧
    (∀ br : List Int, (∀ i ∈ br, VI pids.length i) →
      lm_branch_pathlength norm xs' ys' zs' br = (lm_branch_pathlength norm xs ys zs br).map (s * ·) ∧
      lm_contraction F norm xs' ys' zs' br = lm_contraction F norm xs ys zs br) ∧
    nf_tree_length norm (Sub.rangeI pids.length) pids (axyz.map g) = (nf_tree_length norm (Sub.rangeI pids.length) pids axyz).map (s * ·) ∧
    (∀ (a : Int) (mid : List Int) (b : Int), (∀ i ∈ a :: (mid ++ [b]), Valid axyz i) →
      nf_path_length norm (axyz.map g) (a :: (mid ++ [b])) = (nf_path_length norm axyz (a :: (mid ++ [b]))).map (s * ·) ∧
      nf_path_tortuosity F norm (axyz.map g) (a :: (mid ++ [b])) = nf_path_tortuosity F norm axyz (a :: (mid ++ [b]))) ∧
    (∀ ids types : List Int, 0 < axyz.length →
      nf_radial_distance norm ids pids types (axyz.map g) = (nf_radial_distance norm ids pids types axyz).map (List.map (s * ·))) ∧
    (∀ (pairs : List (K × K)) (r : K),
      sholl_intersect (RefineSholl.rows (pairs.map fun p => (s * p.1, s * p.2))) (s * r) = sholl_intersect (RefineSholl.rows pairs) r) := by
  have hφ := Homog.scale F hF s hs
  have h1 := generated_lmgeo_under_map hφ norm g hg pids hw hc hm
  have h2 := generated_nodefeat_under_map hφ norm 3 g hg axyz ht.dim
  exact ⟨h1.1, h1.2.1, fun br hb => ⟨(h1.2.2 br hb).2.1, (h1.2.2 br hb).2.2.2⟩, h2.1 pids ht,
    fun a mid b hv => ⟨h2.2.1 _ hv, (h2.2.2.1 a mid b hv).2⟩, fun ids types h0 => h2.2.2.2 ids pids types h0,
    fun pairs r => generated_sholl_under_map (fun x => s * x) (fun _ _ => mul_le_mul_iff_right₀ hs) (fun _ _ => mul_lt_mul_iff_right₀ hs) pairs r⟩

/-- **the rigid motions GENERATED from the source change no generated length**: for the translation matrix and the rotations about the x / y / z
axis through any centre (`Gen/Matrices`, `c² + s² = 1`) applied to every coordinate row, and the Euclidean norm `ψ (x² + y² + z²)` with any
`ψ` (the square root), `Tree.length` and every `Path.length` / `tortuosity` / radial distance as translated are unchanged -/
theorem generated_rigid_source_matrices (F : Py.Fld K) (ψ : K → K) (c s cx cy cz tx ty tz : K) (h : c * c + s * s = 1) (pids : List Int)
    (axyz : List (List K)) (ht : C10.GeoTree pids axyz 3) :
    ∀ M ∈ [Gen.Mat.translate3d tx ty tz, Gen.Affine.aboutRoot (Gen.Mat.rotate3d_x c s) cx cy cz,
        Gen.Affine.aboutRoot (Gen.Mat.rotate3d_y c s) cx cy cz, Gen.Affine.aboutRoot (Gen.Mat.rotate3d_z c s) cx cy cz],
      let g := liftPt (Gen.Affine.applyPoint M)
      let norm := fun v : List K => ψ (sq3 v)
      nf_tree_length norm (Sub.rangeI pids.length) pids (axyz.map g) = nf_tree_length norm (Sub.rangeI pids.length) pids axyz ∧
      (∀ (a : Int) (mid : List Int) (b : Int), (∀ i ∈ a :: (mid ++ [b]), Valid axyz i) →
        nf_path_length norm (axyz.map g) (a :: (mid ++ [b])) = nf_path_length norm axyz (a :: (mid ++ [b])) ∧
        nf_path_tortuosity F norm (axyz.map g) (a :: (mid ++ [b])) = nf_path_tortuosity F norm axyz (a :: (mid ++ [b]))) ∧
      (∀ ids types : List Int, 0 < axyz.length →
        nf_radial_distance norm ids pids types (axyz.map g) = nf_radial_distance norm ids pids types axyz) := by
  intro M hM
  have hR : C12.Rigid M := by
    simp only [List.mem_cons, List.not_mem_nil, or_false] at hM
    rcases hM with rfl | rfl | rfl | rfl
    exacts [C12.rigid_translate3d .., (C12.rigid_rotate3d_x h).aboutRoot .., (C12.rigid_rotate3d_y h).aboutRoot ..,
      (C12.rigid_rotate3d_z h).aboutRoot ..]
  exact generated_nodefeat_rigid F _ _ (rowRel_of_rigid ψ hR) pids axyz ht

/-- **renumbering the nodes does not change the generated `Tree.length`** (ordered field: the summands are permuted, so addition must commute):
`σ` permutes `0 .. n-1` and keeps the root at 0, the new table carries every row along — `pids'[σ i] = σ (pids[i])` for the non-root rows,
`xyz'[σ i] = xyz[i]` — both tables tree objects with coordinates (`C10.GeoTree`) -/
theorem generated_tree_length_renumbered (norm : List K → K) (σ : Nat → Nat) (pids pids' : List Int) (axyz axyz' : List (List K)) (d : Nat)
    (ht : C10.GeoTree pids axyz d) (ht' : C10.GeoTree pids' axyz' d) (hl : pids'.length = pids.length)
    (hσ : ((List.range pids.length).map σ).Perm (List.range pids.length)) (h0 : σ 0 = 0)
    (hp : ∀ i, 0 < i → i < pids.length → pids'.getD (σ i) 0 = ((σ (pids.getD i 0).toNat : Nat) : Int))
    (hx : ∀ i, i < pids.length → row axyz' ((σ i : Nat) : Int) = row axyz (i : Int)) :
    nf_tree_length norm (Sub.rangeI pids'.length) pids' axyz' = nf_tree_length norm (Sub.rangeI pids.length) pids axyz := by
  rw [C10.generated_tree_length norm pids axyz d ht, C10.generated_tree_length norm pids' axyz' d ht', hl]
  congr 1
  rw [sumK_eq_sum, sumK_eq_sum]
  refine sum_succ_relabel hσ h0 (fun k => Py.Nf.sumK [norm (vec axyz (pids.getD k 0) (k : Int))])
    (fun k => Py.Nf.sumK [norm (vec axyz' (pids'.getD k 0) (k : Int))]) fun i hi0 hin => ?_
  -- the summand of the non-root node `i`: its row and its parent's row are carried along by `σ`
  obtain ⟨j, rfl⟩ : ∃ j, i = j + 1 := ⟨i - 1, by omega⟩
  obtain ⟨hp0, hp1⟩ := ht.par j hin
  simp only [vec]
  rw [hx (j + 1) hin, hp (j + 1) hi0 hin, hx _ hp1, Int.toNat_of_nonneg hp0]

open RefineNf2 in
/-- **the angles between branches do not depend on the length unit** (the property's scaling clause for the GENERATED
`BranchFeatures.calc_angle`): when every coordinate row is multiplied by `s > 0`, the generated angle matrix is unchanged - for every `norm`
with `norm (s·v) = s · norm v` that vanishes only together with the dot products (`‖v‖‖w‖ = 0 → v·w = 0`: the Euclidean norm), every `acos`,
whatever `eps` is handed in.  (With an absolute `eps` added to `‖v‖‖w‖` the statement would be false: finding D34, DESIGN.md §6.) -/
theorem generated_branch_angle_scale (F : Py.Fld K) (hF : ∀ a b : K, F.div a b = a / b) (s : K) (hs : 0 < s) (norm : List K → K)
    (hnorm : ∀ v : List K, norm (v.map (s * ·)) = s * norm v)
    (hnz : ∀ v w : List K, norm v * norm w = 0 → RefineNf2.dotK v w = 0) (acos : K → K)
    (axyz : List (List K)) (d : Nat) (brs : List (List Int)) (eps eps' : K) (hg : ∀ b ∈ brs, GoodBr axyz d b) :
    nf_calc_angle F norm acos (axyz.map (List.map (s * ·))) brs eps' = nf_calc_angle F norm acos axyz brs eps := by
  have hrow : ∀ i : Int, RefineNf.row (axyz.map (List.map (s * ·))) i = (RefineNf.row axyz i).map (s * ·) := by
    intro i
    simp only [RefineNf.row, List.getD_eq_getElem?_getD, List.getElem?_map]
    cases axyz[i.toNat]? <;> simp
  have hbv : ∀ b, bvec (axyz.map (List.map (s * ·))) b = (bvec axyz b).map (s * ·) := by
    intro b
    simp [bvec, RefineNf.vec, hrow, List.zipWith_map, List.map_zipWith, mul_sub]
  have hg' : ∀ b ∈ brs, GoodBr (axyz.map (List.map (s * ·))) d b := by
    intro b hb
    obtain ⟨h0, h1, h2, h3, h4⟩ := hg b hb
    exact ⟨h0, (valid_map _ _ _).2 h1, (valid_map _ _ _).2 h2, by rw [hrow, List.length_map, h3], by rw [hrow, List.length_map, h4]⟩
  have hdot : ∀ a b : List K, RefineNf2.dotK (a.map (s * ·)) (b.map (s * ·)) = s * s * RefineNf2.dotK a b := by
    intro a b
    simp only [RefineNf2.dotK, sumK_eq_sum, List.zipWith_map]
    have hsm : ∀ (c : K) (l : List K), (l.map (c * ·)).sum = c * l.sum := by
      intro c l
      induction l with
      | nil => simp
      | cons x xs ih => simp [ih, mul_add]
    rw [← hsm, List.map_zipWith]
    congr 2
    funext x y
    ring
  have hss : 0 < s * s := mul_pos hs hs
  have hφ := Homog.scale F hF (s * s) hss
  rw [calc_angle_refines F norm acos _ d brs eps' one_pos hg', calc_angle_refines F norm acos axyz d brs eps one_pos hg]
  congr 1
  apply List.map_congr_left; intro bi _
  apply List.map_congr_left; intro bj _
  congr 2
  -- dot product and product of norms both pick up `s * s`: the degeneracy test and the quotient are those of the original
  have hN : angNd norm (axyz.map (List.map (s * ·))) bi bj = s * s * angNd norm axyz bi bj := by
    simp only [angNd, sumK_eq_sum, hbv, hnorm, List.sum_singleton]; ring
  have hD : angDeg norm (axyz.map (List.map (s * ·))) bi bj = angDeg norm axyz bi bj := by
    simp only [angDeg, hN, hφ.neg, hφ.pos]
  simp only [angDen, hD, hN, hbv, hdot]
  split_ifs with hdeg
  · have h0 : angNd norm axyz bi bj = 0 := by
      simp only [angDeg, Bool.not_eq_true', Bool.or_eq_false_iff, decide_eq_false_iff_not, not_lt] at hdeg
      exact le_antisymm hdeg.2 hdeg.1
    rw [hnz _ _ (by simpa [angNd, sumK_eq_sum] using h0), mul_zero]
  · exact hφ.div _ _

end field

/-! non-vacuity, kernel-evaluated at `K = Rat` with `ψ = id` (squared lengths): the generated translation by (1, 2, 3) and the generated
scaling by 2 on the tree `0 → 1 → 2` -/
section examples
def ivA : List (List Rat) := [[0, 0, 0], [3, 0, 0], [3, 4, 0]]
def ivNorm : List Rat → Rat := fun v => sq3 v
def ivT : List Rat → List Rat := liftPt (Gen.Affine.applyPoint (Gen.Mat.translate3d (1 : Rat) 2 3))
def ivS : List Rat → List Rat := liftPt (Gen.Affine.applyPoint (Gen.Mat.scale3d (2 : Rat) 2 2))

example : RowRel (fun x => x) ivNorm 3 ivT := (rigid_rowRel (fun x : Rat => x) 1 0 0 0 0 1 2 3 (by norm_num)).1
example : RowRel (fun x => 4 * x) ivNorm 3 ivS := by
  have := rowRel_of_d2 (fun x : Rat => x) (fun x => 4 * x) (2 * 2) (fun q => by ring) _
    (fun x y z x' y' z' => C11.scale_distances (2 : Rat) x y z x' y' z')
  exact this
example : ivA.map ivT = [[1, 2, 3], [4, 2, 3], [4, 6, 3]] ∧ ivA.map ivS = [[0, 0, 0], [6, 0, 0], [6, 8, 0]] := by decide +kernel
example : nf_tree_length ivNorm (Sub.rangeI 3) [-1, 0, 1] ivA = some 25 ∧
    nf_tree_length ivNorm (Sub.rangeI 3) [-1, 0, 1] (ivA.map ivT) = some 25 ∧
    nf_tree_length ivNorm (Sub.rangeI 3) [-1, 0, 1] (ivA.map ivS) = some 100 ∧
    nf_path_tortuosity Py.ratFld ivNorm ivA [0, 1, 2] = some 1 ∧
    nf_path_tortuosity Py.ratFld ivNorm (ivA.map ivS) [0, 1, 2] = some 1 := by decide +kernel
example : C10.GeoTree [-1, 0, 1] ivA 3 := by
  refine ⟨rfl, ?_, by decide⟩
  intro k hk
  have : k = 0 ∨ k = 1 := by simp at hk; omega
  rcases this with rfl | rfl <;> decide
/-- a non-trivial renumbering (swap ids 1 and 2 of the chain `0 → 1 → 2`: the new table `[-1, 2, 0]` is the chain `0 → 2 → 1`) -/
def ivSwap (i : Int) : Int := if i = 1 then 2 else if i = 2 then 1 else i
example : Renumbered ivSwap [-1, 0, 1] [-1, 2, 0] := by
  -- injective because it is its own inverse
  refine ⟨Function.LeftInverse.injective (g := ivSwap) fun i => ?_, by decide, by decide⟩
  by_cases h1 : i = 1
  · rw [h1]; rfl
  · by_cases h2 : i = 2
    · rw [h2]; rfl
    · simp only [ivSwap, if_neg h1, if_neg h2]
example : lm_n_tips (Sub.rangeI 3) [-1, 2, 0] [1, 3, 3] = some 1 ∧ lm_n_tips (Sub.rangeI 3) [-1, 0, 1] [1, 3, 3] = some 1 ∧
    lm_n_tips (Sub.rangeI 3) [-1, 0, 0] [1, 3, 3] = some 2 := by decide +kernel
example : nf_tree_length ivNorm (Sub.rangeI 3) [-1, 2, 0] [[0, 0, 0], [3, 4, 0], [3, 0, 0]] = some 25 ∧
    C10.GeoTree [-1, 2, 0] ([[0, 0, 0], [3, 4, 0], [3, 0, 0]] : List (List Rat)) 3 := by
  refine ⟨by decide +kernel, rfl, ?_, by decide⟩
  intro k hk
  have : k = 0 ∨ k = 1 := by simp at hk; omega
  rcases this with rfl | rfl <;> decide
end examples

end C11
