import SwcVerif.Model.Mst
import SwcVerif.Proofs.Mst
import Mathlib.Data.List.Perm.Subperm
import Mathlib.Data.List.Nodup
import Mathlib.Tactic.Linarith
/-! # C16 — the re-assembly pairs every resampled branch with its own end node

`BranchTreeAssembler.pair` matches the branches that start at a node with that node's children greedily by
distance.  If every branch ends exactly at one child (distance 0 — the resamplers keep the end points) and
distinct children lie at distinct places (all other distances positive), the greedy loop returns exactly
that matching: every branch once, each with its own child — whatever the order of branches and children.
(Sister branches that end at the SAME point: `pair_same_place` in `Props/C16PairLoc.lean`.) -/
set_option linter.unusedVariables false
namespace C16
open Mst

def pmask (s : PairSt) (i j : Nat) : Bool := s.rows.getD i false || s.cols.getD j false
def pcost (dis : List (List Rat)) (i j : Nat) : Rat := (dis.getD i []).getD j 0

theorem pairArgmin_eq (dis : List (List Rat)) (s : PairSt) (m : Nat) :
    pairArgmin dis s m = firstMin (pmask s) (pcost dis) m := rfl

/-- if some cell is still finite, the round picks a finite cell of least distance -/
theorem pairArgmin_spec (dis : List (List Rat)) (s : PairSt) (m : Nat)
    (hex : ∃ i j, i < m ∧ j < m ∧ pmask s i j = false) :
    (pairArgmin dis s m).1 < m ∧ (pairArgmin dis s m).2 < m ∧
    pmask s (pairArgmin dis s m).1 (pairArgmin dis s m).2 = false ∧
    ∀ i j, i < m → j < m → pmask s i j = false →
      pcost dis (pairArgmin dis s m).1 (pairArgmin dis s m).2 ≤ pcost dis i j := by
  have hm : 0 < m := hex.elim fun i ⟨_, hi, _⟩ => Nat.zero_lt_of_lt hi
  obtain ⟨h1, h2, h3⟩ := firstMin_spec (pmask s) (pcost dis) m hm
  rw [pairArgmin_eq]
  exact ⟨h1, h2, h3 hex⟩

/-- the loop invariant: the pairs found so far are pairs of the true matching `σ`, and exactly their rows and
columns are switched off -/
structure PInv (σ : Nat → Nat) (m k : Nat) (s : PairSt) : Prop where
  lenr : s.rows.length = m
  lenc : s.cols.length = m
  npairs : s.pairs.length = k
  graph : ∀ p ∈ s.pairs, p.1 < m ∧ p.2 = σ p.1
  rowsIff : ∀ i, i < m → (s.rows.getD i false = true ↔ i ∈ s.pairs.map Prod.fst)
  colsIff : ∀ j, j < m → (s.cols.getD j false = true ↔ j ∈ s.pairs.map Prod.snd)
  nodup : (s.pairs.map Prod.fst).Nodup

/-- a duplicate-free list of numbers below `m` that is shorter than `m` misses one of them -/
theorem exists_missing (l : List Nat) (m : Nat) (hnd : l.Nodup) (hlt : l.length < m) : ∃ i, i < m ∧ i ∉ l := by
  by_contra hall
  have hsub : List.range m ⊆ l := fun i hi => by
    by_contra hni
    exact hall ⟨i, List.mem_range.mp hi, hni⟩
  have := (List.subperm_of_subset List.nodup_range hsub).length_le
  rw [List.length_range] at this
  omega

theorem perm_range_of_nodup {α : Type} (f : α → Nat) (l : List α) (m : Nat) (hnd : (l.map f).Nodup) (hlt : ∀ x ∈ l, f x < m)
    (hlen : l.length = m) : (l.map f).Perm (List.range m) :=
  (List.subperm_of_subset hnd fun y hy => by
    obtain ⟨x, hx, rfl⟩ := List.mem_map.mp hy
    exact List.mem_range.mpr (hlt x hx)).perm_of_length_le (by rw [List.length_range, List.length_map, hlen])

theorem nodup_map_concat {α β : Type} (f : α → β) (l : List α) (x : α) (h : (l.map f).Nodup) (hx : f x ∉ l.map f) :
    ((l ++ [x]).map f).Nodup := by
  rw [List.map_append, List.nodup_append_comm]
  exact List.nodup_cons.mpr ⟨hx, h⟩

theorem mark_iff (l : List Bool) (a x : Nat) (ha : a < l.length) (P : Prop) (h : l.getD x false = true ↔ P) :
    (l.set a true).getD x false = true ↔ P ∨ x = a := by
  rw [getD_set_of_lt l a x true false ha]
  by_cases hx : x = a
  · simp [hx]
  · rw [if_neg hx, h]
    exact ⟨Or.inl, fun h => h.resolve_right hx⟩

/-- the bookkeeping part of the loop invariants: exactly the rows and the columns of the pairs found so far are switched off -/
structure Marks (m k : Nat) (s : PairSt) : Prop where
  lenr : s.rows.length = m
  lenc : s.cols.length = m
  npairs : s.pairs.length = k
  rowsIff : ∀ i, i < m → (s.rows.getD i false = true ↔ i ∈ s.pairs.map Prod.fst)
  colsIff : ∀ j, j < m → (s.cols.getD j false = true ↔ j ∈ s.pairs.map Prod.snd)

theorem marks_init (m : Nat) : Marks m 0 ⟨List.replicate m false, List.replicate m false, []⟩ :=
  ⟨List.length_replicate, List.length_replicate, rfl,
    fun i hi => by rw [getD_replicate m i false false hi]; simp, fun j hj => by rw [getD_replicate m j false false hj]; simp⟩

/-- **one round of the loop**: while a branch `i` and a child `j` are still free, the round takes a free cell `(a, b)` that costs no more than
`(i, j)`, switches off its row and its column and records the pair -/
theorem marks_step (dis : List (List Rat)) (m k : Nat) (s : PairSt) (M : Marks m k s) (i j : Nat) (hi : i < m) (hj : j < m)
    (hni : i ∉ s.pairs.map Prod.fst) (hnj : j ∉ s.pairs.map Prod.snd) :
    ∃ a b, a < m ∧ b < m ∧ a ∉ s.pairs.map Prod.fst ∧ b ∉ s.pairs.map Prod.snd ∧ pcost dis a b ≤ pcost dis i j ∧
      (pairStep dis m s).pairs = s.pairs ++ [(a, b)] ∧ Marks m (k + 1) (pairStep dis m s) := by
  have hfree : pmask s i j = false := by
    rw [pmask, Bool.or_eq_false_iff, Bool.eq_false_iff, Bool.eq_false_iff, ne_eq, ne_eq, M.rowsIff i hi, M.colsIff j hj]
    exact ⟨hni, hnj⟩
  obtain ⟨ha, hb, hab, hmin⟩ := pairArgmin_spec dis s m ⟨i, j, hi, hj, hfree⟩
  rw [pmask, Bool.or_eq_false_iff, Bool.eq_false_iff, Bool.eq_false_iff, ne_eq, ne_eq, M.rowsIff _ ha, M.colsIff _ hb] at hab
  refine ⟨_, _, ha, hb, hab.1, hab.2, hmin i j hi hj hfree, rfl, ?_⟩
  refine ⟨by rw [pairStep, List.length_set]; exact M.lenr, by rw [pairStep, List.length_set]; exact M.lenc, ?_, fun x hx => ?_, fun y hy => ?_⟩
  · rw [pairStep, List.length_append, M.npairs]; rfl
  · rw [pairStep, List.map_append, List.mem_append, List.map_singleton, List.mem_singleton]
    exact mark_iff _ _ x (M.lenr ▸ ha) _ (M.rowsIff x hx)
  · rw [pairStep, List.map_append, List.mem_append, List.map_singleton, List.mem_singleton]
    exact mark_iff _ _ y (M.lenc ▸ hb) _ (M.colsIff y hy)

theorem pairRun_inv (dis : List (List Rat)) (m : Nat) (I : Nat → PairSt → Prop)
    (hstep : ∀ k s, I k s → k < m → I (k + 1) (pairStep dis m s)) :
    ∀ (r k : Nat) (s : PairSt), I k s → k + r ≤ m → I (k + r) (pairRun dis m r s)
  | 0, _, _, hi, _ => hi
  | r + 1, k, s, hi, hle => by
    rw [pairRun, ← Nat.add_assoc, Nat.add_right_comm]
    exact pairRun_inv dis m I hstep r (k + 1) _ (hstep k s hi (by omega)) (by omega)

theorem PInv.marks {σ : Nat → Nat} {m k : Nat} {s : PairSt} (h : PInv σ m k s) : Marks m k s :=
  ⟨h.lenr, h.lenc, h.npairs, h.rowsIff, h.colsIff⟩

section step
variable (dis : List (List Rat)) (m : Nat) (σ : Nat → Nat)
  (hσ : ∀ i, i < m → σ i < m) (hinj : ∀ a b, a < m → b < m → σ a = σ b → a = b)
  (h0 : ∀ i, i < m → pcost dis i (σ i) = 0) (hpos : ∀ i j, i < m → j < m → j ≠ σ i → 0 < pcost dis i j)
include hσ hinj h0 hpos

theorem pair_step_inv (k : Nat) (s : PairSt) (hi : PInv σ m k s) (hk : k < m) :
    PInv σ m (k + 1) (pairStep dis m s) := by
  -- a branch that is still free, and its own child is free too
  obtain ⟨i, him, hni⟩ := exists_missing (s.pairs.map Prod.fst) m hi.nodup (by rw [List.length_map, hi.npairs]; exact hk)
  have hnσ : σ i ∉ s.pairs.map Prod.snd := fun h => by
    obtain ⟨p, hp, hp2⟩ := List.mem_map.mp h
    obtain ⟨hp1, hpσ⟩ := hi.graph p hp
    exact hni (hinj p.1 i hp1 him (hpσ.symm.trans hp2) ▸ List.mem_map_of_mem hp)
  obtain ⟨a, b, ha, hb, hna, _, hle, hpairs, M⟩ := marks_step dis m k s hi.marks i (σ i) him (hσ i him) hni hnσ
  -- the chosen cell is at distance 0, so it is a pair of the true matching
  have hbσ : b = σ a := by
    by_contra hne
    exact absurd (h0 i him ▸ hle) (not_le.mpr (hpos a b ha hb hne))
  refine ⟨M.lenr, M.lenc, M.npairs, fun p hp => ?_, M.rowsIff, M.colsIff, ?_⟩
  · rw [hpairs] at hp
    rcases List.mem_append.mp hp with h | h
    · exact hi.graph p h
    · cases List.mem_singleton.mp h; exact ⟨ha, hbσ⟩
  · rw [hpairs]; exact nodup_map_concat _ _ _ hi.nodup hna

end step

/-- **the greedy pairing is the true matching**: if every branch ends exactly at one child (`σ`, distance 0)
and all other branch-end / child distances are positive, `pair` returns every branch exactly once, each with
its own child -/
theorem pair_exact (dis : List (List Rat)) (σ : Nat → Nat)
    (hσ : ∀ i, i < dis.length → σ i < dis.length)
    (hinj : ∀ a b, a < dis.length → b < dis.length → σ a = σ b → a = b)
    (h0 : ∀ i, i < dis.length → pcost dis i (σ i) = 0)
    (hpos : ∀ i j, i < dis.length → j < dis.length → j ≠ σ i → 0 < pcost dis i j) :
    (pairGreedy dis).length = dis.length ∧
    (∀ p ∈ pairGreedy dis, p.1 < dis.length ∧ p.2 = σ p.1) ∧
    ((pairGreedy dis).map Prod.fst).Perm (List.range dis.length) := by
  have hinit : PInv σ dis.length 0 ⟨List.replicate dis.length false, List.replicate dis.length false, []⟩ :=
    have M := marks_init dis.length
    ⟨M.lenr, M.lenc, M.npairs, fun _ h => (List.not_mem_nil h).elim, M.rowsIff, M.colsIff, List.nodup_nil⟩
  have hfin := pairRun_inv dis _ (PInv σ dis.length) (pair_step_inv dis _ σ hσ hinj h0 hpos) dis.length 0 _ hinit (Nat.zero_add _).le
  rw [Nat.zero_add] at hfin
  exact ⟨hfin.npairs, hfin.graph, perm_range_of_nodup _ _ _ hfin.nodup (fun p hp => (hfin.graph p hp).1) hfin.npairs⟩

-- non-vacuity: three branches whose ends are the children 1, 0, 2 in that order
example : pairGreedy [[4, 0, 9], [0, 5, 1], [2, 1, 0]] = [(0, 1), (1, 0), (2, 2)] := by decide +kernel

end C16
