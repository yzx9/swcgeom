import SwcVerif.Props.C20Gen
import SwcVerif.Props.C20Io
import SwcVerif.Refine.ImgIo2
/-! # C20: rasterise → stack → write → read back, for the code as translated (`Gen/AlgoImgIo2.lean`, `harness/algo_specs/18c_imgio2.py`)

`ToImageStack.__call__`, `save_tif`, `transform_and_save`, `transform` INCLUDING its frame conversion, the codec-backed constructors and the two
`get_full`s are regenerated on every run and proved equal to closed forms in `Refine/ImgIo2.lean`.  Below, the property's statements:
the array `ToImageStack(res)(tree)` is `(Z, X, Y)` — one plane per slice of the model grid, plane `z` holding `uint8(255 · answer_z[x, y, 0, 0])`
of the sampler's answer for the `z`-th model sampler — and `transform_and_save` followed by `read_imgs` (the translated `TiffImageStack.__init__`
on the series the codec model `Py.tifSeries` makes of the writes) gives the `(X, Y, Z, 1)` stack with the same values, EXCEPT for a raster of one
plane (AssertionError) or none.  Outside: the sdflit sampler (an arbitrary stateful callback), tifffile (`Py.tifSeries`, executed against the real
library by the suite `c20.imgio2-gen`), `astype` on one value (`cast`). -/
set_option linter.unusedSectionVars false
set_option linter.unusedSimpArgs false
namespace C20
open Py Gen.Algo RefineImgIo RefineImgIo2 RefineRaster Img

section generic
variable {K : Type} [Inhabited K] [Add K] [Sub K] [Mul K] [OfNat K 0] [OfNat K 1] [LT K] [DecidableLT K] [LE K] [DecidableLE K]

/-- **`ToImageStack.__call__`: the layout is `(Z, X, Y)`** — for `n ≥ 1` frames of shape `(X, Y)` the array has shape `(n, X, Y)` and
`img[z, x, y] = frames[z][x, y]` -/
theorem generated_call_layout (f : NdArr K) (fs : List (NdArr K)) (X Y : Nat) (h : ∀ b ∈ f :: fs, b.shape = [X, Y]) :
    ∃ img, tostack_call (f :: fs) = some img ∧ img.shape = [fs.length + 1, X, Y] ∧ img.dtype = f.dtype ∧
      ∀ z x y, z < fs.length + 1 → img.get [z, x, y] = ((f :: fs)[z]?.getD f).get [x, y] := by
  obtain ⟨s, h1, h2, h3, h4⟩ := stack0_spec f fs [X, Y] h
  exact ⟨s, by rw [tostack_call_eq, h1], h2, h3, fun z x y hz => h4 z [x, y] hz⟩

/-- no frame (no voxel centre between bottom and top of the box): `np.stack` raises ValueError — the known finding `raster-empty-z-grid-raises` -/
theorem generated_call_empty : tostack_call ([] : List (NdArr K)) = none := by rw [tostack_call_eq]; rfl

/-- **what `transform_and_save` writes**: one contiguous `minisblack` page per frame, in order, each with the axes metadata `ZXY` -/
theorem generated_save_tif_writes (fname : String) (frames : List (NdArr K)) :
    ∃ ws, tostack_transform_and_save fname frames = some (ws, ()) ∧ ws.length = frames.length ∧
      ∀ k (hk : k < frames.length), ws[k]? = some { frame := frames[k], contiguous := true, photometric := "minisblack", axes := ['Z', 'X', 'Y'] } := by
  refine ⟨frames.map tifWriteOf, transform_and_save_eq fname frames, by simp, fun k hk => ?_⟩
  simp [hk, tifWriteOf]

/-- **raster file round trip** (`transform_and_save`, then `read_imgs` = the translated `TiffImageStack.__init__` on the series of the file): for
TWO OR MORE frames of shape `(X, Y)` the stack read back is `(X, Y, Z, 1)`, without a warning, and
`stack[x, y, z, 0] = loadElt(frames[z][x, y])` — the `(Z, X, Y)` ↔ `(X, Y, Z, C)` bookkeeping of writer and reader agree -/
theorem generated_raster_file_roundtrip (F : Py.Fld K) (cast : DType → K → K) (fname : String) (f g : NdArr K) (fs : List (NdArr K)) (X Y : Nat)
    (h : ∀ b ∈ f :: g :: fs, b.shape = [X, Y]) (rd : Option DType) :
    ∃ ws w r, tostack_transform_and_save fname (f :: g :: fs) = some (ws, ()) ∧ tifSeries ws = some (w, ['Z', 'X', 'Y']) ∧
      tiff_init F cast w ['Z', 'X', 'Y'] rd = some ([], r) ∧ r.shape = [X, Y, fs.length + 2, 1] ∧ r.dtype = rd.getD f.dtype ∧
      ∀ x y z, z < fs.length + 2 → r.get [x, y, z, 0] = loadElt F cast f.dtype rd (((f :: g :: fs)[z]?.getD f).get [x, y]) := by
  obtain ⟨s, h1, h2, h3, h4⟩ := stack0_spec f (g :: fs) [X, Y] h
  obtain ⟨r, hr, hr1, hr2, hr3⟩ := generated_load_layout_3d F cast s X Y (fs.length + 2) (by simpa using h2) rd
  refine ⟨_, s, r, transform_and_save_eq fname _, ?_, hr, hr1, by rw [hr2, h3], fun x y z hz => ?_⟩
  · -- the frames of the writes are the frames
    have e : ((f :: g :: fs).map tifWriteOf).map (·.frame) = f :: g :: fs := by rw [List.map_map]; exact List.map_id _
    show (stack0 (((f :: g :: fs).map tifWriteOf).map (·.frame))).map _ = _
    rw [e, h1]
    rfl
  · rw [hr3, h3, h4 z [x, y] (by simpa using hz)]

/-- **a raster of ONE plane cannot be read back**: the file holds a single 2-d page, whose series is `(X, Y)` with the axes string `YX`; the
reader transposes it and `NDArrayImageStack.__init__` fails its rank assertion (AssertionError) — the known finding
`raster-file-single-plane-raises`, here for the code as translated -/
theorem generated_raster_file_single_plane (F : Py.Fld K) (cast : DType → K → K) (fname : String) (f : NdArr K) (X Y : Nat) (h : f.shape = [X, Y])
    (rd : Option DType) :
    ∃ ws, tostack_transform_and_save fname [f] = some (ws, ()) ∧ tifSeries ws = some (f, ['Y', 'X']) ∧ tiff_init F cast f ['Y', 'X'] rd = none := by
  refine ⟨_, transform_and_save_eq fname _, rfl, ?_⟩
  rw [tiff_init_valid F cast f _ [1, 0] (by decide) (by rw [h]; rfl) (by rw [h]; rfl), ndModel, promote,
    if_neg (by rw [transposed, List.length_map]; decide), if_neg (by rw [transposed, List.length_map]; decide)]
  rfl

/-- no frame: the file has no series -/
theorem generated_raster_file_empty (fname : String) :
    ∃ ws, tostack_transform_and_save (K := K) fname [] = some (ws, ()) ∧ tifSeries ws = none :=
  ⟨_, transform_and_save_eq fname _, rfl⟩

/-- the constructors of the other codecs ARE `NDArrayImageStack.__init__` on the array the codec returns: every statement of `Props/C20Io.lean`
about `ndarray_init` holds for them -/
theorem generated_codec_inits (F : Py.Fld K) (cast : DType → K → K) (imgs : NdArr K) (dt : Option DType) :
    nrrd_init F cast imgs dt = ndarray_init F cast imgs dt ∧ v3d_init F cast imgs dt = ndarray_init F cast imgs dt ∧
    v3draw_init F cast imgs dt = ndarray_init F cast imgs dt ∧ v3dpbd_init F cast imgs dt = ndarray_init F cast imgs dt := by
  simp [nrrd_init_eq, v3d_init_eq, v3draw_init_eq, v3dpbd_init_eq, ndarray_init_eq]

/-- **`ImageStack.get_full` of a constructed stack is its array** (a stack built by `NDArrayImageStack.__init__` is 4-d), and
`GrayImageStack.get_full` is its first channel -/
theorem generated_get_full (imgs : NdArr K) (X Y Z C : Nat) (hs : imgs.shape = [X, Y, Z, C]) :
    imagestack_get_full imgs = some imgs ∧ imagestack_get_full imgs = ndarray_get_full imgs ∧
    (0 < C → ∃ g, gray_get_full imgs = some g ∧ g.shape = [X, Y, Z] ∧ ∀ x y z, g.get [x, y, z] = imgs.get [x, y, z, 0]) := by
  refine ⟨by simp [imagestack_get_full_eq, hs], by simp [imagestack_get_full_eq, hs, ndarray_get_full_eq], fun hC => ?_⟩
  obtain ⟨g, h1, h2, _, h4⟩ := (gray_spec imgs X Y Z C hs).1 hC
  exact ⟨g, h1, h2, h4⟩

end generic

/-! ## the whole chain on every tree -/

section tree
variable {σ : Type} [Inhabited σ]

/-- **`ToImageStack(res)(tree)` as translated, on every well-formed tree**: for every stateful sampler whose answers have shape `(X, Y, A, B)`
with `A, B > 0` (sdflit: `(x, y, 1, 3)`), every resolution with positive z whose model grid has at least one slice: the generated `transform`
(frame conversion included) yields the frames, the generated `__call__` stacks them into a `(Z, X, Y)` uint8 array with `Z` = the number of slices
of the model grid (`Img.axisCentres` over `Img.bbox`), and `img[z, x, y] = cast u8 (255 · answer_z[x, y, 0, 0])` where `answer_z` is what the
sampler answered for the `z`-th model sampler on the model scene -/
theorem generated_call_every_tree (sample : σ → Py.RangeSampler Rat → List (Py.Sdf Rat) → σ × NdArr Rat) (cast : DType → Rat → Rat)
    (dist : Int → Int → Rat) (X Y A B : Nat) (hA : 0 < A) (hB : 0 < B) (hshape : ∀ st s sc, (sample st s sc).2.shape = [X, Y, A, B])
    (pts : List Pt) (pids : List Int) (hw : C07.WF pids) (hlen : pts.length = pids.length) (sx sy sz : Rat) (hsz : 0 < sz) (s0 : σ)
    (hpos : 0 < nSlices pts sz) :
    ∃ r : Rose, C06.IsTree r pids ∧ ∀ F : Nat, ∃ frames st img,
      raster_transform_nd sample Py.ratFld Py.ratFlr dist cast (nSlices pts sz + 1 + (2 * r.size + F)) (Sub.rangeI pids.length) pids
          (rowsOf pts) (radii pts) [sx, sy, sz] s0 = some (frames, st, ()) ∧
      tostack_call frames = some img ∧ img.shape = [nSlices pts sz, X, Y] ∧ img.dtype = .u8 ∧
      ∀ z x y, z < nSlices pts sz →
        img.get [z, x, y] = cast .u8 (255 * ((answers sample (sceneRose (edgeSolid dist pts) r)
          (modelSamplers (boxLo pts) (boxHi pts) (sx, sy, sz)) s0)[z]?.getD default).get [x, y, 0, 0]) := by
  obtain ⟨hne, r, hr, hsc⟩ := getScene_of_wf dist pts pids hw hlen
  refine ⟨r, hr, fun F => ?_⟩
  have ht := transform_nd_refines sample cast (voxOk_of_shape sample X Y A B hA hB hshape) dist pts hne sx sy sz hsz _ pids _
    (2 * r.size + F) s0 (hsc _ (by omega))
  rw [show (runFrames sample (frameOf cast) _ _ (s0, [])).2 = _ from runFrames_answers sample (frameOf cast) _ _ s0 [], List.nil_append] at ht
  -- one answer per model sampler, each of the sampler's shape
  generalize hvox : answers sample (sceneRose (edgeSolid dist pts) r) (modelSamplers (boxLo pts) (boxHi pts) (sx, sy, sz)) s0 = vox at ht ⊢
  have hvl : vox.length = nSlices pts sz := by rw [← hvox, answers_length]; simp [modelSamplers, nSlices]
  have hfo := fun v (hv : v ∈ vox) => frameOf_spec cast v X Y A B (answers_shape sample _ hshape _ _ s0 v (hvox ▸ hv)) hA hB
  obtain ⟨v0, vr, rfl⟩ := List.exists_cons_of_length_pos (hvl ▸ hpos)
  obtain ⟨img, h1, h2, h3, h4⟩ := generated_call_layout (frameOf cast v0) (vr.map (frameOf cast)) X Y (fun b hb => by
    obtain ⟨v, hv, rfl⟩ := List.mem_map.mp (List.map_cons ▸ hb)
    exact (hfo v hv).1)
  rw [List.length_map] at h2 h4
  refine ⟨_, _, img, ht, h1, by rw [h2, ← hvl]; rfl, by rw [h3]; exact (hfo v0 List.mem_cons_self).2.1, fun z x y hz => ?_⟩
  have hzl : z < (v0 :: vr).length := hvl ▸ hz
  rw [h4 z x y hzl, ← List.map_cons, List.getElem?_map, List.getElem?_eq_getElem hzl]
  exact (hfo _ (List.getElem_mem hzl)).2.2 x y

end tree

/-! ## non-vacuity (kernel-evaluated on the GENERATED definitions) -/

def exF (k : Rat) : NdArr Rat := NdArr.ofFlat [1, 2] [k, k + 1] .u8
/-- two frames `(1, 2)`: stacked to `(2, 1, 2)`; written, read back as `(1, 2, 2, 1)` with `r[x, y, z, 0] = frame_z[x, y]` -/
example : (tostack_call [exF 1, exF 5]).map (fun a => (a.shape, a.toFlat)) = some ([2, 1, 2], [1, 2, 5, 6]) := by decide +kernel
example : ((tostack_transform_and_save "f" [exF 1, exF 5]).bind fun p => (tifSeries p.1).bind fun q =>
    (tiff_init Py.ratFld (fun _ x => x) q.1 q.2 none).map fun r => (r.1, r.2.shape, r.2.toFlat)) = some ([], [1, 2, 2, 1], [1, 5, 2, 6]) := by
  decide +kernel
/-- one frame: the file cannot be read back -/
example : ((tostack_transform_and_save "f" [exF 1]).bind fun p => (tifSeries p.1).bind fun q =>
    (tiff_init Py.ratFld (fun _ x => x) q.1 q.2 none).map fun r => r.2.shape) = none := by decide +kernel
/-- the frame conversion on a `(1, 2, 1, 3)` answer -/
example : ((frameOpt (fun _ x => x) (NdArr.ofFlat [1, 2, 1, 3] [1, 0, 0, 0, 0, 0] .f32)).map fun f => (f.shape, f.toFlat)) = some ([1, 2], [255, 0]) := by
  decide +kernel
example : (gray_get_full (NdArr.ofFlat [1, 1, 2, 2] [1, 2, 3, 4] .u8 : NdArr Rat)).map (fun g => (g.shape, g.toFlat)) = some ([1, 1, 2], [1, 3]) := by
  decide +kernel
example : imagestack_get_full (NdArr.ofFlat [1, 2, 2] [1, 2, 3, 4] .u8 : NdArr Rat) = none := by
  rw [imagestack_get_full_eq]; rfl

end C20
