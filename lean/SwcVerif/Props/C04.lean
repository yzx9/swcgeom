import SwcVerif.Proofs.Traverse
/-! # C04 — tree traversal is structural recursion, at any depth

Property theorems about the model `Trav.run` of `_traverse_dfs` (tied to the code by the
correspondence suite `c04.trav`).  `Trav.spec` *is* the property read as a program: `enter` once
per node with the value the parent's `enter` returned (nothing for the start node), then the
children (last table row first), then `leave` once with the children's values in table order. -/
namespace C04
open Trav
variable {σ T K : Type}

/-- **Core theorem.** For every table whose subtree at `r.id` is the rose `r` (any shape, any
depth, any distinct numbering), the loop started at `r.id` and run for `2·|r|` iterations has
emptied its stack, threaded the callbacks' state exactly like structural recursion, and holds
the start node's value.  No recursion in the machine ⇒ no depth limit. -/
theorem traverse_eq_spec (ids pids : List Int) (r : Rose) (h : Represents r ids pids)
    (enter : σ → Int → Option T → σ × T) (leave : σ → Int → List K → σ × K) (s : σ) :
    let st := run (tableKids ids pids) enter leave (2 * r.size) (init r.id s)
    st.stack = [] ∧ st.s = (spec enter leave r none s).1 ∧
      st.vals r.id = some (spec enter leave r none s).2 := by
  have := main (tableKids ids pids) enter leave r h.1 h.2 [] (fun _ => none) (fun _ => none) s
  obtain ⟨h1, h2, h3, _, _⟩ := this
  exact ⟨h1, h2, h3⟩

/-- termination with exactly `2·|subtree|` iterations: more fuel changes nothing. -/
theorem fuel_suffices (ids pids : List Int) (r : Rose) (h : Represents r ids pids)
    (enter : σ → Int → Option T → σ × T) (leave : σ → Int → List K → σ × K) (s : σ) (extra : Nat) :
    run (tableKids ids pids) enter leave (2 * r.size + extra) (init r.id s)
      = run (tableKids ids pids) enter leave (2 * r.size) (init r.id s) := by
  rw [run_add]
  apply run_none
  have := (traverse_eq_spec ids pids r h enter leave s).1
  simp only [step]
  rw [this]

theorem outside_untouched (ids pids : List Int) (r : Rose) (h : Represents r ids pids)
    (enter : σ → Int → Option T → σ × T) (leave : σ → Int → List K → σ × K) (s : σ) (j : Int) (hj : j ∉ r.ids) :
    (run (tableKids ids pids) enter leave (2 * r.size) (init r.id s)).vals j = none := by
  have := main (tableKids ids pids) enter leave r h.1 h.2 [] (fun _ => none) (fun _ => none) s
  exact this.2.2.2.1 j hj

/-! ## what the specification says about call counts

Instrument arbitrary callbacks with a log of the ids they are called on. -/

def enterI (enter : σ → Int → Option T → σ × T) : σ × List Int → Int → Option T → (σ × List Int) × T :=
  fun s i pv => let r := enter s.1 i pv; ((r.1, i :: s.2), r.2)
def leaveI (leave : σ → Int → List K → σ × K) : σ × List Int → Int → List K → (σ × List Int) × K :=
  fun s i ks => let r := leave s.1 i ks; ((r.1, i :: s.2), r.2)
def noLogE (enter : σ → Int → Option T → σ × T) : σ × List Int → Int → Option T → (σ × List Int) × T :=
  fun s i pv => let r := enter s.1 i pv; ((r.1, s.2), r.2)
def noLogL (leave : σ → Int → List K → σ × K) : σ × List Int → Int → List K → (σ × List Int) × K :=
  fun s i ks => let r := leave s.1 i ks; ((r.1, s.2), r.2)

-- order of the `enter` calls: node, then kids from the last to the first
mutual
def enterOrder : Rose → List Int
  | .node i ks => i :: enterOrderRev ks
def enterOrderRev : List Rose → List Int
  | [] => []
  | r :: rs => enterOrderRev rs ++ enterOrder r
end
-- order of the `leave` calls: kids from the last to the first, then the node
mutual
def leaveOrder : Rose → List Int
  | .node i ks => leaveOrderRev ks ++ [i]
def leaveOrderRev : List Rose → List Int
  | [] => []
  | r :: rs => leaveOrderRev rs ++ leaveOrder r
end

mutual
theorem enterOrder_perm : ∀ r : Rose, (enterOrder r).Perm r.ids
  | .node i ks => by simp only [enterOrder, Rose.ids]; exact (enterOrderRev_perm ks).cons _
theorem enterOrderRev_perm : ∀ ks : List Rose, (enterOrderRev ks).Perm (idsL ks)
  | [] => by simp [enterOrderRev, idsL]
  | r :: rs => by
    simp only [enterOrderRev, idsL]
    exact List.perm_append_comm.trans ((enterOrder_perm r).append (enterOrderRev_perm rs))
end
mutual
theorem leaveOrder_perm : ∀ r : Rose, (leaveOrder r).Perm r.ids
  | .node i ks => by
    simp only [leaveOrder, Rose.ids]
    exact (List.perm_append_comm).trans (by simpa using (leaveOrderRev_perm ks).cons i)
theorem leaveOrderRev_perm : ∀ ks : List Rose, (leaveOrderRev ks).Perm (idsL ks)
  | [] => by simp [leaveOrderRev, idsL]
  | r :: rs => by
    simp only [leaveOrderRev, idsL]
    exact List.perm_append_comm.trans ((leaveOrder_perm r).append (leaveOrderRev_perm rs))
end

mutual
theorem spec_enter_log (enter : σ → Int → Option T → σ × T) (leave : σ → Int → List K → σ × K) :
    ∀ (r : Rose) (pv : Option T) (s : σ) (l : List Int),
    spec (enterI enter) (noLogL leave) r pv (s, l)
      = (((spec enter leave r pv s).1, (enterOrder r).reverse ++ l), (spec enter leave r pv s).2)
  | .node i ks, pv, s, l => by
    have := specRev_enter_log enter leave ks (enter s i pv).2 (enter s i pv).1 (i :: l)
    simp only [spec, enterI, noLogL, enterOrder, List.reverse_cons, List.append_assoc, List.singleton_append] at this ⊢
    rw [this]
theorem specRev_enter_log (enter : σ → Int → Option T → σ × T) (leave : σ → Int → List K → σ × K) :
    ∀ (ks : List Rose) (cur : T) (s : σ) (l : List Int),
    specRev (enterI enter) (noLogL leave) ks cur (s, l)
      = (((specRev enter leave ks cur s).1, (enterOrderRev ks).reverse ++ l), (specRev enter leave ks cur s).2)
  | [], cur, s, l => rfl
  | r :: rs, cur, s, l => by
    simp only [specRev, specRev_enter_log enter leave rs, spec_enter_log enter leave r, enterOrderRev, List.reverse_append,
      List.append_assoc]
end

mutual
theorem spec_leave_log (enter : σ → Int → Option T → σ × T) (leave : σ → Int → List K → σ × K) :
    ∀ (r : Rose) (pv : Option T) (s : σ) (l : List Int),
    spec (noLogE enter) (leaveI leave) r pv (s, l)
      = (((spec enter leave r pv s).1, (leaveOrder r).reverse ++ l), (spec enter leave r pv s).2)
  | .node i ks, pv, s, l => by
    have := specRev_leave_log enter leave ks (enter s i pv).2 (enter s i pv).1 l
    simp only [spec, leaveI, noLogE, leaveOrder, List.reverse_append, List.reverse_cons, List.reverse_nil, List.nil_append,
      List.singleton_append, List.cons_append] at this ⊢
    simp only [this]
theorem specRev_leave_log (enter : σ → Int → Option T → σ × T) (leave : σ → Int → List K → σ × K) :
    ∀ (ks : List Rose) (cur : T) (s : σ) (l : List Int),
    specRev (noLogE enter) (leaveI leave) ks cur (s, l)
      = (((specRev enter leave ks cur s).1, (leaveOrderRev ks).reverse ++ l), (specRev enter leave ks cur s).2)
  | [], cur, s, l => rfl
  | r :: rs, cur, s, l => by
    simp only [specRev, specRev_leave_log enter leave rs, spec_leave_log enter leave r, leaveOrderRev, List.reverse_append,
      List.append_assoc]
end

/-- `l` is a call log, latest call first -/
theorem once_of_order {l o ids : List Int} (h : l.reverse = o) (hp : o.Perm ids) (hN : ids.Nodup) :
    l.reverse = o ∧ l.Perm ids ∧ l.Nodup ∧ ∀ j, j ∉ ids → j ∉ l :=
  have hl : l.Perm ids := (List.reverse_perm l).symm.trans (h ▸ hp)
  ⟨h, hl, hl.nodup_iff.2 hN, fun _ hj hm => hj (hl.mem_iff.1 hm)⟩

/-- the call log of `enter` in `spec`: once per node of the subtree (`enterOrder`), nowhere else -/
theorem enter_log_facts (r : Rose) (hN : r.ids.Nodup) (enter : σ → Int → Option T → σ × T) (leave : σ → Int → List K → σ × K) (s : σ) :
    let res := spec (enterI enter) (noLogL leave) r none (s, ([] : List Int))
    res.1.2.reverse = enterOrder r ∧ res.1.2.Perm r.ids ∧ res.1.2.Nodup ∧ ∀ j, j ∉ r.ids → j ∉ res.1.2 := by
  simp only
  rw [spec_enter_log, List.append_nil]
  exact once_of_order (List.reverse_reverse _) (enterOrder_perm r) hN

/-- the call log of `leave` likewise (`leaveOrder`); the value returned is that of the uninstrumented callbacks -/
theorem leave_log_facts (r : Rose) (hN : r.ids.Nodup) (enter : σ → Int → Option T → σ × T) (leave : σ → Int → List K → σ × K) (s : σ) :
    let res := spec (noLogE enter) (leaveI leave) r none (s, ([] : List Int))
    res.1.2.reverse = leaveOrder r ∧ res.1.2.Perm r.ids ∧ res.1.2.Nodup ∧ (∀ j, j ∉ r.ids → j ∉ res.1.2) ∧
      res.2 = (spec enter leave r none s).2 := by
  simp only
  rw [spec_leave_log, List.append_nil]
  obtain ⟨a, b, c, d⟩ := once_of_order (List.reverse_reverse _) (leaveOrder_perm r) hN
  exact ⟨a, b, c, d, rfl⟩

/-- `enter` is called exactly once for each node of the subtree and for no other node: the
ids it is called on, in call order, are a permutation of the subtree's (distinct) ids. -/
theorem enter_once_per_subtree_node (ids pids : List Int) (r : Rose) (h : Represents r ids pids)
    (enter : σ → Int → Option T → σ × T) (leave : σ → Int → List K → σ × K) (s : σ) :
    let st := run (tableKids ids pids) (enterI enter) (noLogL leave) (2 * r.size) (init r.id (s, []))
    st.s.2.reverse = enterOrder r ∧ st.s.2.Perm r.ids ∧ st.s.2.Nodup ∧ (∀ j, j ∉ r.ids → j ∉ st.s.2) := by
  intro st
  rw [show st.s = _ from (traverse_eq_spec ids pids r h (enterI enter) (noLogL leave) (s, [])).2.1]
  exact enter_log_facts r h.2 enter leave s

/-- `leave` likewise: exactly once per subtree node, children before their parent. -/
theorem leave_once_per_subtree_node (ids pids : List Int) (r : Rose) (h : Represents r ids pids)
    (enter : σ → Int → Option T → σ × T) (leave : σ → Int → List K → σ × K) (s : σ) :
    let st := run (tableKids ids pids) (noLogE enter) (leaveI leave) (2 * r.size) (init r.id (s, []))
    st.s.2.reverse = leaveOrder r ∧ st.s.2.Perm r.ids ∧ st.s.2.Nodup := by
  intro st
  rw [show st.s = _ from (traverse_eq_spec ids pids r h (noLogE enter) (leaveI leave) (s, [])).2.1]
  obtain ⟨a, b, c, _⟩ := leave_log_facts r h.2 enter leave s
  exact ⟨a, b, c⟩

/-- the value handed to a child's `enter` is what the parent's `enter` returned; the list handed
to `leave` is the children's `leave` values in table order (one unfolding of `spec`; deeper levels are
the same equation applied recursively, which is what `spec` is) -/
theorem spec_unfold (enter : σ → Int → Option T → σ × T) (leave : σ → Int → List K → σ × K)
    (i : Int) (ks : List Rose) (pv : Option T) (s : σ) :
    spec enter leave (.node i ks) pv s =
      leave (specRev enter leave ks (enter s i pv).2 (enter s i pv).1).1 i
            (specRev enter leave ks (enter s i pv).2 (enter s i pv).1).2 := rfl

/-- `leave` receives one value per child -/
theorem specRev_length (enter : σ → Int → Option T → σ × T) (leave : σ → Int → List K → σ × K) :
    ∀ (ks : List Rose) (cur : T) (s : σ), (specRev enter leave ks cur s).2.length = ks.length
  | [], _, _ => rfl
  | _ :: rs, cur, s => congrArg (· + 1) (specRev_length enter leave rs cur s)

-- non-vacuity: a concrete unsorted 5-node table, a rose that represents it, and the machine's log
def exIds : List Int := [0, 1, 2, 3, 4]
def exPids : List Int := [-1, 3, 0, 0, 3]
def exRose : Rose := .node 0 [.node 2 [], .node 3 [.node 1 [], .node 4 []]]
example : Represents exRose exIds exPids := by
  refine ⟨?_, by decide⟩
  simp [exRose, exIds, exPids, Agrees, AgreesL, tableKids, Rose.id]
example : ((run (tableKids exIds exPids) logEnter logLeave (2 * exRose.size) (init 0 [])).s.reverse.map Ev.show)
    = ["E0:N", "E3:217", "E4:6730", "L4:[]", "E1:6730", "L1:[]", "L3:[1,4]", "E2:217", "L2:[]", "L0:[2,888]"] := by
  decide +kernel
end C04
