import SwcVerif.Props.C19Gen
import SwcVerif.Refine.PopFront
import SwcVerif.Refine.SliceSpec
/-! # C19, the front end, tied to the source by the translator

`Gen.Algo.pop_* / nestl_* / pops_* / popsl_*` (Gen/AlgoPopFront.lean) are regenerated from `swcgeom/core/population.py` on every run:
`Population.__init__ / __getitem__ (int, slice) / __len__ / __iter__`, `NestTrees` over a lazy container, `Populations.__init__ /
__getitem__ / __len__ / to_population / from_swc`.  The theorems below are about the generated `Population.__init__`, `__getitem__` with an
int (`generated_pop_getitem`) and with a slice (`generated_pop_slice`; `slice_indices_eq_spec`: the index list of the slice is the independent
set-builder `sliceSpec`), every history of such accesses (`generated_front_load_at_most_once`), and `Populations.to_population`
(`generated_to_population`).  `from_swc` is in `Refine/PopFromSwc.lean`; `Population.__iter__` and `Populations.__getitem__ / __len__` have no
theorem: the correspondence runs execute them beside the library. -/
namespace C19
open Pop Gen.Algo RefinePop RefinePopFront

/-- **`Population[i]` as translated, for every int `i`**: on a population over `n` files (any cache state `l`), `-n ≤ i < n` returns
the tree of file `i` (of file `i + n` for a negative `i`) — the element `_get_idx i` of the container —, reading that file iff its slot
was empty; every other `i` raises IndexError and changes nothing -/
theorem generated_pop_getitem {g : LazyLoadingTrees} {l : Lazy} (h : LRep g l) (root : String) (i : Int) :
    (-(l.len : Int) ≤ i ∧ i < l.len →
      ∃ g', pop_getitem_int readLog ⟨g, root⟩ i (castL l.log) =
          some (⟨g', root⟩, castL (l.load (if i < 0 then i + l.len else i).toNat).log, some (if i < 0 then i + l.len else i)) ∧
        LRep g' (l.load (if i < 0 then i + l.len else i).toNat)) ∧
    (¬ (-(l.len : Int) ≤ i ∧ i < l.len) → pop_getitem_int readLog ⟨g, root⟩ i (castL l.log) = none) := by
  rw [h.eq_rep, pop_getitem_int_rep, Lazy.get]
  constructor
  · intro hi
    have hg : getIdx i l.len = some (if i < 0 then i + l.len else i).toNat := by
      rw [getIdx, if_neg (by simp; omega)]
    have hc : (((if i < 0 then i + (l.len : Int) else i).toNat : Nat) : Int) = if i < 0 then i + (l.len : Int) else i := by
      split <;> omega
    exact ⟨_, by rw [hg, Option.map_some, Option.map_some, hc], rep_spec _⟩
  · intro hn
    rw [(getIdx_spec i l.len).2.2.1 (by omega)]; rfl

/-! ## every history of int / slice accesses through the front end -/

/-- an access through the front end: `pop[key]`, or `pop[a:b:c][key]` -/
inductive FOp where
  | get (key : Int)
  | slice (s : Py.PF.Slice) (key : Int)
deriving Repr

/-- run a history on the GENERATED front end, threading the read log.  A slice holds THE SAME container object as the population
(Python shares it by reference); the generated definitions return updated copies, so after an access through the slice the population
continues with the slice's container.  Collects what each access returns (`none` = IndexError / ValueError). -/
def frontStep (p : Population) (log : List Int) : FOp → (Population × List Int) × Option (Option Int)
  | .get key =>
    match pop_getitem_int readLog p key log with
    | none => ((p, log), none)
    | some (p', log', t) => ((p', log'), some t)
  | .slice s key =>
    match pop_getitem_slice p s with
    | none => ((p, log), none)
    | some sl =>
      match nestl_getitem readLog sl key log with
      | none => ((p, log), none)
      | some (sl', log', t) => (({ p with trees := sl'.trees }, log'), some t)

section
attribute [local irreducible] pop_getitem_int pop_getitem_slice nestl_getitem
theorem frontStep_get (p : Population) (log : List Int) (key : Int) :
    frontStep p log (.get key) = match pop_getitem_int readLog p key log with
      | none => ((p, log), none)
      | some (p', log', t) => ((p', log'), some t) := rfl
theorem frontStep_slice (p : Population) (log : List Int) (s : Py.PF.Slice) (key : Int) :
    frontStep p log (.slice s key) = match pop_getitem_slice p s with
      | none => ((p, log), none)
      | some sl =>
        match nestl_getitem readLog sl key log with
        | none => ((p, log), none)
        | some (sl', log', t) => (({ p with trees := sl'.trees }, log'), some t) := rfl

end

def genFront (p : Population) (log : List Int) : List FOp → List (Option (Option Int)) × List Int
  | [] => ([], log)
  | op :: ops =>
    let r := frontStep p log op
    let rest := genFront r.1.1 r.1.2 ops
    (r.2 :: rest.1, rest.2)

theorem frontStep_rep (op : FOp) (root : String) (l : Lazy) :
    ∃ keys : List Int, (frontStep ⟨rep l, root⟩ (castL l.log) op).1 =
      (⟨rep (l.run (keys.map .get)), root⟩, castL (l.run (keys.map .get)).log) := by
  cases op with
  | get key =>
    refine ⟨[key], ?_⟩
    rw [frontStep_get, pop_getitem_int_rep]
    simp only [List.map_cons, List.map_nil, Lazy.run, List.foldl_cons, List.foldl_nil, Lazy.step]
    cases l.get key <;> rfl
  | slice s key =>
    rw [frontStep_slice, pop_getitem_slice_refines (rep_spec l)]
    cases (Py.PF.sliceIndices s _).bind Py.PF.range3 with
    | none => exact ⟨[], rfl⟩
    | some idx =>
      simp only [Option.map_some, nestl_getitem_rep]
      cases Py.idx idx key with
      | none => exact ⟨[], rfl⟩
      | some j =>
        refine ⟨[j], ?_⟩
        simp only [Option.bind_some, List.map_cons, List.map_nil, Lazy.run, List.foldl_cons, List.foldl_nil, Lazy.step]
        cases l.get j <;> rfl

theorem frontStep_inv (op : FOp) (g : LazyLoadingTrees) (root : String) (l : Lazy) (h : LRep g l) (hi : LInv l) :
    ∃ g' l', (frontStep ⟨g, root⟩ (castL l.log) op).1 = (⟨g', root⟩, castL l'.log) ∧ LRep g' l' ∧ LInv l' := by
  obtain ⟨keys, e⟩ := frontStep_rep op root l
  exact ⟨_, _, h.eq_rep ▸ e, rep_spec _, run_inv _ _ hi⟩

theorem genFront_nodup (ops : List FOp) (root : String) (l : Lazy) (hi : LInv l) :
    (genFront ⟨rep l, root⟩ (castL l.log) ops).2.Nodup := by
  induction ops generalizing l with
  | nil => exact castL_nodup _ hi.1
  | cons op ops ih =>
    obtain ⟨keys, e⟩ := frontStep_rep op root l
    show (genFront (frontStep ⟨rep l, root⟩ (castL l.log) op).1.1 (frontStep ⟨rep l, root⟩ (castL l.log) op).1.2 ops).2.Nodup
    rw [e]
    exact ih _ (run_inv _ _ hi)

/-- the generated constructor on `n` fresh files: the probe of file 0 is its only read -/
theorem pop_init_genInit (n : Nat) (root : String) (p0 : Population) :
    pop_init readLog p0 (genInit n) root [] = some (⟨rep (populationInit n), root⟩, castL (populationInit n).log, ()) := by
  obtain ⟨g', e, r'⟩ := pop_init_refines (genInit_rep n) p0 root
  have hp : (if (Lazy.init n).len > 0 then (Lazy.init n).load 0 else Lazy.init n) = populationInit n := by
    simp [populationInit, init_len]
  rw [hp] at e r'
  rw [← r'.eq_rep]; exact e

/-- **each file is read at most once through the front end, for every history — by the code as translated**: build
`Population(LazyLoadingTrees(n files))` with the generated constructor (it probes file 0), then access it through any sequence of
`pop[i]` and `pop[a:b:c][k]` (any ints, any slices, valid or not): the read log has no repetition, and the constructor read nothing but
the probe (`populationInit`) -/
theorem generated_front_load_at_most_once (n : Nat) (root : String) (p0 : Population) (ops : List FOp) :
    ∃ p, pop_init readLog p0 (genInit n) root [] = some (p, castL (populationInit n).log, ()) ∧
      (genFront p (castL (populationInit n).log) ops).2.Nodup :=
  ⟨_, pop_init_genInit n root p0, genFront_nodup ops root _ (popInit_inv n)⟩

/-- non-vacuity (kernel-evaluated): 5 files; the probe, a reversed slice, a strided slice, an out-of-range slice element, ints -/
example : (pop_init readLog default (genInit 5) "" []).map (fun r =>
      genFront r.1 r.2.1 [.get 2, .slice (none, none, some (-1)) 0, .slice (some 1, some 4, some 2) 1, .slice (some 1, some 4, some 2) 5,
        .get (-1), .get 7, .slice (none, none, some 0) 0]) =
    some ([some (some 2), some (some 4), some (some 3), none, some (some 4), none, none], [0, 2, 4, 3]) := by decide +kernel

/-! ## slices -/

/-- the sub-sequence of `0 .. n-1` that `[a:b:c]` designates, written independently of `slice.indices` as a set-builder over
`range(n)`: for a positive step the positions `lo ≤ i < hi` with `step ∣ i - lo` in ascending order, for a negative step the positions
`hi < i ≤ lo` with `step ∣ lo - i` in descending order (`lo`, `hi`: the bounds counted from the end when negative, cut to the list) -/
def sliceSpec (n : Nat) (a b c : Option Int) : Option (List Int) :=
  let step := c.getD 1
  let norm := fun (x : Int) => if x < 0 then x + n else x
  if step = 0 then none
  else if step > 0 then
    let lo : Int := match a with | none => 0 | some a => max 0 (min n (norm a))
    let hi : Int := match b with | none => n | some b => max 0 (min n (norm b))
    some ((Py.range n).filter fun i => decide (lo ≤ i ∧ i < hi ∧ (i - lo) % step = 0))
  else
    let lo : Int := match a with | none => (n : Int) - 1 | some a => max (-1) (min ((n : Int) - 1) (norm a))
    let hi : Int := match b with | none => -1 | some b => max (-1) (min ((n : Int) - 1) (norm b))
    some (((Py.range n).filter fun i => decide (hi < i ∧ i ≤ lo ∧ (lo - i) % (-step) = 0)).reverse)

/-- CPython's clamping of a slice bound is: normalise a negative bound, then cut to `[lower, upper]` -/
theorem clamp_eq (x n lo hi : Int) (h1 : lo ≤ 0) (h2 : lo ≤ hi) (h3 : n - 1 ≤ hi) :
    Py.PF.sliceClamp x n lo hi = max lo (min hi (if x < 0 then x + n else x)) := by
  unfold Py.PF.sliceClamp
  by_cases hx : x < 0
  · rw [if_pos hx, if_pos hx, min_eq_right (by omega)]
    split
    · rw [max_eq_left (by omega)]
    · rw [max_eq_right (by omega)]
  · rw [if_neg hx, if_neg hx]
    split
    · rw [min_eq_left (by omega), max_eq_right h2]
    · rw [min_eq_right (by omega), max_eq_right (by omega)]

theorem clamp_opt (x : Option Int) (n lo hi d : Int) (h1 : lo ≤ 0) (h2 : lo ≤ hi) (h3 : n - 1 ≤ hi) (hd : lo ≤ d ∧ d ≤ hi) :
    (match x with | none => d | some x => Py.PF.sliceClamp x n lo hi) =
      (match x with | none => d | some x => max lo (min hi (if x < 0 then x + n else x))) ∧
    lo ≤ (match x with | none => d | some x => Py.PF.sliceClamp x n lo hi) ∧
    (match x with | none => d | some x => Py.PF.sliceClamp x n lo hi) ≤ hi := by
  cases x with
  | none => exact ⟨rfl, hd⟩
  | some x =>
    have e := clamp_eq x n lo hi h1 h2 h3
    exact ⟨e, by simp only [e]; omega, by simp only [e]; omega⟩

/-- **`range(*slice(a, b, c).indices(n))` is the designated sub-sequence, for EVERY length, bounds and step**: CPython's clamping
algorithm followed by the arithmetic progression equals the independent set-builder `sliceSpec` (positions between the normalised
bounds on the step lattice, ascending / descending); step 0 raises on both sides.  (`RefineSlice.up_eq` / `down_eq`: two strictly
monotone lists with the same members are equal.) -/
theorem slice_indices_eq_spec (n : Nat) (a b c : Option Int) :
    (Py.PF.sliceIndices (a, b, c) (n : Int)).bind Py.PF.range3 = sliceSpec n a b c := by
  have hn0 : (0 : Int) ≤ n := by omega
  have hn : ¬ ((n : Int) < 0) := by omega
  rcases Int.lt_trichotomy (c.getD 1) 0 with hneg | h0 | hp
  · have h0 : ¬ c.getD 1 = 0 := by omega
    have hp : ¬ c.getD 1 > 0 := by omega
    obtain ⟨ea, -, ua⟩ := clamp_opt a n (-1) (n - 1) (n - 1) (by omega) (by omega) (Int.le_refl _) ⟨by omega, Int.le_refl _⟩
    obtain ⟨eb, lb, -⟩ := clamp_opt b n (-1) (n - 1) (-1) (by omega) (by omega) (Int.le_refl _) ⟨Int.le_refl _, by omega⟩
    have e : ∀ (k : Nat) (lo : Int), lo + (k : Int) * c.getD 1 = lo + (k : Int) * (-(-(c.getD 1))) := by intro k lo; rw [Int.neg_neg]
    simp only [Py.PF.sliceIndices, sliceSpec, Py.PF.range3, h0, hn, or_self, if_false, Option.bind_some, hp, hneg, if_true, e]
    rw [← ea, ← eb]
    exact congrArg some (RefineSlice.down_eq n _ _ _ (by omega) (Int.lt_of_le_sub_one ua) lb)
  · simp only [Py.PF.sliceIndices, sliceSpec, h0, true_or, if_true, Option.bind_none]
  · have h0 : ¬ c.getD 1 = 0 := by omega
    have hneg : ¬ c.getD 1 < 0 := by omega
    obtain ⟨ea, la, -⟩ := clamp_opt a n 0 n 0 (Int.le_refl _) hn0 (by omega) ⟨Int.le_refl _, hn0⟩
    obtain ⟨eb, -, ub⟩ := clamp_opt b n 0 n n (Int.le_refl _) hn0 (by omega) ⟨hn0, Int.le_refl _⟩
    simp only [Py.PF.sliceIndices, sliceSpec, Py.PF.range3, h0, hn, or_self, if_false, Option.bind_some, hp, hneg, if_true]
    rw [← ea, ← eb]
    exact congrArg some (RefineSlice.up_eq _ _ _ _ hp la ub)

/-- **`Population[a:b:c]` as translated**: for every population state and every slice, the result is the `NestTrees` over the
population's own container whose index list is THE SUB-SEQUENCE OF `0 .. len-1` THE SLICE DESIGNATES (`sliceSpec`, written without
`slice.indices`; ValueError for step 0), and `[k]` on it is the CONTAINER's `__getitem__` on the k-th entry (negative `k` wrap,
IndexError outside) — so every read goes through the lazy cache (`generated_front_load_at_most_once`). -/
theorem generated_pop_slice {g : LazyLoadingTrees} {l : Lazy} (h : LRep g l) (root : String) (s : Py.PF.Slice) :
    pop_getitem_slice ⟨g, root⟩ s = (sliceSpec l.len s.1 s.2.1 s.2.2).map (fun idx => ⟨g, idx⟩) ∧
    ∀ idx key, (match Py.idx idx key with
       | none => nestl_getitem readLog ⟨g, idx⟩ key (castL l.log) = none
       | some j => match l.get j with
         | none => nestl_getitem readLog ⟨g, idx⟩ key (castL l.log) = none
         | some (l', k) => ∃ g', nestl_getitem readLog ⟨g, idx⟩ key (castL l.log) = some (⟨g', idx⟩, castL l'.log, some (k : Int)) ∧ LRep g' l') := by
  refine ⟨?_, fun idx key => nestl_getitem_refines h idx key⟩
  rw [pop_getitem_slice_refines h root s]
  obtain ⟨a, b, c⟩ := s
  rw [slice_indices_eq_spec]

/-- non-vacuity (kernel-evaluated): `range(7)[5:0:-2]` and `range(7)[-100:4:3]` -/
example : sliceSpec 7 (some 5) (some 0) (some (-2)) = some [5, 3, 1] ∧ sliceSpec 7 (some (-100)) (some 4) (some 3) = some [0, 3] := by
  decide +kernel

def boxOpts : List (Option Int) := none :: ((List.range 11).map fun (k : Nat) => some ((k : Int) - 5))
def boxSteps : List (Option Int) := [none, some 1, some 2, some 3, some (-1), some (-2), some (-3), some 0]

/-- the equality on a box of 5 760 small lengths, bounds and steps: an instance of `slice_indices_eq_spec` -/
example : ((List.range 5).all fun n => boxOpts.all fun a => boxOpts.all fun b => boxSteps.all fun c =>
    decide ((Py.PF.sliceIndices (a, b, c) (n : Int)).bind Py.PF.range3 = sliceSpec n a b c)) = true := by
  simp only [List.all_eq_true, decide_eq_true_eq]
  exact fun n _ a _ b _ c _ => slice_indices_eq_spec n a b c

/-! ## chaining: `Populations.to_population` -/

/-- **`Populations.to_population()` as translated** (populations over lists of trees): it succeeds, the chained population has length
Σ, and its `[key]` is `ChainTrees.__getitem__` over the members in order — by `generated_chain_getitem` the element `trees[m][j]` for the
(member, local index) `(m, j)` the model's `chainGet` designates, IndexError (`none`) when the model raises -/
theorem generated_to_population (ps : PopulationsL) :
    let trees := ps.populations.map (·.trees)
    ∃ c : PopChain, popsl_to_population (trees.length + 1) ps = some c ∧
      popc_len c = some ((chainLen (trees.map List.length) : Nat) : Int) ∧
      ∀ key, popc_getitem_int (trees.length + 1) c key =
        (chainGet (trees.map List.length) key).bind (fun mj => (trees[mj.1]?).bind (fun t => t[mj.2]?)) := by
  intro trees
  have hloop : ∀ (xs : List PopList) (v : popsl_to_population.V), Py.forEach popsl_to_population.for1 xs v =
      .next { v with c0_ := v.c0_ ++ xs.map (·.trees), p := xs.getLast?.getD v.p } := fun xs v =>
    Py.forEach_comp _ (fun l y => { v with c0_ := l, p := y }) _ (fun _ _ _ => rfl) xs v.c0_ v.p
  have hinit := generated_chain_init default trees
  have hlen := generated_chain_len trees
  have hget := generated_chain_getitem trees
  generalize (⟨trees, castL (Pop.cumsum (trees.map List.length))⟩ : ChainTrees) = c at hinit hlen hget
  -- the constructor's probe `swcs[0]` succeeds whenever the chain is not empty
  have hprobe : (chainLen (trees.map List.length) : Int) > 0 → ∃ t, chain_getitem (trees.length + 1) c 0 = some t := by
    intro hpos
    have hsum : 0 < (trees.map List.length).sum := by rw [← C19.chain_len]; exact_mod_cast hpos
    obtain ⟨m, j, e, hm, hj, _⟩ := chain_index (trees.map List.length) 0 hsum
    simp only [List.length_map] at hm
    have hj' : j < (trees[m]).length := by simpa [List.getD, hm] using hj
    have e' : chainGet (trees.map List.length) 0 = some (m, j) := by simpa using e
    exact ⟨(trees[m])[j], by rw [hget 0, e']; simp [hm, hj']⟩
  have hpc : popc_init (trees.length + 1) default c "" = some (⟨c, ""⟩, ()) := by
    by_cases hpos : (chainLen (trees.map List.length) : Int) > 0
    · obtain ⟨t, ht⟩ := hprobe hpos
      have hneN : ¬ chainLen (trees.map List.length) = 0 := by omega
      simp [popc_init, popc_init.body, Py.seq, Py.skip, Py.bind, hlen, ht, hneN, Py.finish]
    · have h0N : chainLen (trees.map List.length) = 0 := by omega
      simp [popc_init, popc_init.body, Py.seq, Py.bind, hlen, h0N, Py.finish]
  refine ⟨⟨c, ""⟩, ?_, ?_, ?_⟩
  · have hc0 : ([] : List (List Int)) ++ ps.populations.map (·.trees) = trees := by simp [trees]
    simp only [popsl_to_population, popsl_to_population.body, Py.seq, Py.bindS, hloop, hc0, Py.bind, hinit, hpc, Py.finish, Option.map]
  · simp [popc_len, popc_len.body, Py.bind, hlen, Py.finish]
  · intro key
    simp only [popc_getitem_int, popc_getitem_int.body, Py.seq, Py.skip, Py.bind, ← hget key]
    cases chain_getitem (trees.length + 1) c key <;> rfl

/-- non-vacuity (kernel-evaluated): three populations of 2, 0, 3 trees -/
example : (popsl_to_population 4 ⟨0, [⟨[10, 11], ""⟩, ⟨[], ""⟩, ⟨[30, 31, 32], ""⟩], []⟩).map
      (fun c => (popc_len c, [0, 1, 2, 4, -1, 5, -6].map (popc_getitem_int 4 c))) =
    some (some 5, [some 10, some 11, some 30, some 32, some 32, none, none]) := by decide +kernel

end C19
