import SwcVerif.Props.C14Front
import SwcVerif.Props.C13
/-! # C14 with the closed forms of C13 in place of the primitive-volume parameters

`Gen.Algo.get_volume_int` (generated from `analysis/volume.py::get_volume`, `Gen/AlgoVolFront.lean`) takes the primitive volumes as function
parameters (`volSphere`, `volFrustum`, `volSF`, …).  Here they are INSTANTIATED with the definitions the arithmetic translator generates from
`utils/volumetric_object.py` (`Gen.Vol.sphereVolume`, `frustumVolume`, `concentricCore` of `Gen/VolumeFormulas.lean`, at `ℝ`, `pi := Real.pi`)
over a node geometry `rad : Int → ℝ` (radius of node `i`) and `dist : Int → Int → ℝ` (distance of the centres of two nodes = `VolFrustumCone.height()`),
and composed with C13's theorems: the level clauses of the property are statements about `get_volume` with the generated closed forms, with the
true volumes (disc method, C13) on the right-hand side.  No primitive volume is left free at levels 1-4; the Monte-Carlo terms (`volPairs`,
level ≥ 5; `mcScene`, level 10) do not enter at these levels and are universally quantified.

What stays glue between the two translators: that `VolSphere(n.xyz(), n.r).get_volume()` IS `calc_volume(radius)` of that node etc. (the `subst`
entries of harness/algo_specs/14_voltrav.py and the `getVolume` / `concentric` parameters of 14b_volfront.py), and the parameters `t, h1, r3` of
`concentricCore` (`C13.exitT`, DESIGN §5 C13). -/
namespace C14
open Vol Trav Gen.Algo Gen.Vol RefineVolume RefineTravFront RefineVolFront intervalIntegral

noncomputable section

/-! ### the true volumes (disc method, as in `Props/C13.lean`) -/
/-- ball of radius `r` -/
def trueSphere (r : ℝ) : ℝ := Real.pi * ∫ z in (-r)..r, (r^2 - z^2)
/-- frustum `r1 → r2` of height `h` -/
def trueFrustum (r1 r2 h : ℝ) : ℝ := Real.pi * ∫ z in (0:ℝ)..h, (r1 + (r2 - r1) / h * z)^2
/-- ball of radius `r1` ∩ frustum `r1 → r2` of height `h` starting at the ball's centre -/
def trueSF (r1 r2 h : ℝ) : ℝ := Real.pi * ∫ z in (0:ℝ)..(min h r1), C13.sfProfile r1 r2 h z

/-! ### the closed forms the library computes, as GENERATED by harness/translate.py -/
variable (rad : Int → ℝ) (dist : Int → Int → ℝ) (eps : ℝ)

/-- `VolSphere(n.xyz(), n.r).get_volume()` = `VolSphere.calc_volume(radius)` -/
def closedSphere : Int → ℝ := fun i => sphereVolume Real.pi (rad i)
/-- `VolFrustumCone(n.xyz(), n.r, c.center, c.radius).get_volume()` = `calc_volume(r1, r2, height())` -/
def closedFrustum : Int × Int → ℝ := fun f => frustumVolume Real.pi (rad f.1) (rad f.2) (dist f.1 f.2)
/-- the generated `calc_concentric_intersect_volume` of a sphere of radius `r1` and a frustum that starts at its centre with the same radius -/
def concentricClosed (r1 r2 h : ℝ) : ℝ :=
  concentricCore Real.pi eps h r1 r2 (C13.exitT r1 r2 h) (C13.exitT r1 r2 h * h) (r1 + C13.exitT r1 r2 h * (r2 - r1))
/-- `s.intersect(fc).get_volume()` for the sphere of node `s` at one end of the frustum `fc = (n, c)`: the closed form with `r1` the sphere's
radius and `r2` the radius at the OTHER end of the frustum -/
def closedSF : Int → Int × Int → ℝ := fun s f =>
  concentricClosed eps (rad s) (rad (if s = f.1 then f.2 else f.1)) (dist f.1 f.2)

theorem closedSphere_true (i : Int) : closedSphere rad i = trueSphere (rad i) := C13.sphere_volume _

theorem closedSphere_formula (i : Int) : closedSphere rad i = 4 / 3 * Real.pi * (rad i) ^ 3 := by
  simp only [closedSphere, sphereVolume]; ring

/-- the frustum formula is the true volume for EVERY height (at `h = 0` both sides are `0`) -/
theorem closedFrustum_true (f : Int × Int) : closedFrustum rad dist f = trueFrustum (rad f.1) (rad f.2) (dist f.1 f.2) := by
  by_cases hh : dist f.1 f.2 = 0
  · simp [closedFrustum, trueFrustum, frustumVolume, hh]
  · exact C13.frustum_volume _ _ _ hh

/-- the geometric side conditions under which C13 proves the sphere∩frustum closed form exact: positive radii and length, and the radii /
exit parameter outside the two `eps` bands in which the code deliberately rounds to the neighbouring case -/
def EdgeOK (i c : Int) : Prop :=
  i ≠ c ∧ 0 < rad i ∧ 0 < rad c ∧ 0 < dist i c
  ∧ ¬ (-eps ≤ rad c - rad i ∧ rad c < rad i) ∧ ¬ (-eps ≤ rad i - rad c ∧ rad i < rad c)
  ∧ ¬ (1 < C13.exitT (rad i) (rad c) (dist i c) ∧ C13.exitT (rad i) (rad c) (dist i c) ≤ 1 + eps)
  ∧ ¬ (1 < C13.exitT (rad c) (rad i) (dist i c) ∧ C13.exitT (rad c) (rad i) (dist i c) ≤ 1 + eps)

theorem closedSF_parent_true (he : 0 ≤ eps) (i c : Int) (h : EdgeOK rad dist eps i c) :
    closedSF rad dist eps i (i, c) = trueSF (rad i) (rad c) (dist i c) := by
  obtain ⟨_, hi, hc, hd, b1, _, b3, _⟩ := h
  simp only [closedSF, concentricClosed, if_true]
  exact C13.concentric_volume eps _ _ _ he hi hc.le hd b1 b3

theorem closedSF_child_true (he : 0 ≤ eps) (i c : Int) (h : EdgeOK rad dist eps i c) :
    closedSF rad dist eps c (i, c) = trueSF (rad c) (rad i) (dist i c) := by
  obtain ⟨hne, hi, hc, hd, _, b2, _, b4⟩ := h
  have : ¬ c = i := fun e => hne e.symm
  simp only [closedSF, concentricClosed, this, if_false]
  exact C13.concentric_volume eps _ _ _ he hc hi.le hd b2 b4

/-! ### congruence of the sum over a tree, restricted to the tree's own parent-child pairs -/
mutual
/-- `P parent child` at every edge of the rose -/
def AllEdges (P : Int → Int → Prop) : Rose → Prop
  | .node i ks => (∀ c ∈ ks.map Rose.id, P i c) ∧ AllEdgesL P ks
def AllEdgesL (P : Int → Int → Prop) : List Rose → Prop
  | [] => True
  | r :: rs => AllEdges P r ∧ AllEdgesL P rs
end

mutual
theorem sumRose_congr_edges (P : Int → Int → Prop) (g g' : Int → List Int → ℝ) (h : ∀ i ks, (∀ c ∈ ks, P i c) → g i ks = g' i ks) :
    ∀ r : Rose, AllEdges P r → sumRose g r = sumRose g' r
  | .node i ks, hr => by
    simp only [AllEdges] at hr
    simp only [sumRose]
    rw [sumRoseL_congr_edges P g g' h ks hr.2, h i _ hr.1]
theorem sumRoseL_congr_edges (P : Int → Int → Prop) (g g' : Int → List Int → ℝ) (h : ∀ i ks, (∀ c ∈ ks, P i c) → g i ks = g' i ks) :
    ∀ rs : List Rose, AllEdgesL P rs → sumRoseL g rs = sumRoseL g' rs
  | [], _ => by simp [sumRoseL]
  | r :: rs, hr => by
    simp only [AllEdgesL] at hr
    simp only [sumRoseL]
    rw [sumRoseL_congr_edges P g g' h rs hr.2, sumRose_congr_edges P g g' h r hr.1]
end

variable (volPairs : Int → List (Int × Int) → ℝ) (mcScene : List Py.Shape → ℝ)

/-- **level 1, closed**: `get_volume(tree, accuracy=1)` with the generated closed forms reports, for EVERY tree, the sum over the nodes of the true
volume of the node's ball `π ∫_{-r}^{r} (r² − z²) dz` (= `4/3 π r³`) — no exception, no hypothesis on the geometry -/
theorem get_volume_level1_closed (ids pids : List Int) (r : Rose) (h : Represents r ids pids) (h0 : r.id = 0) (hok : Rows r ids) (F : Nat) :
    get_volume_int (closedSphere rad) (closedFrustum rad dist) (closedSF rad dist eps) volPairs mcScene (2 * r.size + F + 1) ids pids "frustum_cone" 1
      = some (.ok (sumRose (fun i _ => trueSphere (rad i)) r))
    ∧ sumRose (fun i _ => trueSphere (rad i)) r = sumRose (fun i _ => 4 / 3 * Real.pi * (rad i) ^ 3) r := by
  refine ⟨?_, ?_⟩
  · rw [get_volume_level1_every_tree _ _ _ _ _ ids pids r h h0 hok F]
    congr 2
    exact sumRose_congr _ _ (fun i _ => closedSphere_true rad i) r
  · exact sumRose_congr _ _ (fun i _ => by rw [← closedSphere_true, closedSphere_formula]) r

/-- **level 2, closed**: for EVERY tree and every geometry, the sum of the true ball volumes and the true volumes of the frusta to the children -/
theorem get_volume_level2_closed (ids pids : List Int) (r : Rose) (h : Represents r ids pids) (h0 : r.id = 0) (hok : Rows r ids) (F : Nat) :
    get_volume_int (closedSphere rad) (closedFrustum rad dist) (closedSF rad dist eps) volPairs mcScene (2 * r.size + F + 1) ids pids "frustum_cone" 2
      = some (.ok (sumRose (fun i ks => trueSphere (rad i) + Py.sumNum (ks.map fun c => trueFrustum (rad i) (rad c) (dist i c))) r)) := by
  rw [get_volume_level2_every_tree _ _ _ _ _ ids pids r h h0 hok F]
  congr 2
  refine sumRose_congr _ _ (fun i ks => ?_) r
  rw [closedSphere_true]
  congr 2
  exact List.map_congr_left (fun c _ => closedFrustum_true rad dist (i, c))

/-- **levels 3 and 4 (the name `"low"`), closed**: for every tree whose edges satisfy `EdgeOK` (positive radii and lengths, outside the code's `eps` bands):
balls + frusta − (parent ball ∩ frustum) − (child ball ∩ frustum), each term the TRUE volume of that solid (C13) -/
theorem get_volume_level3_closed (he : 0 ≤ eps) (acc : Nat) (h3 : 3 ≤ acc) (h5 : acc < 5) (ids pids : List Int) (r : Rose) (h : Represents r ids pids)
    (h0 : r.id = 0) (hok : Rows r ids) (hE : AllEdges (EdgeOK rad dist eps) r) (F : Nat) :
    get_volume_int (closedSphere rad) (closedFrustum rad dist) (closedSF rad dist eps) volPairs mcScene (2 * r.size + F + 1) ids pids "frustum_cone" (acc : Int)
      = some (.ok (sumRose (fun i ks => trueSphere (rad i) + Py.sumNum (ks.map fun c => trueFrustum (rad i) (rad c) (dist i c))
          - Py.sumNum (ks.map fun c => trueSF (rad i) (rad c) (dist i c)) - Py.sumNum (ks.map fun c => trueSF (rad c) (rad i) (dist i c))) r)) := by
  rw [get_volume_level3_every_tree _ _ _ _ _ acc h3 h5 ids pids r h h0 hok F]
  congr 2
  refine sumRose_congr_edges (EdgeOK rad dist eps) _ _ (fun i ks hk => ?_) r hE
  have e1 : (ks.map fun c => closedFrustum rad dist (i, c)) = ks.map fun c => trueFrustum (rad i) (rad c) (dist i c) :=
    List.map_congr_left (fun c _ => closedFrustum_true rad dist (i, c))
  have e2 : (ks.map fun c => closedSF rad dist eps i (i, c)) = ks.map fun c => trueSF (rad i) (rad c) (dist i c) :=
    List.map_congr_left (fun c hc => closedSF_parent_true rad dist eps he i c (hk c hc))
  have e3 : (ks.map fun c => closedSF rad dist eps c (i, c)) = ks.map fun c => trueSF (rad c) (rad i) (dist i c) :=
    List.map_congr_left (fun c hc => closedSF_child_true rad dist eps he i c (hk c hc))
  rw [closedSphere_true, e1, e2, e3]

/-- non-vacuity: the edge hypotheses of `get_volume_level3_closed` hold on a concrete tree (root 0 with the children 1 and 2 → 3; unit radii, all
lengths 2, the library's `eps = 1e-6`), and with a taper (radii 2 → 1 at distance 3) -/
example : AllEdges (EdgeOK (fun _ => 1) (fun _ _ => 2) (1 / 1000000)) (.node 0 [.node 1 [], .node 2 [.node 3 []]]) := by
  have h : ∀ i c : Int, i ≠ c → EdgeOK (fun _ => 1) (fun _ _ => 2) (1 / 1000000) i c := fun i c hne => by
    norm_num [EdgeOK, C13.exitT, hne]
  simp [AllEdges, AllEdgesL, Rose.id, h, -one_div]
example : EdgeOK (fun i => if i = 0 then 2 else 1) (fun _ _ => 3) (1 / 1000000) 0 1 := by
  norm_num [EdgeOK, C13.exitT]

end
end C14
