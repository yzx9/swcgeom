import SwcVerif.Props.C19
import SwcVerif.Refine.Population
/-! # C19, tied to the source by the translator

`Gen.Algo.pop_get_idx / chain_* / nest_getitem / lazy_*` are regenerated from `swcgeom/core/population.py` on every run.
The theorems below show that they compute what the models of `Model/Population.lean` compute: by `generated_chain_getitem`
the translated `ChainTrees.__getitem__` is the model's `chainGet`, of which `chain_index` / `chain_index_neg` speak, and
`generated_load_at_most_once` carries `load_at_most_once` over to every history of `trees[key]` requests on the translated
`LazyLoadingTrees`. -/
namespace C19
open Pop Gen.Algo RefinePop

/-- `np.cumsum([0] + lens)` is the model's prefix-sum list -/
theorem py_cumsum_eq (lens : List Nat) :
    Py.cumsum ([(0 : Int)] ++ lens.map (fun (k : Nat) => (k : Int))) = (Pop.cumsum lens).map (fun (k : Nat) => (k : Int)) := by
  have key : ∀ (ls : List Nat) (acc : List Nat) (s : Nat), acc.getLast?.getD 0 = s →
      ((ls.map (fun (k : Nat) => (k : Int))).foldl (fun (a : List Int × Int) x => (a.1 ++ [a.2 + x], a.2 + x))
          (acc.map (fun (k : Nat) => (k : Int)), (s : Int))).1 =
        (ls.foldl (fun a x => a ++ [a.getLast?.getD 0 + x]) acc).map (fun (k : Nat) => (k : Int)) := by
    intro ls
    induction ls with
    | nil => intro acc s _; rfl
    | cons x xs ih =>
      intro acc s hs
      have h' := ih (acc ++ [acc.getLast?.getD 0 + x]) (s + x) (by simp [hs])
      simp only [List.map_cons, List.foldl_cons]
      simp only [List.map_append, List.map_cons, List.map_nil, hs, Int.natCast_add] at h'
      rw [hs]
      exact h'
  have := key lens [0] 0 (by simp)
  simpa [Py.cumsum, Pop.cumsum, List.getLastD_eq_getLast?] using this

/-- `ChainTrees(trees)` as translated: the members and their prefix sums -/
theorem generated_chain_init (c0 : ChainTrees) (trees : List (List Int)) :
    chain_init c0 trees = some (⟨trees, castL (Pop.cumsum (trees.map List.length))⟩, ()) := by
  have hloop : ∀ (ts : List (List Int)) (v : chain_init.V), Py.forEach chain_init.for1 ts v =
      .next { v with c0_ := v.c0_ ++ ts.map (fun t => (t.length : Int)), ts := ts.getLast?.getD v.ts } := fun ts v =>
    Py.forEach_comp _ (fun l y => { v with c0_ := l, ts := y }) _ (fun _ _ _ => rfl) ts v.c0_ v.ts
  have hc := py_cumsum_eq (trees.map List.length)
  simp only [List.map_map] at hc
  simp only [chain_init, chain_init.body, Py.seq, Py.bindS, hloop, Py.finish, Option.map, List.nil_append]
  have hcomp : (trees.map (fun t => (t.length : Int))) = List.map ((fun (k : Nat) => (k : Int)) ∘ List.length) trees := rfl
  rw [hcomp, hc]
  rfl

/-- `len(chain)` as translated -/
theorem generated_chain_len (trees : List (List Int)) :
    Gen.Algo.chain_len ⟨trees, castL (Pop.cumsum (trees.map List.length))⟩ = some ((chainLen (trees.map List.length) : Nat) : Int) := by
  have hne : Pop.cumsum (trees.map List.length) ≠ [] := fun e => by simpa [e] using (cumsum_full (trees.map List.length)).1
  simp only [Gen.Algo.chain_len, chain_len.body, Py.bind, Py.idx_last, castL, List.getLast?_map, List.getLast?_eq_some_getLast hne,
    Py.finish, chainLen, List.getLastD_eq_getLast?]
  rfl

/-- **`ChainTrees.__getitem__` as translated** (binary search over the prefix sums as written, then the member's own
indexing) is the model's `chainGet` followed by the two list look-ups: `trees[m][j]` for the `(member, local index) = (m, j)`
the model designates, IndexError (`none`) when the model raises.  (`chain_index` / `chain_index_neg`: the model raises exactly
for a key outside `-Σ ≤ key < Σ`, and otherwise `j` is a position of member `m`.) -/
theorem generated_chain_getitem (trees : List (List Int)) (key : Int) :
    chain_getitem (trees.length + 1) ⟨trees, castL (Pop.cumsum (trees.map List.length))⟩ key =
      (chainGet (trees.map List.length) key).bind (fun mj => (trees[mj.1]?).bind (fun t => t[mj.2]?)) := by
  obtain ⟨hl, hlast, _⟩ := cumsum_full (trees.map List.length)
  have hlen := generated_chain_len trees
  have h0 : (Pop.cumsum (trees.map List.length)).getD 0 0 = 0 := by rw [cumsum_getD _ 0 (Nat.zero_le _)]; rfl
  have hn : (Pop.cumsum (trees.map List.length)).getD trees.length 0 = (Pop.cumsum (trees.map List.length)).getLastD 0 := by
    rw [cumsum_getD _ _ (by simp), List.take_of_length_le (by simp), hlast]
  simp only [List.length_map] at hl
  simp only [chainGet, List.length_map]
  unfold chainLen at hlen
  generalize Pop.cumsum (trees.map List.length) = cum at *
  have hg := getIdx_refines key (cum.getLastD 0)
  cases hk : getIdx key (cum.getLastD 0) with
  | none =>
    rw [hk] at hg
    simp only [chain_getitem, chain_getitem.body, Py.seq, Py.bind, hlen, hg, Py.finish, Option.map, Option.bind_none]
  | some idx =>
    rw [hk] at hg
    simp only [Option.map_some, Option.bind_some] at hg ⊢
    have hidx := (getIdx_spec key _).2.2.2 idx hk
    have hpos : 1 ≤ trees.length := by
      rcases Nat.eq_zero_or_pos trees.length with e | e
      · rw [e, h0] at hn; omega
      · exact e
    obtain ⟨r4, r5, r6, _⟩ := bsearch_spec cum idx (trees.length + 1) 1 trees.length (Nat.le_refl _) hpos (by omega)
      (by rw [h0]; omega) (by rw [hn]; exact hidx)
    obtain ⟨v', e, r1, r2, r3⟩ := bsearch_refines trees cum idx (trees.length + 1) 1 trees.length
      { (default : chain_getitem.V) with self := ⟨trees, castL cum⟩, key := key, i := 1, j := (trees.length : Int), idx := (idx : Int) }
      (by omega) hpos (by omega) rfl rfl rfl rfl
    generalize bsearch cum idx (trees.length + 1) 1 trees.length = b at *
    obtain ⟨b, rfl⟩ : ∃ b', b = b' + 1 := ⟨b - 1, by omega⟩
    rw [Nat.add_sub_cancel] at r6 ⊢
    have hbi : (((b + 1 : Nat) : Int) - 1) = (b : Int) := by omega
    have hcget := idx_castL cum b (by omega)
    have hsub : ((idx : Int) - ((cum.getD b 0 : Nat) : Int)) = ((idx - cum.getD b 0 : Nat) : Int) := by omega
    simp only [chain_getitem, chain_getitem.body, Py.seq, Py.bind, hlen, hg, Py.len_eq]
    rw [e]
    simp only [r1, r2, r3, hbi, hcget, hsub, Py.idx_natCast]
    cases trees[b]? with
    | none => rfl
    | some t => simp only [Option.bind_some]; cases t[idx - cum.getD b 0]? <;> rfl

/-! ## LazyLoadingTrees as translated: every history of index requests -/

/-- run a history of `trees[key]` requests on the generated object, threading the read log; collects what each request
returns (`none` = IndexError) -/
def genGets : LazyLoadingTrees → List Int → List Int → List (Option Int) × List Int
  | _, log, [] => ([], log)
  | g, log, key :: keys =>
    match lazy_getitem readLog g key log with
    | none => let r := genGets g log keys; (none :: r.1, r.2)
    | some (g', log', t) => let r := genGets g' log' keys; (t :: r.1, r.2)

/-- the initial object: no tree loaded -/
def genInit (n : Nat) : LazyLoadingTrees := ⟨castL (List.range n), List.replicate n none⟩

theorem genInit_rep (n : Nat) : LRep (genInit n) (Lazy.init n) := by
  refine ⟨by simp [genInit, Lazy.init], by simp [genInit, Lazy.init], ?_⟩
  intro i hi
  simp only [Lazy.init, List.length_replicate] at hi
  simp [genInit, Lazy.init, hi]

theorem genGets_refines : ∀ (keys : List Int) (g : LazyLoadingTrees) (l : Lazy), LRep g l →
    (genGets g (castL l.log) keys).2 = castL (l.run (keys.map LOp.get)).log := by
  intro keys g l h
  rw [h.eq_rep]
  clear h
  induction keys generalizing l with
  | nil => rfl
  | cons key keys ih =>
    simp only [genGets, getitem_rep, List.map_cons, Lazy.run, List.foldl_cons, Lazy.step]
    cases l.get key with
    | none => exact ih l
    | some r => exact ih r.1

/-- **each file is read at most once, for every history of requests — by the code as translated**: the read log
produced by the generated `__getitem__` / `load` over any sequence of keys has no repetition -/
theorem generated_load_at_most_once (n : Nat) (keys : List Int) :
    (genGets (genInit n) [] keys).2.Nodup := by
  rw [show ([] : List Int) = castL (Lazy.init n).log from rfl, genGets_refines keys _ _ (genInit_rep n)]
  exact castL_nodup _ (load_at_most_once n (keys.map LOp.get)).1

/-- non-vacuity (kernel-evaluated): negative keys, a repeated key, an out-of-range key -/
example : genGets (genInit 4) [] [2, -1, 2, 7, 0] = ([some 2, some 3, some 2, none, some 0], [2, 3, 0]) := by decide +kernel

end C19
