import SwcVerif.Refine.CtorFromDf
/-! # C03, the constructor every operation ends in, tied to the source by the translator

`Gen.Algo.tree_init` / `padding1d` are regenerated from `swcgeom/core/tree.py::Tree.__init__` and `swcgeom/utils/numpy_helper.py::padding1d` on
every run (`Gen/AlgoCtorInit.lean`), over a heap of numpy buffers (`Model/PyCtor.lean`: an array object is a window onto a buffer, two arrays
share storage iff they name the same buffer).  "The result shares no storage with what was handed in" is therefore decided by theorems about the
code as translated: **the constructor does alias** — a column handed in with the dtype the constructor asks for (int32 for id / type / pid,
float32 for x / y / z / r) and at least `n` elements becomes the view `a[:n]` of the caller's array, and every non-standard column is stored as
the caller's array object — and it never WRITES a buffer that existed before.  So an operation returns fresh storage exactly when it hands the
constructor fresh arrays (or arrays of another dtype / too short). -/
namespace C03
open Gen.Algo Py RefineCtorInit

/-- **`padding1d(n, v, padding_value=pad, dtype=dt)` as translated**, for every heap, `n ≥ 0`, and `v` = `None` or an array valid in the heap:
it succeeds, writes no existing buffer, returns an array of dtype `dt`, length `n` with the values `colVals`; the result shares storage with
an existing buffer iff `v` is an array of dtype `dt` with at least `n` elements, and is then `v[:n]` with nothing allocated -/
theorem generated_padding1d_spec (h : Bufs) (n pad dt : Int) (hn : 0 ≤ n) (v : Option Arr)
    (hv : ∀ a, v = some a → ∃ l, Bufs.vals h a = some l ∧ (l.length : Int) = a.len) :
    ∃ h' r, padding1d h n v pad (some dt) = some (h', r) ∧ PadOk h n v (v.bind (Bufs.vals h)) pad dt h' r :=
  padding1d_ok h n pad dt hn v hv

/-- **`Tree.__init__` as translated**, stated on the heap and dict `defaults h n kw` (the caller's, with `id = arange(0, n)` / `pid = arange(-1, n - 1)`
added when missing): it succeeds and writes no existing buffer (`hF = … ++ ext`); the new `ndata` has the seven standard columns first, then the
other columns handed in, each stored as the caller's array object; a standard column has its dtype, length `n` and the values `colVals` (what was
given, cut or padded), and shares storage with an existing buffer exactly when an array of that dtype with at least `n` elements was handed in — it
is then the view `a[:n]` (`ColOk`) -/
theorem generated_tree_init_spec (h : Bufs) (n : Int) (kw : Dict String Arr) (hn : 0 ≤ n)
    (hv : AllValid (defaults h n kw).1 (defaults h n kw).2) (hnd : ((defaults h n kw).2.map (·.1)).Nodup) :
    ∃ hF nd, tree_init h n kw = some (hF, nd, ()) ∧ (∃ ext, hF = (defaults h n kw).1 ++ ext) ∧
      nd.map (·.1) = STD.map (·.1) ++ ((defaults h n kw).2.filter fun p => decide (p.1 ∉ STD.map (·.1))).map (·.1) ∧
      (∀ s ∈ STD, ∃ r, Dict.get? nd s.1 = some r ∧
        ColOk (defaults h n kw).1 hF n (Dict.get? (defaults h n kw).2 s.1) s.2.1 s.2.2 r) ∧
      (∀ k, k ∉ STD.map (·.1) → Dict.get? nd k = Dict.get? (defaults h n kw).2 k) :=
  tree_init_ok h n kw hn hv hnd

/-- the case every tree operation and `from_data_frame` is in: `id` and `pid` are handed in, so the statement is about the caller's own heap and
dict.  **No buffer of the caller is written; a standard column of the new tree shares storage with the caller's buffers iff the caller's array
has the constructor's dtype and at least `n` elements.** -/
theorem generated_tree_init_given (h : Bufs) (n : Int) (kw : Dict String Arr) (hn : 0 ≤ n) (hv : AllValid h kw) (hnd : (kw.map (·.1)).Nodup)
    (h1 : Dict.contains kw "id" = true) (h2 : Dict.contains kw "pid" = true) :
    ∃ hF nd, tree_init h n kw = some (hF, nd, ()) ∧ (∃ ext, hF = h ++ ext) ∧
      (∀ s ∈ STD, ∃ r, Dict.get? nd s.1 = some r ∧ ColOk h hF n (Dict.get? kw s.1) s.2.1 s.2.2 r) ∧
      (∀ k, k ∉ STD.map (·.1) → Dict.get? nd k = Dict.get? kw k) :=
  tree_init_given h n kw hn hv hnd h1 h2

/-- non-vacuity (kernel-evaluated): `Tree(3, id=int32[0,1,2], x=float32[5,6], foo=float64[1,2,3], pid=int64[-1,0,1,2])`: `id` IS the caller's
buffer 0, `foo` the caller's buffer 2; `pid` (another dtype) and `x` (too short) are new buffers; a missing `r` is zeros, not ones -/
example :
    tree_init [[0, 1, 2], [5, 6], [1, 2, 3], [-1, 0, 1, 2]] 3
        [("id", ⟨0, 3, 0⟩), ("x", ⟨1, 2, 1⟩), ("foo", ⟨2, 3, 3⟩), ("pid", ⟨3, 4, 2⟩)] =
      some ([[0, 1, 2], [5, 6], [1, 2, 3], [-1, 0, 1, 2], [0, 0, 0], [0], [5, 6, 0], [0, 0, 0], [0, 0, 0], [0, 0, 0], [-1, 0, 1, 2]],
            [("id", ⟨0, 3, 0⟩), ("type", ⟨4, 3, 0⟩), ("x", ⟨6, 3, 1⟩), ("y", ⟨7, 3, 1⟩), ("z", ⟨8, 3, 1⟩), ("r", ⟨9, 3, 1⟩),
             ("pid", ⟨10, 3, 0⟩), ("foo", ⟨2, 3, 3⟩)], ()) := by decide +kernel

/-- **`Tree.from_data_frame(df)` as translated** (`Gen.Algo.from_data_frame`, regenerated from `tree.py` on every run, running on the generated
constructor), for a frame with distinct column names, valid column arrays and the seven standard columns: it succeeds, writes no existing buffer,
every standard column of the tree is `ColOk` relative to the frame's column (the constructor's dtype, length `n`, the frame's values cut / padded,
sharing storage with the frame's array exactly when that has the dtype and at least `n` elements), every other column is the frame's own array
object.  In particular a frame whose columns already have the dtypes int32 / float32 (what `read_swc`
produces) yields a tree whose standard columns are VIEWS of the frame's column arrays: tree and frame share storage. -/
theorem generated_from_data_frame_spec (h : Bufs) (df : Dict String Arr) (n : Int) (hn : 0 ≤ n) (hv : AllValid h df)
    (hnd : (df.map (·.1)).Nodup) (hstd : ∀ k ∈ STD.map (·.1), ∃ a, Dict.get? df k = some a) :
    ∃ hF nd, from_data_frame h df n = some (hF, nd) ∧ (∃ ext, hF = h ++ ext) ∧
      (∀ s ∈ STD, ∃ r, Dict.get? nd s.1 = some r ∧ ColOk h hF n (Dict.get? df s.1) s.2.1 s.2.2 r) ∧
      (∀ k, k ∉ STD.map (·.1) → Dict.get? nd k = Dict.get? df k) :=
  from_data_frame_ok h df n hn hv hnd hstd

/-- non-vacuity (kernel-evaluated): a frame with the columns in another order, `r` as float64 and `pid` as int64, one extra column: five columns of
the tree are the frame's own buffers (no allocation), `r` and `pid` are converted copies, `foo` is the frame's array; a frame without `z` raises -/
example :
    from_data_frame [[0, 1, 2], [1, 3, 3], [1, 2, 3], [4, 5, 6], [0, 0, 0], [1, 1, 1], [-1, 0, 1], [5, 5, 5]]
        [("pid", ⟨6, 3, 2⟩), ("id", ⟨0, 3, 0⟩), ("type", ⟨1, 3, 0⟩), ("foo", ⟨7, 3, 3⟩), ("x", ⟨2, 3, 1⟩), ("y", ⟨3, 3, 1⟩), ("z", ⟨4, 3, 1⟩),
         ("r", ⟨5, 3, 3⟩)] 3 =
      some ([[0, 1, 2], [1, 3, 3], [1, 2, 3], [4, 5, 6], [0, 0, 0], [1, 1, 1], [-1, 0, 1], [5, 5, 5], [1, 1, 1], [-1, 0, 1]],
            [("id", ⟨0, 3, 0⟩), ("type", ⟨1, 3, 0⟩), ("x", ⟨2, 3, 1⟩), ("y", ⟨3, 3, 1⟩), ("z", ⟨4, 3, 1⟩), ("r", ⟨8, 3, 1⟩), ("pid", ⟨9, 3, 0⟩),
             ("foo", ⟨7, 3, 3⟩)]) ∧
    from_data_frame [[0], [1], [0], [0], [1], [-1]]
        [("id", ⟨0, 1, 0⟩), ("type", ⟨1, 1, 0⟩), ("x", ⟨2, 1, 1⟩), ("y", ⟨3, 1, 1⟩), ("r", ⟨4, 1, 1⟩), ("pid", ⟨5, 1, 0⟩)] 1 = none := by
  decide +kernel

end C03
