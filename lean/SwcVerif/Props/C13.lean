import SwcVerif.Gen.VolumeFormulas
import SwcVerif.Proofs.Num
import SwcVerif.Proofs.Additive
import Mathlib.Analysis.SpecialFunctions.Integrals.Basic
/-! # C13 — closed-form volumes of the primitives equal the true geometric volume

All theorems are about the formulas GENERATED from `swcgeom/utils/volumetric_object.py`
(`Gen.Vol.*`), instantiated at `ℝ` with `pi := Real.pi`.

"True volume" of a solid of revolution about the common axis is `π ∫ ρ(z)² dz` (disc method; its
equality with Lebesgue measure is part of the trusted base).  Profiles:

* sphere of radius `r` centred at `0`:      `ρ² = r² - z²`            on `[-r, r]`
* cap of height `h`:                         the same on `[r-h, r]`
* frustum `r1 → r2` over height `h`:         `ρ  = r1 + (r2-r1)·z/h`   on `[0, h]`
* lens of two spheres at distance `d`:       `ρ² = max 0 (min (r1²-z²) (r2²-(z-d)²))` on `[-r1, r1]`
* sphere ∩ frustum sharing centre and radius at one end (the frustum lies in `z ≥ 0`):
                                             `ρ² = min (r1²-z²) ((r1+(r2-r1)·z/h)²)` on `[0, min h r1]`
-/
namespace C13
open intervalIntegral Gen.Vol

noncomputable section

/-- squared radius of the two-sphere lens at height `z` (sphere 1 at `0`, sphere 2 at `d`) -/
def lensProfile (r1 r2 d z : ℝ) : ℝ := max 0 (min (r1^2 - z^2) (r2^2 - (z - d)^2))
/-- squared radius of sphere ∩ frustum at height `z ≥ 0` -/
def sfProfile (r1 r2 h z : ℝ) : ℝ := min (r1^2 - z^2) ((r1 + (r2 - r1) / h * z)^2)
/-- meridian-plane exit parameter of the lateral edge `(r1,0) → (r2,h)` from the sphere of radius `r1` -/
def exitT (r1 r2 h : ℝ) : ℝ := 2 * r1 * (r1 - r2) / (h * h + (r1 - r2) * (r1 - r2))

/-- the `exitT` of the theorems is the `exitTK` the driver evaluates (one definition, two carriers) -/
theorem exitT_eq_model (r1 r2 h : ℝ) : exitT r1 r2 h = exitTK r1 r2 h := rfl

theorem integral_quadratic (A B C a b : ℝ) :
    ∫ z in a..b, (A + B * z + C * z^2) = A*(b-a) + B*(b^2-a^2)/2 + C*(b^3-a^3)/3 := by
  rw [integral_add, integral_add] <;> try (apply Continuous.intervalIntegrable; fun_prop)
  rw [integral_const, integral_const_mul, integral_const_mul, integral_id, integral_pow]
  simp only [smul_eq_mul]; ring

theorem integral_congr_Icc {f g : ℝ → ℝ} {a b : ℝ} (hab : a ≤ b) (h : ∀ z, a ≤ z → z ≤ b → f z = g z) :
    ∫ z in a..b, f z = ∫ z in a..b, g z :=
  integral_congr fun z hz => by
    rw [Set.uIcc_of_le hab] at hz
    exact h z hz.1 hz.2

theorem integral_split {P f g : ℝ → ℝ} (hP : Continuous P) {a b c : ℝ} (hab : a ≤ b) (hbc : b ≤ c)
    (hf : ∀ z, a ≤ z → z ≤ b → P z = f z) (hg : ∀ z, b ≤ z → z ≤ c → P z = g z) :
    ∫ z in a..c, P z = (∫ z in a..b, f z) + ∫ z in b..c, g z := by
  rw [← integral_add_adjacent_intervals (hP.intervalIntegrable a b) (hP.intervalIntegrable b c),
    integral_congr_Icc hab hf, integral_congr_Icc hbc hg]

/-! ### helpers: the three profile shapes as `A + B z + C z²` -/

theorem sq_sub_sq_quad (r : ℝ) : ∀ z : ℝ, r^2 - z^2 = r^2 + 0 * z + (-1) * z^2 := by intro z; ring

theorem sq_sub_shift_quad (r d : ℝ) : ∀ z : ℝ, r^2 - (z-d)^2 = (r^2 - d^2) + (2*d)*z + (-1) * z^2 := by
  intro z; ring

theorem lin_sq_quad (r k : ℝ) : ∀ z : ℝ, (r + k*z)^2 = r^2 + (2*r*k) * z + (k^2) * z^2 := by intro z; ring

/-- sphere: `4/3 π r³ = π ∫_{-r}^{r} (r² - z²)` -/
theorem sphere_volume (r : ℝ) :
    sphereVolume Real.pi r = Real.pi * ∫ z in (-r)..r, (r^2 - z^2) := by
  simp only [sq_sub_sq_quad, integral_quadratic, sphereVolume]
  ring

/-- spherical cap of height `h` (every `h`, in particular `0 ≤ h ≤ 2r`) -/
theorem cap_volume (r h : ℝ) :
    capVolume Real.pi r h = Real.pi * ∫ z in (r - h)..r, (r^2 - z^2) := by
  simp only [sq_sub_sq_quad, integral_quadratic, capVolume]
  ring

theorem cap_sub_cap (r a b : ℝ) :
    capVolume Real.pi r (r - a) - capVolume Real.pi r (r - b) = Real.pi * ∫ z in a..b, (r^2 - z^2) := by
  simp only [sq_sub_sq_quad, integral_quadratic, capVolume]
  ring

/-- frustum (cone when one radius is 0, cylinder when equal; either taper direction) -/
theorem frustum_volume (r1 r2 h : ℝ) (hh : h ≠ 0) :
    frustumVolume Real.pi r1 r2 h = Real.pi * ∫ z in (0:ℝ)..h, (r1 + (r2 - r1) / h * z)^2 := by
  simp only [lin_sq_quad, integral_quadratic, frustumVolume]
  field_simp
  ring

/-- the frustum in terms of its slope `k` (every height, `0` included) -/
theorem frustum_volume' (r1 k zs : ℝ) :
    frustumVolume Real.pi r1 (r1 + k * zs) zs = Real.pi * ∫ z in (0:ℝ)..zs, (r1 + k * z)^2 := by
  simp only [lin_sq_quad, integral_quadratic, frustumVolume]
  ring

/-- the formula does not depend on which end is called `1` (orientation / taper direction) -/
theorem frustum_symm (r1 r2 h : ℝ) : frustumVolume Real.pi r1 r2 h = frustumVolume Real.pi r2 r1 h := by
  simp only [frustumVolume]; ring

theorem sq_sub_sq_nonneg {r x : ℝ} (h1 : -r ≤ x) (h2 : x ≤ r) : 0 ≤ r^2 - x^2 :=
  sub_nonneg.mpr (sq_le_sq' h1 h2)

section lens
variable {r1 r2 d z : ℝ}

theorem lensProfile_continuous (r1 r2 d : ℝ) : Continuous (lensProfile r1 r2 d) := by
  unfold lensProfile; fun_prop

theorem lensProfile_of_le (h2 : 0 ≤ r2) (hz : z ≤ d - r2) : lensProfile r1 r2 d z = 0 :=
  max_eq_left ((min_le_right _ _).trans (by nlinarith))

theorem lensProfile_of_ge (h2 : 0 ≤ r2) (hz : d + r2 ≤ z) : lensProfile r1 r2 d z = 0 :=
  max_eq_left ((min_le_right _ _).trans (by nlinarith))

/-- inside both spheres the smaller squared radius is decided by a condition LINEAR in `z`:
`(r1² − z²) − (r2² − (z−d)²) = d² + r1² − r2² − 2 d z`; here sphere 2 is the narrower -/
theorem lensProfile_eq_right (hlo : d - r2 ≤ z) (hhi : z ≤ d + r2) (hK : 2 * d * z ≤ d^2 + r1^2 - r2^2) :
    lensProfile r1 r2 d z = r2^2 - (z - d)^2 := by
  unfold lensProfile
  rw [min_eq_right (by linarith), max_eq_right (sq_sub_sq_nonneg (by linarith) (by linarith))]

theorem lensProfile_eq_left (hlo : -r1 ≤ z) (hhi : z ≤ r1) (hK : d^2 + r1^2 - r2^2 ≤ 2 * d * z) :
    lensProfile r1 r2 d z = r1^2 - z^2 := by
  unfold lensProfile
  rw [min_eq_left (by linarith), max_eq_right (sq_sub_sq_nonneg hlo hhi)]

end lens

theorem lens_formula (r1 r2 d : ℝ) (hd : d ≠ 0) :
    Real.pi / (12 * d) * ((r1 + r2 - d) * (r1 + r2 - d)) *
        (d * d + 2 * d * r1 - 3 * (r1 * r1) + 2 * d * r2 - 3 * (r2 * r2) + 6 * r1 * r2)
      = Real.pi * ((∫ z in (d - r2)..((d^2 + r1^2 - r2^2) / (2*d)), (r2^2 - (z-d)^2))
          + ∫ z in ((d^2 + r1^2 - r2^2) / (2*d))..r1, (r1^2 - z^2)) := by
  simp only [sq_sub_shift_quad r2 d, sq_sub_sq_quad r1, integral_quadratic]
  field_simp
  ring

/-- two-sphere intersection, disjoint spheres (`d > r1 + r2`; spheres that touch, `d = r1 + r2`, fall under `lens_proper`) -/
theorem lens_disjoint (r1 r2 d : ℝ) (h1 : 0 ≤ r1) (h2 : 0 ≤ r2) (hd : r1 + r2 < d) :
    lensVolume Real.pi r1 r2 d = Real.pi * ∫ z in (-r1)..r1, lensProfile r1 r2 d z := by
  rw [integral_congr_Icc (g := fun _ => 0) ((neg_nonpos.mpr h1).trans h1) fun z _ hz =>
    lensProfile_of_le h2 (hz.trans (le_sub_iff_add_le.mpr hd.le))]
  simp only [lensVolume, if_pos hd, integral_zero, mul_zero]

/-- nested spheres (incl. internally tangent `d = |r1 - r2|` and concentric `d = 0`) -/
theorem lens_nested (r1 r2 d : ℝ) (h1 : 0 ≤ r1) (h2 : 0 ≤ r2) (hd0 : 0 ≤ d) (hd : d ≤ |r1 - r2|) :
    lensVolume Real.pi r1 r2 d = Real.pi * ∫ z in (-r1)..r1, lensProfile r1 r2 d z := by
  have hc1 : ¬ (d > r1 + r2) :=
    not_lt.mpr (hd.trans ((abs_sub r1 r2).trans_eq (by rw [abs_of_nonneg h1, abs_of_nonneg h2])))
  simp only [lensVolume, absK_eq, minK_eq, if_neg hc1, if_pos hd]
  have h2d : 0 ≤ 2 * d := mul_nonneg zero_le_two hd0
  by_cases hr : r2 < r1
  · -- sphere 2 inside sphere 1: `d + r2 ≤ r1`
    rw [abs_of_pos (sub_pos.mpr hr)] at hd
    have hin := sq_sub_sq_nonneg (r := r1) (x := d + r2) (by linarith) (by linarith)
    have hP := lensProfile_continuous r1 r2 d
    rw [min_eq_right hr.le,
      integral_split hP (by linarith : -r1 ≤ d - r2) (by linarith : d - r2 ≤ r1)
        (fun z _ hz => lensProfile_of_le h2 hz) (fun _ _ _ => rfl),
      integral_split hP (by linarith : d - r2 ≤ d + r2) (by linarith : d + r2 ≤ r1)
        (fun z hlo hhi => lensProfile_eq_right hlo hhi (by linarith [mul_le_mul_of_nonneg_left hhi h2d]))
        (fun z hz _ => lensProfile_of_ge h2 hz)]
    simp only [sq_sub_shift_quad, integral_quadratic, sphereVolume, integral_zero]
    ring
  · -- sphere 1 inside sphere 2: `d + r1 ≤ r2`
    rw [abs_of_nonpos (sub_nonpos.mpr (not_lt.mp hr))] at hd
    have hin := sq_sub_sq_nonneg (r := r2) (x := d + r1) (by linarith) (by linarith)
    rw [min_eq_left (not_lt.mp hr), sphere_volume,
      integral_congr_Icc (by linarith) fun z hlo hhi =>
        lensProfile_eq_left hlo hhi (by linarith [mul_le_mul_of_nonneg_left hlo h2d])]

/-- proper lens (incl. externally tangent `d = r1 + r2`) -/
theorem lens_proper (r1 r2 d : ℝ) (h1 : 0 ≤ r1) (h2 : 0 ≤ r2) (hlo : |r1 - r2| < d) (hhi : d ≤ r1 + r2) :
    lensVolume Real.pi r1 r2 d = Real.pi * ∫ z in (-r1)..r1, lensProfile r1 r2 d z := by
  have h2d : 0 < 2 * d := mul_pos two_pos ((abs_nonneg _).trans_lt hlo)
  obtain ⟨hlo1, hlo2⟩ := abs_lt.mp hlo
  simp only [lensVolume, absK_eq, if_neg (not_lt.mpr hhi), if_neg (not_le.mpr hlo)]
  rw [lens_formula r1 r2 d (mul_ne_zero_iff.mp h2d.ne').2]
  -- the plane `z = z0` of the circle in which the two spheres meet
  obtain ⟨z0, hz0⟩ : ∃ z0, z0 = (d^2 + r1^2 - r2^2) / (2*d) := ⟨_, rfl⟩
  have hK : 2 * d * z0 = d^2 + r1^2 - r2^2 := by rw [hz0, mul_div_cancel₀ _ h2d.ne']
  have hz0lo : d - r2 ≤ z0 :=
    le_of_mul_le_mul_left (by linarith [sq_sub_sq_nonneg (r := r1) (x := d - r2) (by linarith) (by linarith)]) h2d
  have hz0hi : z0 ≤ r1 :=
    le_of_mul_le_mul_left (by linarith [sq_sub_sq_nonneg (r := r2) (x := d - r1) (by linarith) (by linarith)]) h2d
  have hP := lensProfile_continuous r1 r2 d
  rw [← hz0, integral_split hP (by linarith : -r1 ≤ d - r2) (hz0lo.trans hz0hi)
      (fun z _ hz => lensProfile_of_le h2 hz) (fun _ _ _ => rfl),
    integral_split hP hz0lo hz0hi
      (fun z hlo hhi => lensProfile_eq_right hlo (by linarith) (by linarith [mul_le_mul_of_nonneg_left hhi h2d.le]))
      (fun z hlo hhi => lensProfile_eq_left (by linarith) hhi (by linarith [mul_le_mul_of_nonneg_left hlo h2d.le])),
    integral_zero, zero_add]

/-- **two-sphere intersection, every configuration** -/
theorem lens_volume (r1 r2 d : ℝ) (h1 : 0 ≤ r1) (h2 : 0 ≤ r2) (hd0 : 0 ≤ d) :
    lensVolume Real.pi r1 r2 d = Real.pi * ∫ z in (-r1)..r1, lensProfile r1 r2 d z := by
  by_cases hA : r1 + r2 < d
  · exact lens_disjoint r1 r2 d h1 h2 hA
  · by_cases hB : d ≤ |r1 - r2|
    · exact lens_nested r1 r2 d h1 h2 hd0 hB
    · exact lens_proper r1 r2 d h1 h2 (not_le.mp hB) (not_lt.mp hA)

/-- the lens formula is symmetric in the two spheres -/
theorem lens_symm (r1 r2 d : ℝ) : lensVolume Real.pi r1 r2 d = lensVolume Real.pi r2 r1 d := by
  simp only [lensVolume, absK_eq, minK_eq, abs_sub_comm r2 r1, min_comm r2 r1, add_comm r2 r1]
  split_ifs <;> ring

section cone
variable {r k z zs : ℝ}

/-- `(r + k z)² − (r² − z²) = z ((k²+1) z + 2 r k)`: at `z ≥ 0` the sign of the linear factor says whether the sphere
or the cone `r + k z` is the narrower -/
theorem min_sphere_cone_left (hz : 0 ≤ z) (h : 0 ≤ (k^2 + 1) * z + 2 * r * k) :
    min (r^2 - z^2) ((r + k * z)^2) = r^2 - z^2 :=
  min_eq_left (by linarith [mul_nonneg hz h])

theorem min_sphere_cone_right (hz : 0 ≤ z) (h : (k^2 + 1) * z + 2 * r * k ≤ 0) :
    min (r^2 - z^2) ((r + k * z)^2) = (r + k * z)^2 :=
  min_eq_right (by linarith [mul_nonneg hz (neg_nonneg.mpr h)])

/-- a narrowing cone (`k < 0`) leaves the sphere at the height `zs` where the linear factor vanishes -/
theorem cone_exit (hr : 0 < r) (hk : k < 0) (hzs : zs * (k^2 + 1) = -2 * r * k) :
    0 < zs ∧ zs ≤ r ∧ (∀ z, 0 ≤ z → z ≤ zs → min (r^2 - z^2) ((r + k * z)^2) = (r + k * z)^2) ∧
      (∀ z, zs ≤ z → min (r^2 - z^2) ((r + k * z)^2) = r^2 - z^2) := by
  have hk1 : 0 < k^2 + 1 := by positivity
  have hzs0 : 0 < zs := (mul_pos_iff_of_pos_right hk1).mp (by linarith [mul_pos hr (neg_pos.mpr hk)])
  refine ⟨hzs0, le_of_mul_le_mul_right (by linarith [mul_nonneg hr.le (sq_nonneg (k + 1))]) hk1, ?_, ?_⟩
  · intro z hz0 hz1
    exact min_sphere_cone_right hz0 (by linarith [mul_le_mul_of_nonneg_right hz1 hk1.le])
  · intro z hz
    exact min_sphere_cone_left (hzs0.le.trans hz) (by linarith [mul_le_mul_of_nonneg_right hz hk1.le])

end cone

theorem exitT_den_pos (r1 r2 : ℝ) {h : ℝ} (hh : 0 < h) : 0 < h * h + (r1 - r2) * (r1 - r2) :=
  add_pos_of_pos_of_nonneg (mul_pos hh hh) (mul_self_nonneg _)

/-- `t·h` is the height at which the cone of slope `(r2 − r1)/h` leaves the sphere, in the form `cone_exit` asks for -/
theorem exitT_exit (r1 r2 h : ℝ) (hh : 0 < h) :
    exitT r1 r2 h * h * (((r2 - r1) / h)^2 + 1) = -2 * r1 * ((r2 - r1) / h) := by
  have hD := exitT_den_pos r1 r2 hh
  unfold exitT
  field_simp
  ring

theorem sfProfile_continuous (r1 r2 h : ℝ) : Continuous (sfProfile r1 r2 h) := by
  unfold sfProfile; fun_prop

theorem capVolume_zero (r : ℝ) : capVolume Real.pi r (r - r) = 0 := by simp [capVolume]

/-! `concentricCore` by its three branches; the upper end of the solid is `min h r1` in each -/

theorem concentricCore_wide (eps h r1 r2 t h1 r3 : ℝ) (hc : -eps ≤ r2 - r1) :
    concentricCore Real.pi eps h r1 r2 t h1 r3 = capVolume Real.pi r1 (r1 - 0) - capVolume Real.pi r1 (r1 - min h r1) := by
  simp only [concentricCore, if_pos hc, sub_zero]
  split_ifs with hhr
  · rw [min_eq_right hhr, capVolume_zero, sub_zero]
  · rw [min_eq_left (not_le.mp hhr).le]

theorem concentricCore_inside (eps h r1 r2 t h1 r3 : ℝ) (hc : r2 - r1 < -eps) (ht : 1 + eps < t) :
    concentricCore Real.pi eps h r1 r2 t h1 r3 = frustumVolume Real.pi r1 r2 h := by
  simp only [concentricCore, if_neg (not_le.mpr hc), if_pos ht]

theorem concentricCore_exit (eps h r1 r2 t h1 r3 : ℝ) (hc : r2 - r1 < -eps) (ht : t ≤ 1 + eps) :
    concentricCore Real.pi eps h r1 r2 t h1 r3
      = frustumVolume Real.pi r1 r3 h1 + (capVolume Real.pi r1 (r1 - h1) - capVolume Real.pi r1 (r1 - min h r1)) := by
  simp only [concentricCore, if_neg (not_le.mpr hc), if_neg (not_lt.mpr ht)]
  split_ifs with hhr
  · rw [min_eq_right hhr, capVolume_zero]; ring
  · rw [min_eq_left (not_le.mp hhr).le]; ring

/-- sphere ∩ frustum, frustum widening away from the sphere (`r2 ≥ r1`): hemisphere, or the
hemisphere minus the cap above the frustum's far end -/
theorem concentric_wide (eps r1 r2 h t h1 r3 : ℝ) (he : 0 ≤ eps) (hr1 : 0 < r1) (hr : r1 ≤ r2) (hh : 0 < h) :
    concentricCore Real.pi eps h r1 r2 t h1 r3 = Real.pi * ∫ z in (0:ℝ)..(min h r1), sfProfile r1 r2 h z := by
  have hk : 0 ≤ (r2 - r1) / h := div_nonneg (sub_nonneg.mpr hr) hh.le
  rw [concentricCore_wide _ _ _ _ _ _ _ ((neg_nonpos.mpr he).trans (sub_nonneg.mpr hr)), cap_sub_cap,
    integral_congr_Icc (f := sfProfile r1 r2 h) (le_min hh.le hr1.le) fun z hz _ => min_sphere_cone_left hz (by positivity)]

/-- sphere ∩ frustum, frustum narrowing (`r2 < r1 - eps`), outside the code's `eps` band for `t`:
the frustum lies inside the sphere (`t > 1`), or leaves it at height `t·h` (`t ≤ 1`) -/
theorem concentric_narrow (eps r1 r2 h : ℝ) (he : 0 ≤ eps) (hr2 : 0 ≤ r2) (hr : r2 < r1 - eps) (hh : 0 < h)
    (hband : ¬ (1 < exitT r1 r2 h ∧ exitT r1 r2 h ≤ 1 + eps)) :
    concentricCore Real.pi eps h r1 r2 (exitT r1 r2 h) (exitT r1 r2 h * h) (r1 + exitT r1 r2 h * (r2 - r1))
      = Real.pi * ∫ z in (0:ℝ)..(min h r1), sfProfile r1 r2 h z := by
  have hkh : (r2 - r1) / h * h = r2 - r1 := div_mul_cancel₀ _ hh.ne'
  have hrr : r2 < r1 := hr.trans_le (sub_le_self _ he)
  have hc : r2 - r1 < -eps := by linarith
  obtain ⟨hzs0, hzs1, hlow, hhigh⟩ :=
    cone_exit (hr2.trans_lt hrr) (div_neg_of_neg_of_pos (sub_neg.mpr hrr) hh) (exitT_exit r1 r2 h hh)
  have hr3 : r1 + exitT r1 r2 h * (r2 - r1) = r1 + (r2 - r1) / h * (exitT r1 r2 h * h) := by rw [mul_left_comm, hkh]
  by_cases ht : 1 + eps < exitT r1 r2 h
  · -- frustum inside the sphere: `h < t·h ≤ r1`
    have hzh : h < exitT r1 r2 h * h := lt_mul_of_one_lt_left hh ((le_add_of_nonneg_right he).trans_lt ht)
    rw [concentricCore_inside _ _ _ _ _ _ _ hc ht, min_eq_left (hzh.le.trans hzs1),
      integral_congr_Icc (f := sfProfile r1 r2 h) hh.le fun z hz0 hz1 => hlow z hz0 (hz1.trans hzh.le), ← frustum_volume', hkh]
    congr 1; ring
  · have ht1 : exitT r1 r2 h ≤ 1 := not_lt.mp fun h' => hband ⟨h', not_lt.mp ht⟩
    have hzh : exitT r1 r2 h * h ≤ h := mul_le_of_le_one_left hh.le ht1
    rw [concentricCore_exit _ _ _ _ _ _ _ hc (not_lt.mp ht), hr3, frustum_volume', cap_sub_cap, ← mul_add,
      integral_split (sfProfile_continuous r1 r2 h) hzs0.le (le_min hzh hzs1) hlow fun z hz _ => hhigh z hz]

/-- **sphere ∩ frustum, every configuration outside the two `eps` bands** of the code
(`-eps ≤ r2 - r1 < 0` and `1 < t ≤ 1 + eps`, where the code deliberately rounds to the neighbouring case) -/
theorem concentric_volume (eps r1 r2 h : ℝ) (he : 0 ≤ eps) (hr1 : 0 < r1) (hr2 : 0 ≤ r2) (hh : 0 < h)
    (hband1 : ¬ (-eps ≤ r2 - r1 ∧ r2 < r1))
    (hband2 : ¬ (1 < exitT r1 r2 h ∧ exitT r1 r2 h ≤ 1 + eps)) :
    concentricCore Real.pi eps h r1 r2 (exitT r1 r2 h) (exitT r1 r2 h * h) (r1 + exitT r1 r2 h * (r2 - r1))
      = Real.pi * ∫ z in (0:ℝ)..(min h r1), sfProfile r1 r2 h z := by
  by_cases hr : r1 ≤ r2
  · exact concentric_wide eps r1 r2 h _ _ _ he hr1 hr hh
  · have hrr : r2 < r1 := not_le.mp hr
    have : r2 < r1 - eps := by
      by_contra h'
      exact hband1 ⟨by linarith, hrr⟩
    exact concentric_narrow eps r1 r2 h he hr2 this hh hband2

/-- the exit point really is where the lateral edge meets the sphere: at parameter `t` the edge point
`(r1 + t (r2 - r1), t h)` has distance `r1` from the centre -/
theorem exitT_on_sphere (r1 r2 h : ℝ) (hh : 0 < h) :
    (r1 + exitT r1 r2 h * (r2 - r1))^2 + (exitT r1 r2 h * h)^2 = r1^2 := by
  have hD := exitT_den_pos r1 r2 hh
  unfold exitT
  field_simp
  ring

/-- unions by inclusion–exclusion over any finitely additive set function -/
theorem union_volume {α : Type} (m : Set α → ℝ) (hm : Additive.FinAdd m) (A B : Set α) :
    m (A ∪ B) = unionFromParts (m A) (m B) (m (A ∩ B)) ∧ m (A ∪ B) = sfUnionFromParts (m A) (m B) (m (A ∩ B)) := by
  exact ⟨hm.union_inter A B, hm.union_inter A B⟩

-- non-vacuity: hypotheses are satisfiable at concrete non-trivial configurations
example : (0:ℝ) ≤ 2 ∧ (0:ℝ) ≤ 1 ∧ |(2:ℝ) - 1| < 2 ∧ (2:ℝ) ≤ 2 + 1 := by norm_num [abs_of_pos]
example : ¬ (-(1e-6 : ℝ) ≤ 1 - 2 ∧ (1:ℝ) < 2) := by norm_num

end
end C13
