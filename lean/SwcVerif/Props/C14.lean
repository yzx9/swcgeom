import SwcVerif.Model.Volume
import SwcVerif.Proofs.Traverse
import SwcVerif.Proofs.Additive
import Mathlib.Tactic.Ring
import Mathlib.Tactic.Linarith
import Mathlib.Tactic.FieldSimp
import Mathlib.Algebra.Order.Field.Basic
import Mathlib.Algebra.BigOperators.Intervals
import Mathlib.Algebra.Order.BigOperators.Ring.Finset
/-! # C14 — tree volume is the volume of the union of node spheres and connecting frusta

* the per-node value is the definition GENERATED from `analysis/volume.py` (`Gen.VolTerms.nodeVolume`:
  which terms enter with which sign from which accuracy level);
* the accumulation over the tree is C04's traversal machine with the `leave` callback of the code
  (`Vol.treeVolume`), so "for every tree" is by C04's induction;
* the union identity is set algebra over an arbitrary finitely additive `m` (`Additive.FinAdd`), with the
  geometric hypotheses of the property in the form "earlier parts meet the k-th frustum only inside
  sphere k, and meet sphere k+1 only inside frustum k" (implied by: non-adjacent parts are disjoint,
  consecutive spheres overlap only inside their frustum — `lens_inside_frustum` — and consecutive
  frusta only inside the sphere between them). -/
namespace C14
open Vol Trav Gen.VolTerms Additive

-- sum over all nodes of a rose of a per-node quantity `g node childrenIds`
mutual
def sumRose (g : Int → List Int → ℝ) : Rose → ℝ
  | .node i ks => sumRoseL g ks + g i (ks.map Rose.id)
def sumRoseL (g : Int → List Int → ℝ) : List Rose → ℝ
  | [] => 0
  | r :: rs => sumRoseL g rs + sumRose g r
end

mutual
theorem spec_vol (acc : Nat) (terms : Int → List Int → Terms ℝ) :
    ∀ (r : Rose) (pv : Option Unit) (v : ℝ),
      spec volEnter (volLeave acc terms) r pv v = (v + sumRose (fun i ks => nodeVal acc (terms i ks)) r, r.id)
  | .node i ks, pv, v => by
    simp only [spec, volEnter, volLeave, sumRose, Rose.id]
    rw [specRev_vol acc terms ks () v]
    simp only [add_assoc]
theorem specRev_vol (acc : Nat) (terms : Int → List Int → Terms ℝ) :
    ∀ (ks : List Rose) (cur : Unit) (v : ℝ),
      specRev volEnter (volLeave acc terms) ks cur v
        = (v + sumRoseL (fun i ks => nodeVal acc (terms i ks)) ks, ks.map Rose.id)
  | [], _, v => by simp [specRev, sumRoseL]
  | r :: rs, cur, v => by
    simp only [specRev, sumRoseL, List.map_cons]
    rw [specRev_vol acc terms rs cur v, spec_vol acc terms r]
    simp only [add_assoc]
end

/-- **every tree**: the reported volume is the sum over all nodes of the generated per-node value,
each node seeing exactly its own children (any shape, depth, numbering). -/
theorem tree_volume_eq_sum (acc : Nat) (terms : Int → List Int → Terms ℝ) (ids pids : List Int) (r : Rose)
    (h : Represents r ids pids) :
    treeVolume acc terms ids pids r.id (2 * r.size) = sumRose (fun i ks => nodeVal acc (terms i ks)) r := by
  obtain ⟨_, h2, _⟩ := main (tableKids ids pids) (volEnter (K := ℝ)) (volLeave acc terms) r h.1 h.2 [] (fun _ => none) (fun _ => none) (0 : ℝ)
  simp only [treeVolume, init]
  rw [h2, spec_vol, zero_add]

/-! ## the accuracy levels (read off the generated definition) -/

theorem node_level1 (t : Terms ℝ) : nodeVal 1 t = t.s := by simp [nodeVal, nodeVolume]
theorem node_level2 (t : Terms ℝ) : nodeVal 2 t = t.s + t.f := by simp [nodeVal, nodeVolume]
theorem node_level3 (acc : Nat) (h3 : 3 ≤ acc) (h5 : acc < 5) (t : Terms ℝ) :
    nodeVal acc t = t.s + t.f - t.p - t.c := by
  have h2 : 2 ≤ acc := by omega
  have h5' : ¬ 5 ≤ acc := by omega
  simp [nodeVal, nodeVolume, h2, h3, h5']
theorem node_level5 (acc : Nat) (h5 : 5 ≤ acc) (t : Terms ℝ) :
    nodeVal acc t = t.s + t.f - t.p - t.c - t.q := by
  have h2 : 2 ≤ acc := by omega
  have h3 : 3 ≤ acc := by omega
  simp [nodeVal, nodeVolume, h2, h3, h5]

theorem nodeVal_of_q_zero (acc : Nat) (h3 : 3 ≤ acc) (t : Terms ℝ) (hq : t.q = 0) :
    nodeVal acc t = t.s + t.f - t.p - t.c := by
  by_cases h5 : 5 ≤ acc
  · rw [node_level5 acc h5, hq, sub_zero]
  · exact node_level3 acc h3 (by omega) t

theorem sumRose_congr (g g' : Int → List Int → ℝ) (h : ∀ i ks, g i ks = g' i ks) : ∀ r, sumRose g r = sumRose g' r :=
  fun r => congrArg (sumRose · r) (funext₂ h)

theorem tree_volume_eq_sum_of (acc : Nat) (g : Terms ℝ → ℝ) (hg : ∀ t, nodeVal acc t = g t) (terms : Int → List Int → Terms ℝ)
    (ids pids : List Int) (r : Rose) (h : Represents r ids pids) :
    treeVolume acc terms ids pids r.id (2 * r.size) = sumRose (fun i ks => g (terms i ks)) r := by
  rw [tree_volume_eq_sum _ _ _ _ _ h]
  exact sumRose_congr _ _ (fun i ks => hg _) r

/-- **level 1, every tree**: the sum of the node spheres -/
theorem level1_every_tree (terms : Int → List Int → Terms ℝ) (ids pids : List Int) (r : Rose) (h : Represents r ids pids) :
    treeVolume 1 terms ids pids r.id (2 * r.size) = sumRose (fun i ks => (terms i ks).s) r :=
  tree_volume_eq_sum_of 1 _ node_level1 terms ids pids r h

/-- **level 2, every tree**: node spheres plus connecting frusta -/
theorem level2_every_tree (terms : Int → List Int → Terms ℝ) (ids pids : List Int) (r : Rose) (h : Represents r ids pids) :
    treeVolume 2 terms ids pids r.id (2 * r.size) = sumRose (fun i ks => (terms i ks).s + (terms i ks).f) r :=
  tree_volume_eq_sum_of 2 _ node_level2 terms ids pids r h

/-- **levels 3 and 4, every tree**: spheres + (frustum − parent-sphere∩frustum − child-sphere∩frustum); the
two-sphere lens does NOT enter (it lies inside the frustum and is already removed twice and added once) -/
theorem level3_every_tree (acc : Nat) (h3 : 3 ≤ acc) (h5 : acc < 5) (terms : Int → List Int → Terms ℝ) (ids pids : List Int)
    (r : Rose) (h : Represents r ids pids) :
    treeVolume acc terms ids pids r.id (2 * r.size)
      = sumRose (fun i ks => (terms i ks).s + (terms i ks).f - (terms i ks).p - (terms i ks).c) r :=
  tree_volume_eq_sum_of acc _ (node_level3 acc h3 h5) terms ids pids r h

theorem level5_every_tree (acc : Nat) (h5 : 5 ≤ acc) (terms : Int → List Int → Terms ℝ) (ids pids : List Int)
    (r : Rose) (h : Represents r ids pids) :
    treeVolume acc terms ids pids r.id (2 * r.size)
      = sumRose (fun i ks => (terms i ks).s + (terms i ks).f - (terms i ks).p - (terms i ks).c - (terms i ks).q) r :=
  tree_volume_eq_sum_of acc _ (node_level5 acc h5) terms ids pids r h

/-! ## the union of a chain S₀ F₀ S₁ F₁ … Sₙ -/
section chain
variable {α : Type}

/-- everything strictly before sphere `k` -/
def before (S F : ℕ → Set α) : ℕ → Set α
  | 0 => ∅
  | k+1 => before S F k ∪ S k ∪ F k
/-- spheres `0..k` and frusta `0..k-1` -/
def upTo (S F : ℕ → Set α) (k : ℕ) : Set α := before S F k ∪ S k

/-- inclusion–exclusion value of the chain -/
def chainValue (m : Set α → ℝ) (S F : ℕ → Set α) (n : ℕ) : ℝ :=
  (Finset.range (n+1)).sum (fun i => m (S i))
    + (Finset.range n).sum (fun i => m (F i) - m (S i ∩ F i) - m (S (i+1) ∩ F i))

theorem mem_before {S F : ℕ → Set α} {x : α} : ∀ {k : ℕ}, x ∈ before S F k ↔ ∃ i, i < k ∧ (x ∈ S i ∨ x ∈ F i)
  | 0 => by simp [before]
  | k+1 => by
    simp only [before, Set.mem_union, mem_before (k := k), Nat.lt_succ_iff_lt_or_eq, or_and_right, exists_or, exists_eq_left,
      or_assoc]

theorem inter_eq_of_subset {A B C : Set α} (h : A ∩ C ⊆ B) : (A ∪ B) ∩ C = B ∩ C := by
  rw [Set.union_inter_distrib_right, Set.union_eq_self_of_subset_left (Set.subset_inter h Set.inter_subset_right)]

/-- **set-algebra layer.**  If the parts before sphere `k` meet frustum `k` only inside sphere `k`, and
the parts up to sphere `k` meet sphere `k+1` only inside frustum `k`, then the measure of the union is
`Σ m(Sᵢ) + Σ (m(Fᵢ) − m(Sᵢ∩Fᵢ) − m(Sᵢ₊₁∩Fᵢ))`. -/
theorem chain_union (m : Set α → ℝ) (hm : FinAdd m) (S F : ℕ → Set α) (n : ℕ)
    (hA : ∀ k, k < n → before S F k ∩ F k ⊆ S k)
    (hB : ∀ k, k < n → upTo S F k ∩ S (k+1) ⊆ F k) :
    m (upTo S F n) = chainValue m S F n := by
  induction n with
  | zero => simp [upTo, before, chainValue]
  | succ n ih =>
    -- `upTo (n+1)` is `upTo n ∪ F n ∪ S (n+1)`; each of the two new parts meets what is there only in its neighbour
    have e1 : upTo S F n ∩ F n = S n ∩ F n := inter_eq_of_subset (hA n n.lt_succ_self)
    have e2 : (upTo S F n ∪ F n) ∩ S (n+1) = F n ∩ S (n+1) := inter_eq_of_subset (hB n n.lt_succ_self)
    have e : m (upTo S F (n+1)) = m (upTo S F n ∪ F n ∪ S (n+1)) := rfl
    rw [e, hm.union_inter, hm.union_inter, e1, e2, ih (fun k hk => hA k (by omega)) (fun k hk => hB k (by omega)),
      Set.inter_comm (F n)]
    simp only [chainValue, Finset.sum_range_succ]
    ring

theorem chainValue_succ' (m : Set α → ℝ) (S F : ℕ → Set α) (n : ℕ) :
    chainValue m S F (n+1) = m (S 0) + (m (F 0) - m (S 0 ∩ F 0) - m (S 1 ∩ F 0))
      + chainValue m (fun j => S (j+1)) (fun j => F (j+1)) n := by
  unfold chainValue
  rw [Finset.sum_range_succ' _ n, Finset.sum_range_succ' _ (n+1)]
  ring

theorem F_subset_upTo (S F : ℕ → Set α) {k n : ℕ} (hk : k < n) : F k ⊆ upTo S F n :=
  fun _ hx => Or.inl (mem_before.mpr ⟨k, hk, Or.inr hx⟩)

/-- the pairwise form of the hypotheses: non-adjacent parts do not touch (`= ∅`), consecutive spheres
overlap only inside the frustum between them, consecutive frusta only inside the sphere between them,
sphere `k-1` reaches frustum `k` at most inside sphere `k`. -/
theorem chain_hyps_of_pairwise (S F : ℕ → Set α) (n : ℕ)
    (hSS : ∀ k, k < n → S k ∩ S (k+1) ⊆ F k)
    (hFF : ∀ k, k + 1 < n → F k ∩ F (k+1) ⊆ S (k+1))
    (hSF : ∀ k, k + 1 < n → S k ∩ F (k+1) ⊆ S (k+1))
    (hFS : ∀ k, k + 1 < n → F k ∩ S (k+2) ⊆ F (k+1))
    (hfarSS : ∀ i j, i + 2 ≤ j → j ≤ n → S i ∩ S j = ∅)
    (hfarSF : ∀ i j, i + 2 ≤ j → j < n → S i ∩ F j = ∅)
    (hfarFS : ∀ i j, i + 3 ≤ j → j ≤ n → F i ∩ S j = ∅)
    (hfarFF : ∀ i j, i + 2 ≤ j → j < n → F i ∩ F j = ∅) :
    (∀ k, k < n → before S F k ∩ F k ⊆ S k) ∧ (∀ k, k < n → upTo S F k ∩ S (k+1) ⊆ F k) := by
  have far : ∀ {A B : Set α} {x : α} {P : Prop}, A ∩ B = ∅ → x ∈ A → x ∈ B → P :=
    fun h ha hb => (Set.eq_empty_iff_forall_notMem.mp h _ ⟨ha, hb⟩).elim
  -- an earlier part `i < k` is the neighbour (`i + 1 = k`) or far away
  constructor
  · intro k hk x ⟨hb, hF⟩
    obtain ⟨i, hi, hs | hf⟩ := mem_before.mp hb <;> obtain rfl | hlt := (Nat.succ_le_of_lt hi).eq_or_lt
    · exact hSF i hk ⟨hs, hF⟩
    · exact far (hfarSF i k hlt hk) hs hF
    · exact hFF i hk ⟨hf, hF⟩
    · exact far (hfarFF i k hlt hk) hf hF
  · intro k hk x ⟨hu, hS⟩
    obtain hb | hs := hu
    · obtain ⟨i, hi, hs | hf⟩ := mem_before.mp hb
      · exact far (hfarSS i (k+1) (Nat.succ_le_succ hi) hk) hs hS
      · obtain rfl | hlt := (Nat.succ_le_of_lt hi).eq_or_lt
        · exact hFS i hk ⟨hf, hS⟩
        · exact far (hfarFS i (k+1) (Nat.succ_le_succ hlt) hk) hf hS
    · exact hSS k hk ⟨hs, hS⟩

/-- the chain 0 → 1 → … → n as a rose (node `i` has the single child `i+1`) -/
def chainRose : ℕ → ℕ → Rose
  | i, 0 => .node i []
  | i, k+1 => .node i [chainRose (i+1) k]

theorem chainRose_id (i k : ℕ) : (chainRose i k).id = i := by cases k <;> simp [chainRose, Rose.id]

/-- the ingredients the code computes at node `i` of the chain when volumes are measured by `m`:
a leaf contributes its sphere; an inner node its sphere, the frustum to its child, the two
sphere∩frustum overlaps, (the unused lens) and no cone pair (one child ⇒ no pair) -/
def chainTerms (m : Set α → ℝ) (S F : ℕ → Set α) : Int → List Int → Terms ℝ :=
  fun i kids => match kids with
    | [] => ⟨m (S i.toNat), 0, 0, 0, 0, 0⟩
    | _ :: _ => ⟨m (S i.toNat), m (F i.toNat), m (S i.toNat ∩ F i.toNat), m (S (i.toNat+1) ∩ F i.toNat),
                 m (S i.toNat ∩ S (i.toNat+1)), 0⟩

theorem sum_chain (m : Set α → ℝ) (S F : ℕ → Set α) (acc : Nat) (h3 : 3 ≤ acc) (g : Int → List Int → ℝ) :
    ∀ (k i o : ℕ), (∀ j, j ≤ k → ∀ ks, g ((i + j : ℕ) : Int) ks = nodeVal acc (chainTerms m S F ((j + o : ℕ) : Int) ks)) →
      sumRose g (chainRose i k) = chainValue m (fun j => S (j + o)) (fun j => F (j + o)) k := by
  intro k
  induction k with
  | zero =>
    intro i o hg
    have hg0 := hg 0 le_rfl []
    simp only [Nat.add_zero, Nat.zero_add] at hg0
    simp [chainRose, sumRose, sumRoseL, chainValue, hg0, chainTerms, nodeVal_of_q_zero acc h3]
  | succ k ih =>
    intro i o hg
    have hg0 := hg 0 (Nat.zero_le _) [(chainRose (i+1) k).id]
    have e : ∀ j, j + 1 + o = j + (o + 1) := fun j => by omega
    simp only [Nat.add_zero, Nat.zero_add] at hg0
    simp only [chainRose, sumRose, sumRoseL, List.map_cons, List.map_nil]
    rw [hg0, nodeVal_of_q_zero acc h3 _ rfl, chainValue_succ', ih (i+1) (o+1) fun j hj ks => by
      have := hg (j+1) (Nat.succ_le_succ hj) ks
      rwa [e, ← Nat.add_assoc, Nat.add_right_comm i j 1] at this]
    simp only [chainTerms, Int.toNat_natCast, e, Nat.zero_add]
    ring

theorem sum_chainRose (m : Set α → ℝ) (S F : ℕ → Set α) (acc : Nat) (h3 : 3 ≤ acc) :
    ∀ (k i : ℕ), sumRose (fun i ks => nodeVal acc (chainTerms m S F i ks)) (chainRose i k)
      = (Finset.range (k+1)).sum (fun j => m (S (i+j)))
        + (Finset.range k).sum (fun j => m (F (i+j)) - m (S (i+j) ∩ F (i+j)) - m (S (i+j+1) ∩ F (i+j))) := by
  intro k i
  rw [sum_chain m S F acc h3 _ k i i fun j _ ks => by rw [Nat.add_comm]]
  simp only [chainValue, Nat.add_comm _ i, Nat.add_assoc]

/-- **C14, analytic levels ≥ 3 on a chain.**  For the chain `0 → 1 → … → n` (any table representing it),
when each primitive term the code computes is the `m`-measure of the corresponding set and the
property's spacing hypotheses hold, the reported volume is the measure of the union of all node
spheres and connecting frusta. -/
theorem chain_volume_is_union (acc : Nat) (h3 : 3 ≤ acc) (m : Set α → ℝ) (hm : FinAdd m) (S F : ℕ → Set α) (n : ℕ)
    (hA : ∀ k, k < n → before S F k ∩ F k ⊆ S k)
    (hB : ∀ k, k < n → upTo S F k ∩ S (k+1) ⊆ F k)
    (ids pids : List Int) (h : Represents (chainRose 0 n) ids pids) :
    treeVolume acc (chainTerms m S F) ids pids 0 (2 * (chainRose 0 n).size) = m (upTo S F n) := by
  have := tree_volume_eq_sum acc (chainTerms m S F) ids pids (chainRose 0 n) h
  rw [chainRose_id] at this
  rw [chain_union m hm S F n hA hB]
  exact this.trans (sum_chain m S F acc h3 _ n 0 0 fun j _ ks => by rw [Nat.zero_add]; rfl)
end chain

/-! ## a straight-line tree with the root in the middle: two arms leaving the root in opposite directions -/
section twoarm
variable {α : Type}

/-- root 0; right arm = nodes `1..a` (a chain), left arm = nodes `a+1..a+b` (a chain); `a, b ≥ 1` -/
def twoArmRose (a b : ℕ) : Rose := .node 0 [chainRose 1 (a - 1), chainRose (a + 1) (b - 1)]

/-- the ingredients the code computes at each node when volumes are measured by `m`: the root sees both first
compartments (and the cone-pair term `(F_R0 ∩ F_L0) \ S_0`); a node `i` of the right arm (`1 ≤ i ≤ a`) is node `i` of
the chain `R`, a node `a + j` of the left arm is node `j` of the chain `L` -/
def twoArmTerms (m : Set α → ℝ) (R FR L FL : ℕ → Set α) (a : ℕ) : Int → List Int → Terms ℝ :=
  fun i kids =>
    if i = 0 then
      ⟨m (R 0), m (FR 0) + m (FL 0), m (R 0 ∩ FR 0) + m (R 0 ∩ FL 0), m (R 1 ∩ FR 0) + m (L 1 ∩ FL 0),
       m (R 0 ∩ R 1) + m (R 0 ∩ L 1), m ((FR 0 ∩ FL 0) \ R 0)⟩
    else if i.toNat ≤ a then chainTerms m R FR i kids
    else chainTerms m L FL (i - a) kids

/-- **C14, analytic levels ≥ 3 on a straight-line tree whose root is in the middle**: when each arm satisfies the
spacing hypotheses of `chain_union`, the arms share the root sphere (`L 0 = R 0`) and meet nowhere else, the
reported volume — including the level-5 cone-pair term at the root, which measures an empty set — is the
measure of the union of all node spheres and connecting frusta. -/
theorem two_arm_volume_is_union (acc : Nat) (h3 : 3 ≤ acc) (m : Set α → ℝ) (hm : FinAdd m)
    (R FR L FL : ℕ → Set α) (a b : ℕ) (ha : 1 ≤ a) (hb : 1 ≤ b) (hroot : L 0 = R 0)
    (hAR : ∀ k, k < a → before R FR k ∩ FR k ⊆ R k) (hBR : ∀ k, k < a → upTo R FR k ∩ R (k+1) ⊆ FR k)
    (hAL : ∀ k, k < b → before L FL k ∩ FL k ⊆ L k) (hBL : ∀ k, k < b → upTo L FL k ∩ L (k+1) ⊆ FL k)
    (hI : upTo R FR a ∩ upTo L FL b = R 0)
    (ids pids : List Int) (h : Represents (twoArmRose a b) ids pids) :
    treeVolume acc (twoArmTerms m R FR L FL a) ids pids 0 (2 * (twoArmRose a b).size)
      = m (upTo R FR a ∪ upTo L FL b) := by
  obtain ⟨a, rfl⟩ : ∃ a', a = a' + 1 := ⟨a - 1, by omega⟩
  obtain ⟨b, rfl⟩ : ∃ b', b = b' + 1 := ⟨b - 1, by omega⟩
  -- the cone-pair term of the root measures the empty set: the two first frusta meet inside the root sphere
  have hq : (FR 0 ∩ FL 0) \ R 0 = ∅ := by
    rw [Set.sdiff_eq_empty, ← hI]
    exact Set.inter_subset_inter (F_subset_upTo R FR a.succ_pos) (F_subset_upTo L FL b.succ_pos)
  -- the set side: both arms are chains that share their first sphere
  rw [hm.union_inter, hI, chain_union m hm R FR (a+1) hAR hBR, chain_union m hm L FL (b+1) hAL hBL,
    chainValue_succ', chainValue_succ', hroot]
  -- the reported volume: the root, the ids `1 … a+1` carrying `R`, the ids `a+2 … a+b+2` carrying `L`
  refine (tree_volume_eq_sum acc _ ids pids _ h).trans ?_
  simp only [twoArmRose, sumRose, sumRoseL, List.map_cons, List.map_nil, Nat.add_sub_cancel]
  rw [sum_chain m R FR acc h3 _ a 1 1 fun j hj ks => by
        simp only [twoArmTerms]
        rw [if_neg (by omega), if_pos (by omega), Nat.add_comm 1 j],
    sum_chain m L FL acc h3 _ b (a+1+1) 1 fun j hj ks => by
        simp only [twoArmTerms]
        rw [if_neg (by omega), if_neg (by omega), show ((a+1+1+j : ℕ) : Int) - ((a+1 : ℕ) : Int) = ((j+1 : ℕ) : Int) by omega],
    nodeVal_of_q_zero acc h3 _ (by simp only [twoArmTerms, if_true, hq, hm.empty])]
  simp only [twoArmTerms, if_true]
  ring
end twoarm

/-! ## geometry layer: the lens of two consecutive spheres lies inside the frustum between them -/

/-- squared radius profiles about the axis: sphere 1 at `0`, sphere 2 at `d`, frustum between -/
theorem lens_inside_frustum (r1 r2 d z : ℝ) (h1 : 0 ≤ r1) (h2 : 0 ≤ r2) (hd1 : r1 ≤ d) (hd2 : r2 ≤ d) (hd : 0 < d) :
    (0 ≤ z ∧ z ≤ d → min (r1^2 - z^2) (r2^2 - (z - d)^2) ≤ (r1 + (r2 - r1) / d * z)^2) ∧
    (z < 0 → r2^2 - (z - d)^2 < 0) ∧ (d < z → r1^2 - z^2 < 0) := by
  refine ⟨?_, fun hz => sub_neg.mpr ((pow_lt_pow_left₀ (by linarith : r2 < d - z) h2 two_ne_zero).trans_eq (sub_sq_comm d z)),
    fun hz => sub_neg.mpr (pow_lt_pow_left₀ (by linarith : r1 < z) h1 two_ne_zero)⟩
  rintro ⟨hz0, hzd⟩
  -- the frustum's radius at `z` lies between `r1` and `r2`: it is at least the smaller of the two, the radius of a
  -- sphere whose profile is one of the two under the `min`
  rcases le_total r1 r2 with h | h
  · have hge : r1 ≤ r1 + (r2 - r1) / d * z :=
      le_add_of_nonneg_right (mul_nonneg (div_nonneg (sub_nonneg.mpr h) hd.le) hz0)
    exact (min_le_left _ _).trans ((sub_le_self _ (sq_nonneg z)).trans (pow_le_pow_left₀ h1 hge 2))
  · have hge : r2 ≤ r1 + (r2 - r1) / d * z := by
      have := mul_le_mul_of_nonpos_left hzd (div_nonpos_of_nonpos_of_nonneg (sub_nonpos.mpr h) hd.le)
      rw [div_mul_cancel₀ _ hd.ne'] at this
      linarith
    exact (min_le_right _ _).trans ((sub_le_self _ (sq_nonneg (z - d))).trans (pow_le_pow_left₀ h2 hge 2))

-- non-vacuity: a 3-node chain table represents `chainRose 0 2`
example : Represents (chainRose 0 2) [0, 1, 2] [-1, 0, 1] := by
  refine ⟨?_, by decide⟩
  simp [chainRose, Agrees, AgreesL, tableKids, Rose.id]

-- a finitely additive set function exists (Dirac mass), so `FinAdd` hypotheses are satisfiable
open Classical in
example : FinAdd (fun A : Set ℕ => if (0:ℕ) ∈ A then (1:ℝ) else 0) := by
  intro A B hd
  by_cases ha : (0:ℕ) ∈ A <;> by_cases hb : (0:ℕ) ∈ B
  · exact absurd hb (Set.disjoint_left.1 hd ha)
  · simp [ha, hb]
  · simp [ha, hb]
  · simp [ha, hb]

end C14
