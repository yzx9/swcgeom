import SwcVerif.Refine.AscLex
import SwcVerif.Refine.AscBad
import SwcVerif.Props.C15Gen
/-! C15, character level, about the definitions GENERATED from the current source (`Gen/AlgoAscLex.lean`: `Lexer.__init__`, `__next__`,
`_read_word`, `_read_char`, `_read_line`, `_token` of `swcgeom/transforms/neurolucida_asc.py`, translated on every run): the generated
lexer is the hand-written lexer model `Asc.tokens` on EVERY text, and — composed with `C15.generated_convert_eq_model` — generated
lexer ∘ generated parser ∘ generated walk is `Asc.convert` of the text. -/
namespace C15
open Gen.Algo RefineAsc RefineAscParse RefineAscLex

/-- **THE GENERATED LEXER IS THE MODEL** — for EVERY text `s` (any length; the fuels `|s| + 1` the driver uses are part of the
statement): iterating `Lexer.__next__` AS TRANSLATED FROM THE CURRENT SOURCE from `Lexer(io.StringIO(s))` yields exactly the tokens
(`TokenType` and value; line / column are dropped — the model has none) of the hand-written `Asc.tokens s` up to its first `.bad`, and
the iteration ends with StopIteration (`true`) iff there is no `.bad`; otherwise `__next__` raises there (`float()` rejecting a word that
`RE_FLOAT` matched). -/
theorem generated_lex_eq_model (encF : SwcText.Sci → Int) (s : SwcText.Str) :
    (AlgoRun.ascLexAll encF s).1.map AlgoRun.LexToken.toToken = (goodPrefix (Asc.tokens s)).1.map (enc encF) ∧
    (AlgoRun.ascLexAll encF s).2 = (goodPrefix (Asc.tokens s)).2 :=
  lexAll_eq encF s

/-- the generated lexer raises (anything but StopIteration) exactly on the texts whose model token stream contains `.bad` -/
theorem generated_lexer_raises_iff_bad (encF : SwcText.Sci → Int) (s : SwcText.Str) :
    (AlgoRun.ascLexAll encF s).2 = false ↔ Asc.Tok.bad ∈ Asc.tokens s := by
  rw [(generated_lex_eq_model encF s).2]; exact goodPrefix_snd _

/-- on a text without a lexer failure the generated lexer yields the whole model token stream and stops -/
theorem generated_lex_noBad (encF : SwcText.Sci → Int) (s : SwcText.Str) (hnb : NoBad (Asc.tokens s)) :
    (AlgoRun.ascLexAll encF s).1.map AlgoRun.LexToken.toToken = (Asc.tokens s).map (enc encF) ∧ (AlgoRun.ascLexAll encF s).2 = true := by
  have h := generated_lex_eq_model encF s
  rw [goodPrefix_noBad _ hnb] at h
  exact h

/-- one `__next__` call as translated (restated from `RefineAscLex.next_mk`): on the lexer object that still has the characters `s` to
deliver, with any fuel `g ≥ |s| + 1`: StopIteration iff the model has no token left; an exception iff the model's next token is `.bad`;
otherwise the model's token and the lexer object with the model's remaining characters -/
theorem generated_next_eq_model (encF : SwcText.Sci → Int) (s : SwcText.Str) (g : Nat) (ln col : Int) (hg : s.length + 1 ≤ g) :
    ∃ ln' col' l c, lexer_next AlgoRun.ascIsNumber (AlgoRun.ascParseNumber encF) g (mk s ln col) =
      match stepOf s with
      | none => some (mk (wordOf s).2 ln' col', .error stopIteration)
      | some (tk, s') => if tk = .bad then none else some (mk s' ln' col', .ok (tokAt encF tk l c)) :=
  next_mk encF s g ln col hg

/-- the model's `lex` is the iteration of the step `stepOf` that `generated_next_eq_model` speaks about -/
theorem model_lex_is_iterated_step (f : Nat) (s : SwcText.Str) :
    Asc.lex (f + 1) s = match stepOf s with
      | none => []
      | some (tk, s') => tk :: Asc.lex f s' :=
  lex_succ f s

theorem ascConvertText_eq (encF : SwcText.Sci → Int) (s : SwcText.Str) :
    AlgoRun.ascConvertText encF s =
      if (AlgoRun.ascLexAll encF s).2 then AlgoRun.ascConvert ((AlgoRun.ascLexAll encF s).1.map AlgoRun.LexToken.toToken)
      else AlgoRun.ascConvertPrefix ((AlgoRun.ascLexAll encF s).1.map AlgoRun.LexToken.toToken) := by
  unfold AlgoRun.ascConvertText
  rcases AlgoRun.ascLexAll encF s with ⟨toks, _ | _⟩ <;> rfl

/-- **END TO END, FROM THE TEXT**: for every document text `s` on which the lexer does not raise (`NoBad (Asc.tokens s)`; by
`generated_lexer_raises_iff_bad` that is a statement about the generated lexer too), the generated `Lexer` run to the end of the stream,
then the generated `Parser` and the generated `from_ast` (composed as `from_stream` does: `AlgoRun.ascConvertText`) return exactly the
table of the hand-written `Asc.convert s`, and raise exactly when it is an error.  No bound on the size of the text; all fuels are part
of the statement. -/
theorem generated_text_convert_eq_model (encF : SwcText.Sci → Int) (s : SwcText.Str) (hnb : NoBad (Asc.tokens s)) :
    AlgoRun.ascConvertText encF s =
      match Asc.convert s with
      | .ok rows => some ((rows.length : Int), colsOf (RefineAscHeap.encRows encF 0 rows))
      | .error _ => none := by
  obtain ⟨h1, h2⟩ := generated_lex_noBad encF s hnb
  rw [ascConvertText_eq, h2, if_pos rfl, h1]
  exact generated_convert_eq_model encF _ hnb

/-- texts on which the lexer raises (`Asc.Tok.bad ∈ Asc.tokens s`), lexer part: the conversion from the text is `AlgoRun.ascConvertPrefix`
(the generated parser run on the tokens BEFORE the failure, rejecting iff it asked for one more: the real parser pulls tokens on demand)
applied to `enc` of the model's tokens before its first `.bad`.  (The parser part is `RefineAscBad.convertTokens_bad` and
`RefineAscBad.parse_refinesL`; the full statement is `generated_text_convert_eq_model_all`.) -/
theorem generated_text_convert_bad_prefix (encF : SwcText.Sci → Int) (s : SwcText.Str) (hb : Asc.Tok.bad ∈ Asc.tokens s) :
    AlgoRun.ascConvertText encF s = AlgoRun.ascConvertPrefix ((goodPrefix (Asc.tokens s)).1.map (enc encF)) := by
  obtain ⟨h1, h2⟩ := generated_lex_eq_model encF s
  rw [ascConvertText_eq, h2, (goodPrefix_snd _).mpr hb, h1]
  rfl

/-- non-vacuity (kernel-evaluated): a rejected word BEHIND the parser's last look-ahead is never lexed by the real code — the generated
pipeline converts the document (one row), as `Asc.convert` does; AT the look-ahead it is an error in both -/
example : Asc.Tok.bad ∈ Asc.tokens "((Axon)(1 2 3 4))( 1abc".toList := by decide +kernel
example : (AlgoRun.ascConvertText exEnc "((Axon)(1 2 3 4))( 1abc".toList).map (·.1) = some 1 ∧
    (Asc.convert "((Axon)(1 2 3 4))( 1abc".toList).toOption.map (·.length) = some 1 := by decide +kernel
example : AlgoRun.ascConvertText exEnc "((Axon)(1 2 3 4)) 1abc".toList = none ∧
    (Asc.convert "((Axon)(1 2 3 4)) 1abc".toList).toOption = none := by decide +kernel

/-- the text of the document of `C15Gen.exModelToks` / `exToks` (a split, parents −1, 0, 0), with a comment and a line break -/
def exText : SwcText.Str := "((Axon);c\n(0 1 2 3)((4 5 6 7)|(8 9 10 11)))".toList
def exTextPlain : SwcText.Str := "((Axon)(0 1 2 3)((4 5 6 7)|(8 9 10 11)))".toList

/-- the model lexes the plain text to `exModelToks`; there is no lexer failure -/
example : Asc.tokens exTextPlain = exModelToks := by decide +kernel
example : NoBad (Asc.tokens exTextPlain) := by unfold NoBad; decide +kernel
theorem exText_noBad : NoBad (Asc.tokens exText) := by unfold NoBad; decide +kernel
example : NoBad (Asc.tokens exText) := exText_noBad
/-- the GENERATED lexer, kernel-evaluated on the plain text: exactly the token list `exToks` the parser examples of `C15Gen` start from,
then StopIteration -/
example : ((AlgoRun.ascLexAll exEnc exTextPlain).1.map AlgoRun.LexToken.toToken) = exToks ∧ (AlgoRun.ascLexAll exEnc exTextPlain).2 = true := by
  decide +kernel
/-- `generated_text_convert_eq_model` applies to it, and the model's answer is the three rows with parents −1, 0, 0 -/
example : AlgoRun.ascConvertText exEnc exText =
    match Asc.convert exText with
    | .ok rows => some ((rows.length : Int), colsOf (RefineAscHeap.encRows exEnc 0 rows))
    | .error _ => none :=
  generated_text_convert_eq_model exEnc exText exText_noBad
example : (Asc.convert exText).toOption.map (fun rows => rows.map (·.pid)) = some [-1, 0, 0] := by decide +kernel
/-- generated lexer + generated parser + generated walk, kernel-evaluated from the TEXT: three rows, typed axon, parents −1, 0, 0 -/
example : (AlgoRun.ascConvertText exEnc exText).map (fun r => (r.1, r.2.1, r.2.2.1, r.2.2.2.2.2.2.2)) =
    some (3, [0, 1, 2], [2, 2, 2], [-1, 0, 0]) := by decide +kernel
/-- a word that `RE_FLOAT` matches and `float()` rejects: the generated `__next__` raises after the bracket, the model has `.bad` there -/
example : AlgoRun.ascLexAll exEnc "(1abc (".toList = ([⟨1, .str "(", 1, 2⟩], false) := by decide +kernel
example : Asc.tokens "(1abc (".toList = [.lp, .bad, .lp] := by decide +kernel
/-- the position bookkeeping of the generated lexer (line : column AFTER the token, as `_token` reads them), on `(a 1.5⏎;x y⏎|` — the same
values as the real `Lexer` (compared on every suite document by the `gasclex` lines) -/
example : (AlgoRun.ascLexAll exEnc "(a 1.5\n;x y\n|".toList).1.map (fun t => (t.type, t.lineno, t.column)) =
    [(1, 1, 2), (6, 1, 3), (5, 2, 1), (3, 3, 1), (4, 3, 1)] := by decide +kernel

/-- **END TO END, FROM THE TEXT, FOR EVERY TEXT** — no hypothesis on `s`: the generated `Lexer` run until it stops or RAISES (`float()`
rejecting a word `RE_FLOAT` matched), the generated `Parser` and the generated `from_ast`, composed as `from_stream` does with the parser
pulling tokens on demand (`AlgoRun.ascConvertText`: when the lexer raises, the parser runs on the tokens before the failure and the document
is rejected iff the parser asked for one more token), return exactly the table of the hand-written `Asc.convert s`, and raise (`none`)
exactly when the model has an error.  In particular a rejected word BEHIND the last token the parser looks at (trailing garbage after the
closing bracket + one look-ahead token) does not make the conversion fail, anywhere before that it does — in the model and in the generated
code alike.  All fuels are part of the statement; no size bound. -/
theorem generated_text_convert_eq_model_all (encF : SwcText.Sci → Int) (s : SwcText.Str) :
    AlgoRun.ascConvertText encF s =
      match Asc.convert s with
      | .ok rows => some ((rows.length : Int), colsOf (RefineAscHeap.encRows encF 0 rows))
      | .error _ => none := by
  by_cases hb : Asc.Tok.bad ∈ Asc.tokens s
  · rw [generated_text_convert_bad_prefix encF s hb]
    exact RefineAscBad.convertPrefix_eq_model encF (Asc.tokens s) hb
  · exact generated_text_convert_eq_model encF s (fun t ht h => hb (h ▸ ht))

/-- the generated conversion rejects a text exactly when the model does -/
theorem generated_text_rejected_iff (encF : SwcText.Sci → Int) (s : SwcText.Str) :
    AlgoRun.ascConvertText encF s = none ↔ ∃ e, Asc.convert s = .error e := by
  rw [generated_text_convert_eq_model_all encF s]
  cases Asc.convert s with
  | error e => simp
  | ok rows => simp

/-- the model on a token stream with a lexer failure after `pre` is decided by its run on `pre` (`RefineAscBad.convertWithL` =
`convertWith` that also returns the tokens left after the closing bracket): an error of that run or a run that uses up `pre` ↦ error; tokens
of `pre` left ↦ the same rows -/
theorem model_convert_bad (pre ext : List Asc.Tok) (hnb : NoBad pre) :
    match RefineAscBad.convertWithL (2 * pre.length + 4) pre with
    | .error _ => ∃ e, Asc.convertTokens (pre ++ .bad :: ext) = .error e
    | .ok (rest, rows) => if rest = [] then ∃ e, Asc.convertTokens (pre ++ .bad :: ext) = .error e
        else Asc.convertTokens (pre ++ .bad :: ext) = .ok rows :=
  RefineAscBad.convertTokens_bad ext pre hnb

/-- **A MALFORMED NUMBER INSIDE THE DOCUMENT IS REJECTED, from the text, by the generated code**: a text whose token stream is the first `k`
tokens of a well-formed single-tree document `( (label) <branch> )` (`k` < its length: anywhere before the final closing bracket has been
read — in particular at a coordinate or the radius inside a point, at any depth), then a word that `RE_FLOAT` matches and `float()` rejects
(`.bad`, e.g. `3x`, `1.5e`, `1.2.3`), then ANYTHING (`ext`, e.g. the well-formed rest of the document): the generated lexer + parser + walk
raise; nothing is converted in part. -/
theorem generated_bad_point_rejected_text (encF : SwcText.Sci → Int) (s : SwcText.Str) (label : SwcText.Str) (b : Branch) (k : Nat)
    (ext : List Asc.Tok)
    (hl : Asc.upper label = "AXON".toList ∨ Asc.upper label = "DENDRITE".toList) (hb : NonEmpty b)
    (hk : k < (docToks label b).length)
    (hs : Asc.tokens s = (docToks label b).take k ++ .bad :: ext) :
    AlgoRun.ascConvertText encF s = none := by
  rw [generated_text_rejected_iff]
  unfold Asc.convert
  rw [hs]
  exact RefineAscBad.convertTokens_bad_of_error _ ext (noBad_take_docToks label b k) (take_docToks_rejected label b k hk)

/-- **A DOCUMENT THAT ENDS PREMATURELY IS REJECTED, from the text, by the generated code**: a text that stops after `k` complete tokens of a
well-formed single-tree document (`k` < its length), or INSIDE a token in such a way that the remaining piece is a word `float()` rejects
(`cut = [.bad]`: `4.5e1` cut to `4.5e`, `-7` cut to `-`…  a number cut to a shorter VALID number is the first case for the document with that
number): the generated lexer + parser + walk raise. -/
theorem generated_truncation_rejected_text (encF : SwcText.Sci → Int) (s : SwcText.Str) (label : SwcText.Str) (b : Branch) (k : Nat)
    (cut : List Asc.Tok)
    (hl : Asc.upper label = "AXON".toList ∨ Asc.upper label = "DENDRITE".toList) (hb : NonEmpty b)
    (hk : k < (docToks label b).length) (hcut : cut = [] ∨ cut = [.bad])
    (hs : Asc.tokens s = (docToks label b).take k ++ cut) :
    AlgoRun.ascConvertText encF s = none := by
  rcases hcut with rfl | rfl
  · rw [generated_text_rejected_iff]
    unfold Asc.convert
    rw [hs, List.append_nil]
    exact take_docToks_rejected label b k hk
  · exact generated_bad_point_rejected_text encF s label b k [] hl hb hk hs

def exTextBadPoint : SwcText.Str := "((Axon)(0 1 2 3)((4 5x 6 7)|(8 9 10 11)))".toList
def exTextCut : SwcText.Str := "((Axon)(0 1 2 3)((4 5 6 7.5e".toList
/-- a malformed coordinate in the second point: the token stream is 13 tokens of the document `exModelToks`, `.bad`, the rest -/
example : Asc.tokens exTextBadPoint = exModelToks.take 13 ++ .bad :: (Asc.tokens exTextBadPoint).drop 14 := by decide +kernel
example : (Asc.tokens exTextBadPoint).drop 14 ≠ [] := by decide +kernel
example : AlgoRun.ascConvertText exEnc exTextBadPoint = none ∧ (Asc.convert exTextBadPoint).toOption = none := by decide +kernel
/-- a document cut inside the number `7.5e1` -/
example : Asc.tokens exTextCut = exModelToks.take 15 ++ [.bad] := by decide +kernel
example : AlgoRun.ascConvertText exEnc exTextCut = none ∧ (Asc.convert exTextCut).toOption = none := by decide +kernel
/-- the all-texts theorem on the text above whose failing word lies behind the parser's last look-ahead -/
example : AlgoRun.ascConvertText exEnc "((Axon)(1 2 3 4))( 1abc".toList =
    match Asc.convert "((Axon)(1 2 3 4))( 1abc".toList with
    | .ok rows => some ((rows.length : Int), colsOf (RefineAscHeap.encRows exEnc 0 rows))
    | .error _ => none := generated_text_convert_eq_model_all exEnc _

/- the two rejection theorems apply to these texts (all hypotheses discharged by kernel evaluation) -/
def exBranch : Branch := .fork ⟨exSci 0, exSci 1, exSci 2, exSci 3⟩ []
    [.leaf [⟨exSci 4, exSci 5, exSci 6, exSci 7⟩], .leaf [⟨exSci 8, exSci 9, exSci 10, exSci 11⟩]]
example : AlgoRun.ascConvertText exEnc exTextBadPoint = none :=
  generated_bad_point_rejected_text exEnc exTextBadPoint "Axon".toList exBranch 13 ((Asc.tokens exTextBadPoint).drop 14)
    (Or.inl (by decide +kernel)) trivial (by decide +kernel) (by decide +kernel)
example : AlgoRun.ascConvertText exEnc exTextCut = none :=
  generated_truncation_rejected_text exEnc exTextCut "Axon".toList exBranch 15 [.bad]
    (Or.inl (by decide +kernel)) trivial (by decide +kernel) (Or.inr rfl) (by decide +kernel)

end C15
