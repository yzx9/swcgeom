import SwcVerif.Props.C08
import SwcVerif.Props.C08Gen
import SwcVerif.Props.C06
import SwcVerif.Proofs.Represent
import SwcVerif.Refine.BranchTree
import Mathlib.Data.List.Nodup
/-! # C08, `BranchTree.from_tree` tied to the source by the translator

`Gen.Algo.bt_from_tree` is regenerated from `swcgeom/core/branch_tree.py::BranchTree.from_tree` on every run and runs on the translated
`Tree.get_branches` (on the translated `_traverse_dfs`) and the translated `to_sub_topology`.  On every tree (`C06.IsTree r pids`: any
shape, any numbering with the root first) it is proved EQUAL to the model `Branches.branchTree` of the structural decomposition
`branchesOf r`, and the model is characterised: the nodes of the branch tree are the root, the furcations and the tips, each once; every
node hangs from the first node of the branch that ends in it; every branch is remembered under the new index of its first node. -/
namespace C08
open Branches Trav Gen.Algo Sub

/-! ## facts about the decomposition that the branch tree needs -/

/-- no node is listed twice among the furcations and tips -/
theorem furcs_tips_nodup (r : Rose) (hD : r.ids.Nodup) : (furcsOf r ++ tipsOf r).Nodup := by
  rw [List.nodup_iff_count_le_one]
  intro a
  have h1 := ft_count a r
  have h2 := List.nodup_iff_count_le_one.1 hD a
  rw [List.count_append]; omega

/-- the first node of every branch is the root or the end point of a branch -/
theorem branch_head_mem (kidsOf : Int → List Int) (r : Rose) (hA : Agrees kidsOf r) (hD : r.ids.Nodup) (b : List Int)
    (hb : b ∈ branchesOf r) : b.headD r.id ∈ r.id :: (branchesOf r).map (fun b => b.getLastD r.id) := by
  obtain ⟨top, x, tl, rfl, hm, htop, -⟩ := (mem_branchesOf_iff kidsOf r hA b).1 hb
  rw [List.headD_cons, List.mem_cons]
  by_cases h0 : top = r.id
  · exact Or.inl h0
  · have hf : top ∈ furcsOf r := (furcsOf_ge2 kidsOf r hA hD top).2 ⟨hm, htop.resolve_right h0⟩
    exact Or.inr ((branch_ends r hD).mem_iff.2 (((furcs_tips_nodup r hD).mem_erase_iff).2 ⟨h0, List.mem_append_left _ hf⟩))

/-- the root and the end points of the branches are pairwise distinct -/
theorem branch_nodes_nodup (r : Rose) (hD : r.ids.Nodup) : (r.id :: (branchesOf r).map (fun b => b.getLastD r.id)).Nodup := by
  have hp := branch_ends r hD
  have hn : ((furcsOf r ++ tipsOf r).erase r.id).Nodup := (furcs_tips_nodup r hD).erase _
  rw [List.nodup_cons]
  refine ⟨fun hmem => ?_, hp.nodup_iff.2 hn⟩
  have := hp.mem_iff.1 hmem
  rw [(furcs_tips_nodup r hD).mem_erase_iff] at this
  exact this.1 rfl

/-! ## the generated `BranchTree.from_tree` -/

/-- on a tree the decomposition hands `from_tree` non-empty lists of valid rows (of a `Tree` object: `ids[x] = x`) -/
theorem goodBrs_tree (r : Rose) (pids : List Int) (h : C06.IsTree r pids) :
    RefineBranchTree.GoodBrs (rangeI pids.length) (branchesOf r) := by
  refine fun b hb => ⟨?_, fun x hx => ?_⟩
  · obtain ⟨top, x, tl, rfl, -⟩ := (mem_branchesOf_iff _ r h.1.1 b).1 hb
    exact List.cons_ne_nil _ _
  · have := (C06.isTree_mem h x).1 (branch_mem r b hb x hx)
    exact RefineNode.idx_rangeI _ x this.1 (by omega)

/-- **`BranchTree.from_tree` as translated IS the model** `Branches.branchTree` of the structural decomposition, on every tree, for every
fuel `≥ 2 n + 1`: the translated `get_branches` (and the traversal below it) does not run out of fuel, no branch is empty, no row index is
invalid, the kept ids are distinct -/
theorem generated_fromTree_eq_model (r : Rose) (pids : List Int) (h : C06.IsTree r pids) (F : Nat) :
    bt_from_tree (2 * r.size + F + 1) (rangeI pids.length) pids =
      (branchTree 0 (branchesOf r)).map RefineBranchTree.toObj := by
  have hn := branch_nodes_nodup r h.1.2
  rw [h.2.2.1] at hn
  exact RefineBranchTree.fromTree_refines_on _ pids (branchesOf r) _
    (generated_getBranches_eq _ pids r h.1 h.2.2.1 F) (goodBrs_tree r pids h) hn

/-- **what the model builds on a tree** (`nodes` = the root followed by the end point of every branch, in the order of `get_branches`):
* it succeeds (no KeyError in `to_sub_topology`, no IndexError in `np.nonzero(…)[0][0]`);
* the new node `j` is the original node `nodes[j]`; `nodes` lists the root, the furcations and the tips, each exactly once;
* node 0 is the root (`pid = -1`); the node ending branch `b` hangs from the new index of `b`'s first node (which is a listed node);
* under key `k` the dictionary holds exactly the branches whose first node has new index `k`, in order; a node starting no branch has no entry. -/
theorem branchTree_model_spec (r : Rose) (pids : List Int) (h : C06.IsTree r pids) :
    ∃ groups,
      branchTree 0 (branchesOf r) = some ⟨-1 :: (branchesOf r).map (fun b =>
          (((0 :: (branchesOf r).map (fun b => b.getLastD 0)).idxOf (b.headD 0) : Nat) : Int)),
        0 :: (branchesOf r).map (fun b => b.getLastD 0), groups⟩ ∧
      (0 :: (branchesOf r).map (fun b => b.getLastD 0)).Perm (0 :: (furcsOf r ++ tipsOf r).erase 0) ∧
      (0 :: (branchesOf r).map (fun b => b.getLastD 0)).Nodup ∧
      (∀ b ∈ branchesOf r, b.headD 0 ∈ 0 :: (branchesOf r).map (fun b => b.getLastD 0)) ∧
      (∀ k, glookup groups k =
        if (branchesOf r).filter (fun b => decide ((((0 :: (branchesOf r).map (fun b => b.getLastD 0)).idxOf (b.headD 0) : Nat) : Int) = k)) = []
        then none
        else some ((branchesOf r).filter (fun b => decide ((((0 :: (branchesOf r).map (fun b => b.getLastD 0)).idxOf (b.headD 0) : Nat) : Int) = k)))) := by
  have hnd := branch_nodes_nodup r h.1.2
  have hhead := branch_head_mem _ r h.1.1 h.1.2
  have hends := branch_ends r h.1.2
  rw [h.2.2.1] at hnd hhead hends
  -- first and last node of a branch are rows, so not negative (the default 0 stands in for the members of an empty list)
  have hnn : ∀ b ∈ branchesOf r, 0 ≤ b.getLastD 0 ∧ 0 ≤ b.headD 0 := by
    intro b hb
    have hv := fun x hx => (C06.isTree_mem h x).1 (branch_mem r b hb x hx)
    constructor
    · rcases List.mem_cons.1 (List.getLastD_mem_cons (l := b) (a := 0)) with e | m
      · rw [e]; exact Int.le_refl 0
      · exact (hv _ m).1
    · cases b with
      | nil => exact Int.le_refl 0
      | cons a t => exact (hv a List.mem_cons_self).1
  generalize branchesOf r = brs at *
  -- to_sub_topology keeps every row
  have htot := RefineBranchTree.toSubTopology_total (0 :: brs.map (fun b => b.getLastD 0)) (-1 :: brs.map (fun b => b.headD 0))
    (by simp)
    (by
      intro x hx
      simp only [List.mem_cons, List.mem_map] at hx
      rcases hx with rfl | ⟨b, hb, rfl⟩
      · decide
      · have := (hnn b hb).1; omega)
    (by
      intro y hy
      simp only [List.mem_cons, List.mem_map] at hy
      rcases hy with rfl | ⟨b, hb, rfl⟩
      · exact Or.inl rfl
      · exact Or.inr (hhead b hb))
  obtain ⟨d', hd', hsp⟩ := RefineBranchTree.fileBranches_spec 0 (0 :: brs.map (fun b => b.getLastD 0)) brs [] hhead
  refine ⟨d', ?_, hends.cons _, hnd, hhead, hsp⟩
  simp only [branchTree, branchTreeTable, htot, hd', Option.map_some]
  congr 2
  simp only [List.map_cons, if_true, List.map_map, List.cons.injEq, true_and]
  apply List.map_congr_left
  intro b hb
  have : ¬ b.headD 0 = -1 := by have := (hnn b hb).2; omega
  simp only [Function.comp_def, this, if_false]

/-- **C08, the branch tree, for the code as translated** (transport of `branchTree_model_spec` to the generated `BranchTree.from_tree`): on every
tree, with every fuel `≥ 2 n + 1`, the call succeeds and returns the object with
* `src` (the original row each new row is gathered from) = the root followed by the end point of every branch of `get_branches`, which
  lists the root, the furcations and the tips, each exactly once — *"exactly the root, furcations and tips as nodes"*;
* `n` = their number, `id = arange(n)`;
* `pid`: `-1` for the root; the node that ends branch `b` hangs from the new index of `b`'s first node, which is a node of the branch
  tree — *"joined as the branches join them"*;
* `branches[k]` = the branches (complete lists of original nodes) whose first node has new index `k`, in order; no entry for a node
  that starts no branch — *"remembers each original branch's points"*. -/
theorem generated_branchTree_table (r : Rose) (pids : List Int) (h : C06.IsTree r pids) (F : Nat) :
    ∃ groups,
      bt_from_tree (2 * r.size + F + 1) (rangeI pids.length) pids =
        some ⟨((branchesOf r).length + 1 : Nat), Py.range (((branchesOf r).length + 1 : Nat) : Int),
          -1 :: (branchesOf r).map (fun b => (((0 :: (branchesOf r).map (fun b => b.getLastD 0)).idxOf (b.headD 0) : Nat) : Int)),
          0 :: (branchesOf r).map (fun b => b.getLastD 0), groups⟩ ∧
      (0 :: (branchesOf r).map (fun b => b.getLastD 0)).Perm (0 :: (furcsOf r ++ tipsOf r).erase 0) ∧
      (0 :: (branchesOf r).map (fun b => b.getLastD 0)).Nodup ∧
      (∀ b ∈ branchesOf r, b.headD 0 ∈ 0 :: (branchesOf r).map (fun b => b.getLastD 0)) ∧
      (∀ k, Py.Dict.get? groups k =
        if (branchesOf r).filter (fun b => decide ((((0 :: (branchesOf r).map (fun b => b.getLastD 0)).idxOf (b.headD 0) : Nat) : Int) = k)) = []
        then none
        else some ((branchesOf r).filter (fun b => decide ((((0 :: (branchesOf r).map (fun b => b.getLastD 0)).idxOf (b.headD 0) : Nat) : Int) = k)))) := by
  obtain ⟨groups, hm, h1, h2, h3, h4⟩ := branchTree_model_spec r pids h
  refine ⟨groups, ?_, h1, h2, h3, h4⟩
  rw [generated_fromTree_eq_model r pids h F, hm]
  simp only [Option.map_some, RefineBranchTree.toObj, List.length_cons, List.length_map]


/-! ## non-vacuity (kernel-evaluated) -/

/-- `0 → 1 → {2, 3 → 4}`: the stem through the root, the furcation 1, the tips 2 and 4 -/
example : bt_from_tree 12 (rangeI 5) [-1, 0, 1, 1, 3] =
    some ⟨4, [0, 1, 2, 3], [-1, 0, 1, 1], [0, 1, 2, 4], [(0, [[0, 1]]), (1, [[1, 2], [1, 3, 4]])]⟩ := by decide +kernel
/-- the root is itself a furcation: two branches are filed under the new index 0 -/
example : bt_from_tree 14 (rangeI 6) [-1, 0, 0, 1, 1, 2] =
    some ⟨5, [0, 1, 2, 3, 4], [-1, 0, 1, 1, 0], [0, 1, 4, 3, 5], [(0, [[0, 1], [0, 2, 5]]), (1, [[1, 4], [1, 3]])]⟩ := by decide +kernel
/-- the one-node tree: the branch tree is the root alone, the dictionary is empty -/
example : bt_from_tree 4 (rangeI 1) [-1] = some ⟨1, [0], [-1], [0], []⟩ := by decide +kernel
/-- the model on the same trees, and where the real code raises: a branch whose first node is not kept -/
example : branchTree 0 (branchesOf exR) = some ⟨[-1, 0, 1, 2, 2, 1], [0, 1, 2, 5, 3, 6],
    [(0, [[0, 1]]), (1, [[1, 2], [1, 6]]), (2, [[2, 4, 5], [2, 3]])]⟩ := by decide +kernel
example : branchTree 0 [[7, 8]] = none := by decide +kernel
/-- the hypothesis `IsTree` is satisfiable (and, by `Represent.wf_represented`, holds for EVERY well-formed parent list) -/
example : ∃ r, C06.IsTree r [-1, 0, 0, 1, 1, 2] :=
  Represent.wf_represented _ ⟨rfl, by decide, by decide +kernel⟩

end C08
