import SwcVerif.Proofs.Dsu
import SwcVerif.Proofs.DsuForest
import SwcVerif.Proofs.DsuConn
import SwcVerif.Proofs.DsuLink
import SwcVerif.Proofs.DsuTerm
/-! # C18 — topology diagnosis and root repair tell the truth about any parent table

Theorems about the models in `Model/Dsu.lean` (tied to the code by the `c18.dsu`, `c18.checkers`
(every parent table with n ≤ 5) and `c18.repair` correspondence suites). -/
namespace C18
open Dsu

/-- the pairs united so far by a script -/
def unions : List Op → List (Nat × Nat)
  | [] => []
  | .union a b :: t => (a, b) :: unions t
  | .same _ _ :: t => unions t

/-- "some sequence of the unions performed connects them": the equivalence closure of the pair list -/
inductive Conn (E : List (Nat × Nat)) : Nat → Nat → Prop where
  | refl (x : Nat) : Conn E x x
  | edge {a b : Nat} : (a, b) ∈ E → Conn E a b
  | symm {a b : Nat} : Conn E a b → Conn E b a
  | trans {a b c : Nat} : Conn E a b → Conn E b c → Conn E a c

def ValidOp (n : Nat) : Op → Prop
  | .union a b => a < n ∧ b < n
  | .same a b => a < n ∧ b < n

/-- the structure after a script of valid operations (queries compress paths, so they change it too) -/
def stateAfter (n : Nat) (ops : List Op) : D :=
  ops.foldl (fun d op => match stepOp d op with
    | some (d', _) => d'
    | none => d) (init n)

theorem Conn.mono {E E' : List (Nat × Nat)} (h : ∀ e ∈ E, e ∈ E') {x y : Nat} (c : Conn E x y) :
    Conn E' x y := by
  induction c with
  | refl x => exact .refl x
  | edge he => exact .edge (h _ he)
  | symm _ ih => exact .symm ih
  | trans _ _ ih1 ih2 => exact .trans ih1 ih2

theorem Conn_nil (x y : Nat) : Conn [] x y ↔ x = y := by
  constructor
  · intro c
    induction c with
    | refl x => rfl
    | edge he => simp at he
    | symm _ ih => exact ih.symm
    | trans _ _ ih1 ih2 => exact ih1.trans ih2
  · rintro rfl; exact .refl x

theorem init_conn (n : Nat) : DsuInv (init n) n (Conn []) :=
  (init_inv n).congr (fun x y _ _ => (Conn_nil x y).symm)

/-- adding one pair to the list: the new closure in terms of the old one -/
theorem Conn_add {E E' : List (Nat × Nat)} {a b : Nat} (hE : ∀ e, e ∈ E' ↔ e = (a, b) ∨ e ∈ E) (x y : Nat) :
    Conn E' x y ↔ Conn E x y ∨ (Conn E x a ∧ Conn E y b) ∨ (Conn E x b ∧ Conn E y a) := by
  have hm : ∀ {x y}, Conn E x y → Conn E' x y := fun c => Conn.mono (fun e he => (hE e).2 (Or.inr he)) c
  have hab : Conn E' a b := .edge ((hE _).2 (Or.inl rfl))
  constructor
  · intro c
    induction c with
    | refl x => exact Or.inl (.refl x)
    | edge he =>
      rcases (hE _).1 he with e | e
      · injection e with e1 e2
        subst e1; subst e2
        exact Or.inr (Or.inl ⟨.refl _, .refl _⟩)
      · exact Or.inl (.edge e)
    | symm _ ih =>
      rcases ih with h | ⟨h1, h2⟩ | ⟨h1, h2⟩
      · exact Or.inl h.symm
      · exact Or.inr (Or.inr ⟨h2, h1⟩)
      · exact Or.inr (Or.inl ⟨h2, h1⟩)
    | trans _ _ ih1 ih2 =>
      rcases ih1 with h | ⟨h1, h2⟩ | ⟨h1, h2⟩ <;> rcases ih2 with k | ⟨k1, k2⟩ | ⟨k1, k2⟩
      · exact Or.inl (h.trans k)
      · exact Or.inr (Or.inl ⟨h.trans k1, k2⟩)
      · exact Or.inr (Or.inr ⟨h.trans k1, k2⟩)
      · exact Or.inr (Or.inl ⟨h1, k.symm.trans h2⟩)
      · exact Or.inr (Or.inl ⟨h1, k2⟩)
      · exact Or.inl (h1.trans k2.symm)
      · exact Or.inr (Or.inr ⟨h1, k.symm.trans h2⟩)
      · exact Or.inl (h1.trans k2.symm)
      · exact Or.inr (Or.inr ⟨h1, k2⟩)
  · rintro (h | ⟨h1, h2⟩ | ⟨h1, h2⟩)
    · exact hm h
    · exact (hm h1).trans (hab.trans (hm h2).symm)
    · exact (hm h1).trans (hab.symm.trans (hm h2).symm)

/-- one valid `union` step of the represented relation -/
theorem union_conn {d : D} {n : Nat} {E : List (Nat × Nat)} (h : DsuInv d n (Conn E)) (a b : Nat)
    (ha : a < n) (hb : b < n) : DsuInv (union d a b) n (Conn (E ++ [(a, b)])) := by
  refine (union_inv h a b ha hb).congr (fun x y _ _ => ?_)
  exact (Conn_add (by intro e; simp [or_comm]) x y).symm

theorem foldl_inv (n : Nat) : ∀ (ops : List Op) (d : D) (E : List (Nat × Nat)),
    (∀ op ∈ ops, ValidOp n op) → DsuInv d n (Conn E) →
    DsuInv (ops.foldl (fun d op => match stepOp d op with
      | some (d', _) => d'
      | none => d) d) n (Conn (E ++ unions ops)) := by
  intro ops
  induction ops with
  | nil => intro d E _ h; simpa [unions] using h
  | cons op t ih =>
    intro d E hv h
    have hvt : ∀ op ∈ t, ValidOp n op := fun o ho => hv o (List.mem_cons_of_mem _ ho)
    have hop := hv op List.mem_cons_self
    cases op with
    | union a b =>
      obtain ⟨ha, hb⟩ := hop
      rw [List.foldl_cons, stepOp_union (h.hn ▸ ha) (h.hn ▸ hb)]
      simpa [unions] using ih (union d a b) (E ++ [(a, b)]) hvt (union_conn h a b ha hb)
    | same a b =>
      obtain ⟨ha, hb⟩ := hop
      rw [List.foldl_cons, stepOp_same (h.hn ▸ ha) (h.hn ▸ hb)]
      exact ih (same d a b).2 E hvt (same_inv h a b)

/-- **The disjoint-set structure tells the truth for every history**: after any sequence of unions and
queries on `n` elements, `is_same_set a b` answers `True` exactly when some sequence of the unions
performed so far connects `a` and `b`. -/
theorem dsu_refines_partition (n : Nat) (ops : List Op) (hv : ∀ op ∈ ops, ValidOp n op) (a b : Nat)
    (ha : a < n) (hb : b < n) :
    (same (stateAfter n ops) a b).1 = true ↔ Conn (unions ops) a b := by
  have h := foldl_inv n ops (init n) [] hv (init_conn n)
  rw [List.nil_append] at h
  exact same_fst h a b ha hb

/-- the answers the driver prints are exactly these queries, in order: running a script is running
`stepOp` from left to right -/
theorem runOps_cons (d : D) (op : Op) (ops : List Op) (d' : D) (ans : Option Bool) (h : stepOp d op = some (d', ans)) :
    runOps d (op :: ops) = (match op with | .same .. => [ans] | _ => []) ++ runOps d' ops := by
  cases op <;> simp [runOps, h]

/-- invalid nodes are rejected (AssertionError / IndexError), never answered -/
theorem invalid_rejected (d : D) (a b : Nat) (h : ¬ (a < d.n ∧ b < d.n)) :
    stepOp d (.union a b) = none ∧ stepOp d (.same a b) = none := by
  simp [stepOp, valid_pair_false h]

/-! ## has_cyclic -/

/-- the undirected edges `(id, pid)` of the non-root rows -/
def rowEdges : List Int → List Int → List (Nat × Nat)
  | i :: is, p :: ps => if p = -1 then rowEdges is ps else (i.toNat, p.toNat) :: rowEdges is ps
  | _, _ => []

/-- ids / parents usable as DSU nodes: `0 ≤ · < n` (parents may be `-1`) -/
def ValidTable (ids pids : List Int) : Prop :=
  ids.length = pids.length ∧ (∀ i ∈ ids, 0 ≤ i ∧ i < ids.length) ∧ (∀ p ∈ pids, p = -1 ∨ (0 ≤ p ∧ p < ids.length))

/-- rows as `as[k]?`, `bs[k]?`: no side conditions on `k` while the rows are peeled off -/
theorem hasCyclicLoop_spec (n : Nat) : ∀ (as bs : List Int) (d : D) (E : List (Nat × Nat)),
    (∀ i ∈ as, 0 ≤ i ∧ i < (n : Int)) → (∀ p ∈ bs, p = -1 ∨ (0 ≤ p ∧ p < (n : Int))) →
    DsuInv d n (Conn E) →
    (hasCyclicLoop d as bs = some true ↔
      ∃ k a b, as[k]? = some a ∧ bs[k]? = some b ∧ b ≠ -1 ∧
        Conn (E ++ rowEdges (as.take k) (bs.take k)) a.toNat b.toNat) ∧
    (hasCyclicLoop d as bs = some true ∨ hasCyclicLoop d as bs = some false) := by
  intro as
  induction as with
  | nil => intro bs d E _ _ _; simp [hasCyclicLoop]
  | cons a as ih =>
    intro bs d E hi hp h
    cases bs with
    | nil => simp [hasCyclicLoop]
    | cons b bs =>
      obtain ⟨⟨ha0, han⟩, hi'⟩ := List.forall_mem_cons.1 hi
      obtain ⟨hb, hp'⟩ := List.forall_mem_cons.1 hp
      rw [← Nat.or_exists_add_one]
      simp only [List.getElem?_cons_zero, List.getElem?_cons_succ, List.take_zero, List.take_succ_cons,
        Option.some.injEq, rowEdges, List.append_nil]
      by_cases hb1 : b = -1
      · subst hb1
        obtain ⟨ih1, ih2⟩ := ih bs d E hi' hp' h
        rw [hasCyclicLoop_root]
        simp only [if_true]
        refine ⟨ih1.trans ⟨Or.inr, ?_⟩, ih2⟩
        rintro (⟨_, _, _, rfl, hne, _⟩ | h)
        · exact absurd rfl hne
        · exact h
      · obtain ⟨hb0, hbn⟩ := hb.resolve_left hb1
        obtain ⟨a, rfl⟩ := Int.eq_ofNat_of_zero_le ha0
        obtain ⟨b, rfl⟩ := Int.eq_ofNat_of_zero_le hb0
        have ha' : a < n := Int.ofNat_lt.1 han
        have hb' : b < n := Int.ofNat_lt.1 hbn
        rw [hasCyclicLoop_step d a b as bs (h.hn ▸ ha') (h.hn ▸ hb')]
        have hs := same_fst h a b ha' hb'
        simp only [if_neg hb1, Int.toNat_natCast]
        by_cases hc : (same d a b).1 = true
        · rw [if_pos hc]
          exact ⟨⟨fun _ => Or.inl ⟨a, b, rfl, rfl, hb1, by simpa using hs.1 hc⟩, fun _ => rfl⟩, Or.inl rfl⟩
        · rw [if_neg hc]
          obtain ⟨ih1, ih2⟩ := ih bs _ _ hi' hp' (union_conn (same_inv h a b) a b ha' hb')
          simp only [List.append_assoc, List.singleton_append] at ih1
          refine ⟨ih1.trans ⟨Or.inr, ?_⟩, ih2⟩
          rintro (⟨_, _, rfl, rfl, _, c⟩ | h)
          · exact absurd (hs.2 (by simpa using c)) hc
          · exact h

/-- **`has_cyclic` is true exactly when some row joins two nodes that the earlier rows already connect**
(the union-find test for a cycle of the undirected graph of the table; that reading is not part of the
statement). -/
theorem hasCyclic_spec (ids pids : List Int) (hv : ValidTable ids pids) :
    (hasCyclic ids pids = some true ↔
      ∃ k, ∃ h1 : k < ids.length, ∃ h2 : k < pids.length, pids[k] ≠ -1 ∧
        Conn (rowEdges (ids.take k) (pids.take k)) ids[k].toNat pids[k].toNat) ∧
    (hasCyclic ids pids = some true ∨ hasCyclic ids pids = some false) := by
  obtain ⟨_, hi, hp⟩ := hv
  obtain ⟨h1, h2⟩ := hasCyclicLoop_spec ids.length ids pids (init ids.length) [] hi hp (init_conn _)
  refine ⟨h1.trans ⟨?_, ?_⟩, h2⟩
  · rintro ⟨k, a, b, ea, eb, hne, c⟩
    obtain ⟨h1, rfl⟩ := List.getElem?_eq_some_iff.1 ea
    obtain ⟨h2, rfl⟩ := List.getElem?_eq_some_iff.1 eb
    exact ⟨k, h1, h2, hne, c⟩
  · rintro ⟨k, h1, h2, hne, c⟩
    exact ⟨k, _, _, List.getElem?_eq_getElem h1, List.getElem?_eq_getElem h2, hne, c⟩

/-! ## is_bifurcate -/

/-- **`is_bifurcate` is true exactly when no node — other than the roots when they are exempt — has more
than two children**, on every table -/
theorem isBifurcate_correct (ids pids : List Int) (excl : Bool) :
    isBifurcate ids pids excl = true ↔
      ∀ k : Int, k ≠ -1 → ¬ (excl = true ∧ k ∈ tableKids ids pids (-1)) → (tableKids ids pids k).length ≤ 2 := by
  simp only [isBifurcate, List.all_eq_true, Bool.or_eq_true, Bool.and_eq_true, decide_eq_true_eq,
    List.contains_iff_mem]
  constructor
  · intro h k hk hr
    by_cases hm : k ∈ pids
    · rcases h k hm with (e | e) | e
      · exact absurd e hk
      · exact absurd e hr
      · exact e
    · rw [tableKids_not_mem ids pids k hm]; simp
  · intro h k _
    by_cases hk : k = -1
    · exact Or.inl (Or.inl hk)
    · by_cases hr : excl = true ∧ k ∈ tableKids ids pids (-1)
      · exact Or.inl (Or.inr hr)
      · exact Or.inr (h k hk hr)

/-! ## get_dsu / is_single_root -/

/-- when the `while` loop of `get_dsu` stops, every label is a fixed point of the pointer array (so
labels name component representatives), and one more pass changes nothing -/
theorem jumpPass_stop (dsu : List Nat) (hb : ∀ x ∈ dsu, x < dsu.length) (h : (jumpPass dsu).2 = true) :
    (jumpPass dsu).1 = dsu ∧ ∀ i (hi : i < dsu.length), dsu.getD (dsu[i]) 0 = dsu[i] :=
  jumpPass_true dsu h

theorem getDsu_fixpoint (ids pids : List Int) (l : List Nat) (hl : ids.length = pids.length) (h : getDsu ids pids = some l) :
    l.length = ids.length ∧ ∀ i (hi : i < l.length), l.getD (l[i]) 0 = l[i] := by
  obtain ⟨l0, h0, h⟩ := Option.bind_eq_some_iff.1 h
  obtain ⟨e, hfix⟩ := jumpLoop_spec _ l0 l h
  have := dsuInit_length ids pids l0 h0
  exact ⟨by omega, hfix⟩

/-- root of row `i` in a sorted forest table (`ids = 0..n-1`, every parent smaller than its child) -/
def rootOfSorted (pids : List Int) : Nat → Nat → Nat
  | 0, i => i
  | f+1, i => match pids.getD i (-1) with
    | -1 => i
    | p => rootOfSorted pids f p.toNat

theorem rootOfSorted_succ (pids : List Int) (f i : Nat) :
    rootOfSorted pids (f+1) i =
      if pids.getD i (-1) = -1 then i else rootOfSorted pids f (pids.getD i (-1)).toNat := by
  simp only [rootOfSorted]
  split
  · rename_i h; rw [if_pos h]
  · rename_i h; rw [if_neg]; intro e; exact h e

/-- the initial pointer of row `j`: its parent's row, or `j` itself for a root -/
def ptr (pids : List Int) (j : Nat) : Nat := if pids.getD j (-1) = -1 then j else (pids.getD j (-1)).toNat

theorem ptr_eq (pids : List Int) {k : Nat} (hk : k < pids.length) :
    ptr pids k = if pids[k] = -1 then k else pids[k].toNat := by
  unfold ptr; rw [Py.getD_eq_getElem pids (-1) hk]

theorem ptr_closed (pids : List Int)
    (hv : ∀ k (h : k < pids.length), pids[k] = -1 ∨ (0 ≤ pids[k] ∧ pids[k] < pids.length)) :
    Closed pids.length (ptr pids) := by
  intro i hi
  rw [ptr_eq pids hi]
  rcases hv i hi with e | ⟨h0, h1⟩
  · rw [if_pos e]; exact hi
  · rw [if_neg (by omega)]; omega

theorem ptr_forest (pids : List Int) (dp : Nat → Nat)
    (hv : ∀ k (h : k < pids.length), pids[k] = -1 ∨ (0 ≤ pids[k] ∧ pids[k] < pids.length))
    (hd : ∀ k (h : k < pids.length), pids[k] ≠ -1 → dp (pids[k]).toNat < dp k)
    (hb : ∀ k, k < pids.length → dp k < pids.length) : Forest pids.length (ptr pids) dp := by
  refine ⟨ptr_closed pids hv, fun i hi => ?_, hb⟩
  rw [ptr_eq pids hi]
  by_cases e : pids[i] = -1
  · left; rw [if_pos e]
  · right; rw [if_neg e]; exact hd i hi e

theorem getDsu_rows (pids : List Int)
    (hv : ∀ k (h : k < pids.length), pids[k] = -1 ∨ (0 ≤ pids[k] ∧ pids[k] < pids.length)) :
    ∃ l0, Tab l0 pids.length (ptr pids) ∧
      getDsu ((List.range pids.length).map Int.ofNat) pids = jumpLoop (pids.length * pids.length + 2) l0 := by
  refine ⟨(List.zip ((List.range pids.length).map Int.ofNat) pids).map (fun ip => (if ip.2 = -1 then ip.1 else ip.2).toNat),
    ⟨by simp, fun j hj => ?_⟩, ?_⟩
  · unfold ptr
    simp only [List.getD_eq_getElem?_getD]
    rw [List.getElem?_eq_getElem (by simpa using hj), List.getElem?_eq_getElem hj]
    simp only [List.getElem_map, List.getElem_zip, List.getElem_range, Option.getD_some]
    split <;> rfl
  · unfold getDsu dsuInit
    rw [Py.mapM_eq_some_map _ (fun ip => (if ip.2 = -1 then ip.1 else ip.2).toNat)]
    · simp only [List.length_map, List.length_range, Option.bind_some]
    intro ip hip
    obtain ⟨k, hk, e⟩ := List.getElem_of_mem hip
    have hk' : k < pids.length := by simp at hk; exact hk
    simp only [List.getElem_zip, List.getElem_map, List.getElem_range] at e
    subst e
    simp only []
    by_cases hroot : pids[k] = -1
    · rw [if_pos hroot]
      exact idxOf?_range _ k hk'
    · rw [if_neg hroot]
      obtain ⟨h0, h1⟩ := (hv k hk').resolve_left hroot
      have := idxOf?_range pids.length pids[k].toNat (by omega)
      rwa [Int.toNat_of_nonneg h0] at this

/-- **on ANY forest — any numbering, parents before or after their children — the labelling is "root of my
tree"**: `dp` is any depth measure that drops along every parent pointer (it exists exactly when the table is
acyclic).  The `while` loop of `get_dsu` stops within the model's `n² + 2` passes. -/
theorem getDsu_forest (pids : List Int) (dp : Nat → Nat)
    (hv : ∀ k (h : k < pids.length), pids[k] = -1 ∨ (0 ≤ pids[k] ∧ pids[k] < pids.length))
    (hd : ∀ k (h : k < pids.length), pids[k] ≠ -1 → dp (pids[k]).toNat < dp k)
    (hb : ∀ k, k < pids.length → dp k < pids.length) :
    getDsu ((List.range pids.length).map Int.ofNat) pids
      = some ((List.range pids.length).map (Forest.rootFn (ptr pids) dp)) := by
  obtain ⟨l0, ht, e⟩ := getDsu_rows pids hv
  have hF := ptr_forest pids dp hv hd hb
  rw [e]
  refine jumpLoop_forest hF _ l0 (ptr pids) ht (fun i _ => ⟨1, Nat.le_refl _, rfl⟩) ?_
  -- the initial total depth is below n²
  have := total_le_mul (dp := dp) (g := ptr pids) pids.length (fun i hi => Nat.le_of_lt (hb _ (hF.closed i hi)))
  omega

theorem rootOfSorted_spec (pids : List Int)
    (hs : ∀ k (h : k < pids.length), pids[k] = -1 ∨ (0 ≤ pids[k] ∧ pids[k] < (k : Int))) :
    ∀ (f i : Nat), i < f → i < pids.length →
      ptr pids (rootOfSorted pids f i) = rootOfSorted pids f i ∧ ∃ k, rootOfSorted pids f i = iter (ptr pids) k i := by
  intro f
  induction f with
  | zero => intro i h; omega
  | succ f ih =>
    intro i hf hn
    rw [rootOfSorted_succ, Py.getD_eq_getElem pids (-1) hn]
    rcases hs i hn with e | ⟨h0, h1⟩
    · rw [if_pos e]; exact ⟨by rw [ptr_eq pids hn, if_pos e], 0, rfl⟩
    · have hne : pids[i] ≠ -1 := by omega
      rw [if_neg hne]
      obtain ⟨r, k, e⟩ := ih pids[i].toNat (by omega) (by omega)
      exact ⟨r, k + 1, by rw [e, iter, ptr_eq pids hn, if_neg hne]⟩

/-- **on a sorted forest the labelling is "root of my tree"** (a sorted table is a forest whose depth measure is the
row number; tables with cycles: `getDsu_total` below).  That all labels then agree exactly when there is one root is
`forest_single_label_iff`; no theorem composes the two into a statement about `isSingleRoot`. -/
theorem getDsu_sorted_forest (pids : List Int)
    (hs : ∀ k (h : k < pids.length), pids[k] = -1 ∨ (0 ≤ pids[k] ∧ pids[k] < (k : Int))) :
    getDsu ((List.range pids.length).map Int.ofNat) pids
      = some ((List.range pids.length).map (rootOfSorted pids pids.length)) := by
  have hv : ∀ k (h : k < pids.length), pids[k] = -1 ∨ (0 ≤ pids[k] ∧ pids[k] < pids.length) :=
    fun k h => (hs k h).imp_right fun ⟨h0, h1⟩ => ⟨h0, by omega⟩
  have hd : ∀ k (h : k < pids.length), pids[k] ≠ -1 → (pids[k]).toNat < k :=
    fun k h hne => by have := (hs k h).resolve_left hne; omega
  rw [getDsu_forest pids id hv hd (fun k hk => hk)]
  congr 1
  apply List.map_congr_left
  intro j hj
  have hj' := List.mem_range.1 hj
  obtain ⟨r, k, e⟩ := rootOfSorted_spec pids hs pids.length j hj' hj'
  rw [e] at r ⊢
  exact ((ptr_forest pids id hv hd (fun k hk => hk)).root_unique j hj' k r).symm

-- non-vacuity: a forest in which node 0 hangs from node 2 (parents after children) and there are two roots
example : getDsu ((List.range 5).map Int.ofNat) [2, -1, 1, -1, 3] = some [1, 1, 1, 3, 3] := by decide +kernel
example : (List.range 5).map (Forest.rootFn (ptr [2, -1, 1, -1, 3]) (fun k => [2, 0, 1, 0, 1].getD k 0)) = [1, 1, 1, 3, 3] := by
  decide +kernel

/-- **any table, cycles included — partial correctness of `get_dsu` / `is_single_root`**: whenever the pointer-jumping
loop returns, two rows carry the same label exactly when they are weakly connected in the table (by parent links in
either direction); in particular all labels are equal exactly when the whole table is connected.  (That the loop
returns within the modelled pass budget is `getDsu_forest` for every forest and `getDsu_total` below for every table.) -/
theorem getDsu_labels_are_components (pids : List Int)
    (hv : ∀ k (h : k < pids.length), pids[k] = -1 ∨ (0 ≤ pids[k] ∧ pids[k] < pids.length))
    (l : List Nat) (h : getDsu ((List.range pids.length).map Int.ofNat) pids = some l) :
    l.length = pids.length ∧
    ∀ a b, a < pids.length → b < pids.length → (l.getD a 0 = l.getD b 0 ↔ WConn pids.length (ptr pids) a b) := by
  obtain ⟨l0, ht, e⟩ := getDsu_rows pids hv
  rw [e] at h
  exact jumpLoop_conn pids.length (ptr pids) _ l0 l (ptr pids) ht (ptr_closed pids hv) (fun _ _ => Iff.rfl) h

/-- **`get_dsu` returns on EVERY table whose parents name rows — cycles included — and its labels are the weakly
connected components**: total correctness.  (Variant: the sum of the orbit sizes of the pointer array, at most
`n²`, drops in every pass that changes anything — `Proofs/DsuTerm.lean`.) -/
theorem getDsu_total (pids : List Int)
    (hv : ∀ k (h : k < pids.length), pids[k] = -1 ∨ (0 ≤ pids[k] ∧ pids[k] < pids.length)) :
    ∃ l, getDsu ((List.range pids.length).map Int.ofNat) pids = some l ∧ l.length = pids.length ∧
      ∀ a b, a < pids.length → b < pids.length → (l.getD a 0 = l.getD b 0 ↔ WConn pids.length (ptr pids) a b) := by
  obtain ⟨l0, ht, e⟩ := getDsu_rows pids hv
  have hb := Phi_bound pids.length (ptr pids)
  obtain ⟨l, hl⟩ := jumpLoop_terminates (pids.length * pids.length + 2) l0 (ptr pids) ht (ptr_closed pids hv) (by omega)
  exact ⟨l, e.trans hl, getDsu_labels_are_components pids hv l (e.trans hl)⟩

theorem eraseDups_length_one (l : List Nat) :
    (l.eraseDups.length == 1) = true ↔ l ≠ [] ∧ ∀ x ∈ l, ∀ y ∈ l, x = y := by
  cases l with
  | nil => simp
  | cons a t =>
    -- `a :: (t without a).eraseDups` has length one exactly when `t` holds nothing but `a`
    have hnil : ∀ l : List Nat, l.eraseDups = [] ↔ l = [] := fun l => by cases l <;> simp [List.eraseDups_cons]
    have : (∀ b ∈ t, b = a) ↔ ∀ x ∈ a :: t, ∀ y ∈ a :: t, x = y :=
      ⟨fun h x hx y hy => by
        have hz : ∀ z ∈ a :: t, z = a := List.forall_mem_cons.2 ⟨rfl, h⟩
        rw [hz x hx, hz y hy],
       fun h b hb => h b (List.mem_cons_of_mem _ hb) a List.mem_cons_self⟩
    simp only [List.eraseDups_cons, List.length_cons, Nat.reduceBeqDiff, beq_iff_eq, List.length_eq_zero_iff, hnil,
      List.filter_eq_nil_iff, Bool.not_eq_eq_eq_not, Bool.not_true, beq_eq_false_iff_ne, ne_eq, Decidable.not_not, this,
      reduceCtorEq, not_false_eq_true, true_and]

/-- **`is_single_root` answers on every table, and answers "one weakly connected component"** -/
theorem isSingleRoot_total (pids : List Int) (hpos : 0 < pids.length)
    (hv : ∀ k (h : k < pids.length), pids[k] = -1 ∨ (0 ≤ pids[k] ∧ pids[k] < pids.length)) :
    ∃ b, isSingleRoot ((List.range pids.length).map Int.ofNat) pids = some b ∧
      (b = true ↔ ∀ x y, x < pids.length → y < pids.length → WConn pids.length (ptr pids) x y) := by
  obtain ⟨l, hget, hlen, hlab⟩ := getDsu_total pids hv
  refine ⟨l.eraseDups.length == 1, by simp [isSingleRoot, hget], ?_⟩
  rw [eraseDups_length_one]
  have hgd : ∀ x (hx : x < l.length), l.getD x 0 = l[x] := fun x hx => Py.getD_eq_getElem l 0 hx
  constructor
  · rintro ⟨_, hall⟩ x y hx hy
    apply (hlab x y hx hy).1
    rw [hgd x (hlen ▸ hx), hgd y (hlen ▸ hy)]
    exact hall _ (List.getElem_mem _) _ (List.getElem_mem _)
  · intro h
    refine ⟨fun e => by rw [e] at hlen; simp at hlen; omega, ?_⟩
    intro x hx y hy
    obtain ⟨i, hi, rfl⟩ := List.getElem_of_mem hx
    obtain ⟨j, hj, rfl⟩ := List.getElem_of_mem hy
    rw [← hgd i hi, ← hgd j hj]
    exact (hlab i j (hlen ▸ hi) (hlen ▸ hj)).2 (h i j (hlen ▸ hi) (hlen ▸ hj))

-- non-vacuity: a table with a cycle (0 → 1 → 2 → 0, 3 hanging off it) and a separate root 4
example : getDsu ((List.range 5).map Int.ofNat) [1, 2, 0, 1, -1] = some [2, 2, 2, 2, 4] := by decide +kernel

theorem forest_single_label_iff (n : Nat) (f dp : Nat → Nat) (hF : Forest n f dp) :
    (∀ i j, i < n → j < n → Forest.rootFn f dp i = Forest.rootFn f dp j) ↔
    (∀ a b, a < n → b < n → f a = a → f b = b → a = b) := by
  constructor
  · intro h a b ha hb ra rb
    rw [← Forest.rootFn_root (dp := dp) ra, ← Forest.rootFn_root (dp := dp) rb]; exact h a b ha hb
  · intro h i j hi hj
    apply h
    · exact iter_closed hF.closed _ i hi
    · exact iter_closed hF.closed _ j hj
    · exact hF.rootFn_is_root (dp i) i hi (Nat.le_refl _)
    · exact hF.rootFn_is_root (dp j) j hj (Nat.le_refl _)

/-! ## root repair -/

/-- **`fix_roots="somas"`**: exactly the first root stays a root; every other root now hangs from it; every
row that had a parent keeps it (all original edges); no type is changed -/
theorem repair_somas (ids pids types : List Int) (ut : Option Int)
    (hl : ids.length = pids.length) (hr : firstRootLoc pids < pids.length) (hid : ∀ i ∈ ids, i ≠ -1) :
    let res := markRootsAsSomas ids pids types ut
    let loc := firstRootLoc pids
    res.1.length = pids.length ∧
    (∀ k (h : k < res.1.length), res.1[k] = -1 ↔ k = loc) ∧
    (∀ k (h : k < res.1.length) (h' : k < pids.length), pids[k] ≠ -1 → res.1[k] = pids[k]) ∧
    (∀ k (h : k < res.1.length) (h' : k < pids.length), pids[k] = -1 → k ≠ loc → res.1[k] = ids.getD loc 0) ∧
    (types.length = pids.length → res.2 = types) := by
  intro res loc
  have hloc : pids[loc]'hr = -1 := firstRootLoc_spec pids hr
  have hrid : ids.getD loc 0 ≠ -1 := by
    rw [Py.getD_eq_getElem ids 0 (hl ▸ hr)]
    exact hid _ (List.getElem_mem _)
  have hfill : ∀ p : Int, (if p ≠ -1 then p else ids.getD loc 0) ≠ -1 := fun p => by
    split
    · assumption
    · exact hrid
  have hlen : res.1.length = pids.length := List.length_set.trans (List.length_map _)
  have hget : ∀ k (h : k < res.1.length) (h' : k < pids.length),
      res.1[k] = if loc = k then -1 else (if pids[k] ≠ -1 then pids[k] else ids.getD loc 0) := by
    intro k h h'
    simp only [res, markRootsAsSomas, List.getElem_set, List.getElem_map, loc]
  refine ⟨hlen, fun k h => ?_, fun k h h' hne => ?_, fun k h h' he hk => ?_, fun ht => ?_⟩
  · rw [hget k h (hlen ▸ h)]
    by_cases e : loc = k
    · rw [if_pos e]; exact ⟨fun _ => e.symm, fun _ => rfl⟩
    · rw [if_neg e]; exact ⟨fun hh => absurd hh (hfill _), fun hh => absurd hh.symm e⟩
  · rw [hget k h h', if_neg (fun e : loc = k => hne (e ▸ hloc)), if_pos hne]
  · rw [hget k h h', if_neg (Ne.symm hk), if_neg (not_not_intro he)]
  · cases ut with
    | none => rfl
    | some t =>
      show (List.zip _ types).map _ = types
      rw [List.map_congr_left (g := Prod.snd), List.map_snd_zip (by simp [ht])]
      intro pt hpt
      obtain ⟨p, _, hp⟩ := List.mem_map.1 (List.of_mem_zip hpt).1
      rw [if_pos (hp ▸ hfill p)]

/-- **`fix_roots="nearest"`**, any ids: rows that had a parent keep it, the first root stays the root, every other
root is linked to (the id of) some row — partial; that the chosen row lies in another component, hence that
the result is a tree, is `repair_nearest_tree` below (row-numbered ids) -/
theorem repair_nearest_partial (ids pids : List Int) (dist2 : Nat → Nat → Int) (res : List Int)
    (hl : ids.length = pids.length) (hr : firstRootLoc pids < pids.length)
    (h : linkRootsToNearest ids pids dist2 = some res) :
    res.length = pids.length ∧
    (∀ k (h1 : k < res.length) (h2 : k < pids.length), pids[k] ≠ -1 → res[k] = pids[k]) ∧
    res.getD (firstRootLoc pids) 0 = -1 ∧
    (∀ k (h1 : k < res.length) (h2 : k < pids.length), pids[k] = -1 → k ≠ firstRootLoc pids → res[k] ∈ ids) := by
  simp only [linkRootsToNearest, Option.map_eq_some_iff] at h
  obtain ⟨dsu, _, rfl⟩ := h
  obtain ⟨_, hdrop⟩ := otherRoots pids hr
  obtain ⟨l1, l2, l3⟩ := linkLoop_spec ids dist2 (by omega)
    (((List.range pids.length).filter (fun k => pids.getD k 0 = -1)).drop 1) pids dsu
  refine ⟨l1, ?_, ?_, ?_⟩
  · intro k h1 h2 hne
    refine l2 k h1 h2 (fun hk => hne ?_)
    rw [← Py.getD_eq_getElem pids 0 h2]; exact ((hdrop k).1 hk).1.2
  · have hlt := l1 ▸ hr
    rw [Py.getD_eq_getElem _ 0 hlt, l2 _ hlt hr (fun hk => ((hdrop _).1 hk).2 rfl), firstRootLoc_spec pids hr]
  · intro k h1 h2 he hk
    exact l3 k h1 ((hdrop k).2 ⟨⟨h2, by rw [Py.getD_eq_getElem pids 0 h2, he]⟩, hk⟩)

/-- **`fix_roots="nearest"` on any forest returns a single tree**: for every acyclic table (any numbering, `dp` a
measure dropping along every parent pointer) with at least one root and for every distance function, the
repair returns; exactly the first root stays a root; every row that had a parent keeps it; every parent names a
row; and some measure `dp'` drops along every parent pointer of the result — the result has no cycle, so
every row reaches the one root. -/
theorem repair_nearest_tree (pids : List Int) (dp : Nat → Nat) (dist2 : Nat → Nat → Int)
    (hv : ∀ k (h : k < pids.length), pids[k] = -1 ∨ (0 ≤ pids[k] ∧ pids[k] < pids.length))
    (hd : ∀ k (h : k < pids.length), pids[k] ≠ -1 → dp (pids[k]).toNat < dp k)
    (hb : ∀ k, k < pids.length → dp k < pids.length)
    (hr : firstRootLoc pids < pids.length) :
    ∃ (res : List Int) (dp' : Nat → Nat), linkRootsToNearest ((List.range pids.length).map Int.ofNat) pids dist2 = some res ∧
      ∃ hl : res.length = pids.length,
      (∀ k (h : k < res.length), res[k] = -1 ↔ k = firstRootLoc pids) ∧
      (∀ k (h : k < res.length), pids[k]'(hl ▸ h) ≠ -1 → res[k] = pids[k]'(hl ▸ h)) ∧
      (∀ k (h : k < res.length), res[k] ≠ -1 →
        0 ≤ res[k] ∧ res[k] < pids.length ∧ dp' (res[k]).toNat < dp' k) := by
  have hF := ptr_forest pids dp hv hd hb
  have hlabel : ∀ x, x < pids.length →
      ((List.range pids.length).map (Forest.rootFn (ptr pids) dp)).getD x 0 = Forest.rootFn (ptr pids) dp x :=
    fun x hx => Py.getD_range_map _ 0 hx
  -- the invariant holds before the loop
  have h0 : LInv pids.length pids ((List.range pids.length).map (Forest.rootFn (ptr pids) dp)) dp := by
    refine ⟨rfl, by simp, hv, hd, ?_, ?_⟩
    · intro k hk hne
      have hp : ptr pids k = (pids[k]).toNat := by rw [ptr_eq pids hk, if_neg hne]
      rw [← hp, hlabel _ (hF.closed k hk), hlabel k hk]
      exact hF.rootFn_step k hk
    · intro a b ha hb' ra rb e
      rwa [hlabel a ha, hlabel b hb', Forest.rootFn_root (by rw [ptr_eq pids ha, if_pos ra]),
        Forest.rootFn_root (by rw [ptr_eq pids hb', if_pos rb])] at e
  -- the roots to link
  have hloc := firstRootLoc_spec pids hr
  obtain ⟨hnd, hdrop⟩ := otherRoots pids hr
  obtain ⟨dsu', dp', hfin⟩ := linkLoop_inv pids.length dist2 _ pids _ dp h0 hnd
    (fun i hi => by
      obtain ⟨⟨h1, h2⟩, _⟩ := (hdrop i).1 hi
      exact ⟨h1, Py.getD_eq_getElem pids 0 h1 ▸ h2⟩)
    ⟨firstRootLoc pids, hr, hloc, fun e => ((hdrop _).1 e).2 rfl⟩
  have hres : linkRootsToNearest ((List.range pids.length).map Int.ofNat) pids dist2 = _ :=
    congrArg (Option.map _) (getDsu_forest pids dp hv hd hb)
  obtain ⟨p1, p2, p3, p4⟩ := repair_nearest_partial _ pids dist2 _ (by simp) hr hres
  refine ⟨_, dp', hres, p1, ?_, ?_, ?_⟩
  · intro k h
    have h' : k < pids.length := p1 ▸ h
    constructor
    · intro e
      apply Decidable.byContradiction
      intro hk
      by_cases c : pids[k] = -1
      · have := p4 k h h' c hk
        rw [e, List.mem_map] at this
        obtain ⟨m, _, hm⟩ := this
        have : (0 : Int) ≤ Int.ofNat m := Int.natCast_nonneg m
        omega
      · exact c ((p2 k h h' c) ▸ e)
    · intro e
      subst e
      exact Py.getD_eq_getElem _ 0 h ▸ p3
  · intro k h hne
    exact p2 k h (p1 ▸ h) hne
  · intro k h hne
    rcases hfin.valid k h with c | ⟨c0, c1⟩
    · exact absurd c hne
    · exact ⟨c0, c1, hfin.drop k h hne⟩

-- non-vacuity: three fragments (roots at rows 0, 2, 4) on a line; row 2 is linked below row 4 (the nearest outside its own fragment), then row 4 below row 1: one tree
example : linkRootsToNearest ((List.range 5).map Int.ofNat) [-1, 0, -1, 2, -1]
    (fun i j => let xs : List Int := [0, 1, 5, 6, 8]; (xs.getD i 0 - xs.getD j 0) * (xs.getD i 0 - xs.getD j 0))
    = some [-1, 0, 4, 2, 1] := by decide +kernel

-- non-vacuity / concrete behaviour (kernel-evaluated)
example : runOps (init 4) [.union 0 1, .same 0 1, .same 1 2, .union 2 3, .union 1 3, .same 0 2] = [some true, some false, some true] := by
  decide +kernel
example : hasCyclic [0, 1, 2] [-1, 2, 1] = some true := by decide +kernel
example : hasCyclic [0, 1, 2] [-1, 0, 0] = some false := by decide +kernel
example : isBifurcate [0, 1, 2, 3, 4] [-1, 0, 1, 1, 1] true = false := by decide +kernel
example : isBifurcate [0, 1, 2, 3] [-1, 0, 0, 0] true = true ∧ isBifurcate [0, 1, 2, 3] [-1, 0, 0, 0] false = false := by decide +kernel
example : getDsu [0, 1, 2, 3] [-1, 0, 1, -1] = some [0, 0, 0, 3] := by decide +kernel
example : markRootsAsSomas [1, 2, 3] [-1, 1, -1] [3, 3, 2] (some 1) = ([-1, 1, 1], [3, 3, 2]) := by decide +kernel

end C18
