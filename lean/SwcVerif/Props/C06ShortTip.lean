import SwcVerif.Refine.ShortTip
/-! # C06, tied to the source by the translator: `CutShortTipBranch`

`Gen/AlgoShortTip.lean` is regenerated on every run from `swcgeom/transforms/tree.py::CutShortTipBranch`: `_leave` (the per-node
`(length, node)` bookkeeping returned up the traversal, the threshold test `dis + n.distance(child) > self.thre`, the `while` walk down the
first children that builds the reported `Tree.Branch`, the loop over the CALLBACK LIST `self.callbacks`), the `lambda br:
removals.append(br[1].id)` that `__call__` appends to that list, and `__call__` itself (the callback list extended by the closure for the
duration of the traversal, `x.traverse(leave=self._leave)` through the generated traversal, the generated `to_subtree`).

What the source does (stated by the theorems below through `Sub.cutShortTip` / `C06.tipRemoved` / `RefineShortTip.tipBranches`):
* a tip returns `(0, tip)`; a node with exactly ONE child whose value is not `None` adds the edge length and passes the chain up;
* every other node — a furcation, or a node whose only child returned `None` — examines each child value that is not `None`: a child whose
  unbranched chain down to a tip, measured from THIS node, is not longer than the threshold is reported (the callbacks are called with the
  branch `[this node, child, …, tip]`; the recording lambda appends the child's id to `removals`), and the node itself returns `None`;
* hence NO CASCADE: a furcation never passes a chain up, so a furcation all of whose short children were removed stays in the result (as a
  tip, or as a continuation) even when the chain through it is short — see the kernel-evaluated example below. -/
namespace C06
open Sub Gen.Algo Trav RefineShortTip

/-- **the translated `CutShortTipBranch.__call__` equals the model `Sub.cutShortTip`** on every tree table, for every threshold, edge-length
function and list of stateful user callbacks; the final callback state is the callbacks folded, in list order, over the reported branches -/
theorem generated_cutShortTip_eq_model {σ : Type} [Inhabited σ] (pids : List Int) (r : Rose) (h : IsTree r pids) (elen : Int → Int) (thre : Int)
    (ucbs : List (σ → List Int → σ)) (s0 : σ) (F : Nat) :
    cut_short_tip (tot ucbs) (fun _ c => elen c) (2 * r.size + F + 1) (rangeI pids.length) pids thre s0 =
      (cutShortTip pids elen thre).map (fun t =>
        ((tipBranches elen thre r).foldl (callUser ucbs) s0, ((Py.range (t.mapping.length : Int), t.newPid), t.mapping))) :=
  cutShortTip_refines pids r h elen thre ucbs s0 F

/-- … hence the translated `__call__` removes precisely `tipRemoved` (the children of a furcation whose hanging chain reaches a tip without
another furcation and is, measured from the furcation, not longer than the threshold) and what lies below them
(`cutShortTip_removed` transported to the generated code) -/
theorem generated_cutShortTip_removed {σ : Type} [Inhabited σ] (pids : List Int) (r : Rose) (h : IsTree r pids) (elen : Int → Int) (thre : Int)
    (ucbs : List (σ → List Int → σ)) (s0 : σ) (F : Nat) :
    (cut_short_tip (tot ucbs) (fun _ c => elen c) (2 * r.size + F + 1) (rangeI pids.length) pids thre s0).map (·.2) =
      (toSubtree pids (tipRemoved elen thre r)).map (fun t => ((Py.range (t.mapping.length : Int), t.newPid), t.mapping)) := by
  rw [generated_cutShortTip_eq_model pids r h elen thre ucbs s0 F, cutShortTip_removed pids r h]
  cases toSubtree pids (tipRemoved elen thre r) <;> rfl

/-- **callbacks are called once per removed branch**: the removal seeds are exactly the second nodes of the branches the callbacks were
called with, in the same order.  The statement itself relates the two specification functions `tipRemoved` and `tipBranches`; no generated
term occurs in it — `generated_cutShortTip_eq_model` is what says that the generated code removes the former and calls back on the latter -/
theorem generated_cutShortTip_calls (elen : Int → Int) (thre : Int) (r : Rose) :
    tipRemoved elen thre r = (tipBranches elen thre r).map (fun b => b.getD 1 0) :=
  tipRemoved_eq elen thre r

/-- the translated `_leave` at one node of a tree object, given the values of the children's subtrees: the value of the node's subtree,
and one call of the callback list per short terminal chain hanging from the node -/
theorem generated_tipLeave_node {σ : Type} [Inhabited σ] (ucbs : List (σ → List Int → σ)) (N : Nat) (pids : List Int) (elen : Int → Int) (thre : Int)
    (i : Int) (G : Nat) (ks : List Rose) (c : σ)
    (hA : Agrees (tableKids (rangeI N) pids) (.node i ks)) (hin : ∀ j ∈ (Rose.node i ks).ids, 0 ≤ j ∧ j < (N : Int))
    (hs : (Rose.node i ks).size ≤ G) :
    tip_leave (tot ucbs) (fun _ c => elen c) G (rangeI N) pids thre i (ks.map (val elen)) c
      = some ((if ks.length ≥ 2 then ks.filterMap (brOf elen thre i) else []).foldl (callUser ucbs) c, val elen (.node i ks)) := by
  have hcb : CbOk (tot ucbs) (callUser ucbs) (fun _ => True) N := fun s _ _ _ _ _ _ => ⟨callAll_tot ucbs s _, trivial⟩
  exact (tipLeave_node (tot ucbs) (callUser ucbs) (fun _ => True) N pids elen thre hcb i G ks c hA hin hs trivial).1

/-! non-vacuity (kernel-evaluated, on `exPids = [-1, 0, 1, 1, 0]`, edge lengths `[0, 1, 1, 5, 1]`): the generated definitions run; the user
callback records the branches it is called with -/
def exElen : Int → Int := fun c => [0, 1, 1, 5, 1].getD c.toNat 0
def exRec : List (List (List Int) → List Int → List (List Int)) := [fun s br => s ++ [br]]
example : cut_short_tip (tot exRec) (fun _ c => exElen c) 11 (rangeI 5) exPids 2 []
    = some ([[1, 2], [0, 4]], (([0, 1, 2], [-1, 0, 1]), [0, 1, 3])) := by decide +kernel
example : tipBranches exElen 2 exRose = [[1, 2], [0, 4]] := by decide +kernel
example : tipRemoved exElen 2 exRose = [2, 4] := by decide +kernel
-- no callback at all (what `__init__` leaves without `callback=`)
example : cut_short_tip (σ := Unit) [] (fun _ c => exElen c) 11 (rangeI 5) exPids 2 ()
    = some ((), (([0, 1, 2], [-1, 0, 1]), [0, 1, 3])) := by decide +kernel
-- NO CASCADE: all edges of length 1, threshold 1: both children of node 1 and node 4 are removed; node 1 stays, although it is now a tip
-- hanging from the furcation 0 by an edge of length 1
example : cut_short_tip (tot exRec) (fun _ _ => (1 : Int)) 11 (rangeI 5) exPids 1 []
    = some ([[1, 2], [1, 3], [0, 4]], (([0, 1], [-1, 0]), [0, 1])) := by decide +kernel
-- `_leave` at the furcation 1 of the example, given its children's values
example : tip_leave (tot exRec) (fun _ c => exElen c) 11 (rangeI 5) exPids 2 1 [some (0, 2), some (0, 3)] []
    = some ([[1, 2]], none) := by decide +kernel
-- a handle outside the table raises (outside the theorems' domain)
example : tip_leave (tot exRec) (fun _ c => exElen c) 11 (rangeI 5) exPids 2 1 [some (0, 9), some (0, 3)] [] = none := by decide +kernel

/-! ## `to_subtree_impl` (tree_utils_impl.py): the gather of every column by the kept rows

The tree and the returned `ndata` dictionary are their column variables (`id`, `pid`, `type` and `x`, the latter over a type parameter standing
for every further attribute column: the comprehension `{k: swc_like.get_ndata(k)[mapping].copy() for k in swc_like.keys()}` is translated
column by column); `source` / `names` are opaque values; `out_mapping` is a list. -/

/-- the translated `to_subtree_impl` on a marked topology over a tree with `N` rows: the model's compaction (`KeyError` exactly when the model
fails), ids `0..k−1`, the model's parents, every further column gathered at the kept rows in order, `out_mapping` = the mapping, `source` /
`names` handed on, input columns unchanged -/
theorem generated_toSubtreeImpl_eq_model {A Src Nm : Type} [Inhabited A] [Inhabited Src] [Inhabited Nm]
    (N : Nat) (ids pids types : List Int) (xs : List A) (src : Src) (nm : Nm) (subId subPid out0 : List Int)
    (h1 : ids.length = N) (h2 : pids.length = N) (h3 : types.length = N) (h4 : xs.length = N)
    (hl : subId.length = subPid.length)
    (hnd : (((List.zip subId subPid).filter (fun ip => !decide (ip.1 = -2))).map (·.1)).Nodup)
    (hin : ∀ i ∈ subId, i ≠ REMOVAL → 0 ≤ i ∧ i.toNat < N) :
    to_subtree_impl ids pids types xs src nm (subId, subPid) out0 =
      (toSubTopology subId subPid).map fun r =>
        (r.mapping, ids, pids, types, xs,
          ((r.mapping.length : Int), (Py.range (r.mapping.length : Int), r.newPid, takeRows types r.mapping, takeRows xs r.mapping), src, nm)) :=
  toSubtreeImpl_refines N ids pids types xs src nm subId subPid out0 h1 h2 h3 h4 hl hnd hin

-- non-vacuity: row 2 (marked) is dropped; `out_mapping` [7, 7] is cleared first; a kept row whose parent was dropped raises (KeyError)
def exImpl := to_subtree_impl (A := String) (rangeI 5) exPids [1, 3, 2, 3, 3] ["a", "b", "c", "d", "e"] "file.swc" (0 : Nat) ([0, 1, -2, 3, 4], exPids) [7, 7]
example : exImpl.map (fun r => (r.1, r.2.2.2.2.2.1)) = some ([0, 1, 3, 4], 4) := by decide +kernel
example : exImpl.map (fun r => r.2.2.2.2.2.2.1) = some ([0, 1, 2, 3], [-1, 0, 1, 0], [1, 3, 3, 3], ["a", "b", "d", "e"]) := by decide +kernel
example : exImpl.map (fun r => (r.2.1, r.2.2.1, r.2.2.2.1, r.2.2.2.2.1)) = some (rangeI 5, exPids, [1, 3, 2, 3, 3], ["a", "b", "c", "d", "e"]) := by
  decide +kernel
example : exImpl.map (fun r => r.2.2.2.2.2.2.2) = some ("file.swc", 0) := by decide +kernel
example : to_subtree_impl (A := String) (rangeI 5) exPids [1, 3, 2, 3, 3] ["a", "b", "c", "d", "e"] "file.swc" (0 : Nat) ([0, -2, 2, 3, 4], exPids) [] = none := by
  decide +kernel

/-! ## `to_subtree`, `get_subtree_impl` / `get_subtree`, `to_sub_tree` on ALL columns (they call the translated `to_subtree_impl`) -/

/-- the translated `to_subtree` over all columns equals the model `toSubtree` + the gather of every column; inputs unchanged -/
theorem generated_toSubtreeTree_eq_model {A Src Nm : Type} [Inhabited A] [Inhabited Src] [Inhabited Nm]
    (pids types : List Int) (xs : List A) (src : Src) (nm : Nm) (r : Rose) (h : IsTree r pids) (rm : List Int)
    (hrm : ∀ i ∈ rm, 0 ≤ i ∧ i.toNat < pids.length) (h3 : types.length = pids.length) (h4 : xs.length = pids.length) (out0 : List Int) (F : Nat) :
    to_subtree_tree (2 * r.size + F + 1) (rangeI pids.length) pids types xs src nm rm out0 =
      (toSubtree pids rm).map fun t =>
        (t.mapping, rangeI pids.length, pids, types, xs,
          ((t.mapping.length : Int), (Py.range (t.mapping.length : Int), t.newPid, takeRows types t.mapping, takeRows xs t.mapping), src, nm)) :=
  toSubtreeTree_refines pids types xs src nm r h rm hrm h3 h4 out0 F

/-- the translated `get_subtree` over all columns equals the model `getSubtree` + the gather of every column; inputs unchanged -/
theorem generated_getSubtreeTree_eq_model {A Src Nm : Type} [Inhabited A] [Inhabited Src] [Inhabited Nm]
    (pids types : List Int) (xs : List A) (src : Src) (nm : Nm) (s : Rose)
    (h : Represents s (rangeI pids.length) pids) (hin : ∀ i ∈ s.ids, 0 ≤ i ∧ i.toNat < pids.length)
    (h3 : types.length = pids.length) (h4 : xs.length = pids.length) (out0 : List Int) (F : Nat) :
    get_subtree_tree (2 * s.size + F + 1) (rangeI pids.length) pids types xs src nm s.id out0 =
      (getSubtree pids s.id).map fun r =>
        (r.mapping, rangeI pids.length, pids, types, xs,
          ((r.mapping.length : Int), (Py.range (r.mapping.length : Int), r.newPid, takeRows types r.mapping, takeRows xs r.mapping), src, nm)) :=
  getSubtreeTree_refines pids types xs src nm s h hin h3 h4 out0 F

/-- the translated deprecated wrapper `to_sub_tree` equals the model `toSubtree` + the gather + the old→new dictionary -/
theorem generated_toSubTree_eq_model {A Src Nm : Type} [Inhabited A] [Inhabited Src] [Inhabited Nm]
    (pids types : List Int) (xs : List A) (src : Src) (nm : Nm) (r : Rose) (h : IsTree r pids) (rm l : List Int)
    (hrm : ∀ i ∈ rm, 0 ≤ i ∧ i.toNat < pids.length) (hl : RefineCut.markAll (rangeI pids.length) rm = some l)
    (h3 : types.length = pids.length) (h4 : xs.length = pids.length) (F : Nat) :
    to_sub_tree (2 * r.size + F + 1) (rangeI pids.length) pids types xs src nm (l, pids) =
      (toSubtree pids rm).map fun t =>
        (rangeI pids.length, pids, types, xs,
          (((t.mapping.length : Int), (Py.range (t.mapping.length : Int), t.newPid, takeRows types t.mapping, takeRows xs t.mapping), src, nm),
           idMapOf t.mapping)) :=
  toSubTree_refines pids types xs src nm r h rm l hrm hl h3 h4 F

-- non-vacuity (exPids = [-1, 0, 1, 1, 0]): remove node 1 (and its descendants 2, 3); subtree at node 1; the deprecated wrapper on marks [0,-2,2,3,4]
def exCols : List String := ["a", "b", "c", "d", "e"]
example : (to_subtree_tree (A := String) 11 (rangeI 5) exPids [1, 3, 2, 3, 3] exCols "f" (0 : Nat) [1] [9]).map (fun r => (r.1, r.2.2.2.2.2.2.1))
    = some ([0, 4], ([0, 1], [-1, 0], [1, 3], ["a", "e"])) := by decide +kernel
example : (get_subtree_tree (A := String) 11 (rangeI 5) exPids [1, 3, 2, 3, 3] exCols "f" (0 : Nat) 1 [9]).map (fun r => (r.1, r.2.2.2.2.2.2.1))
    = some ([1, 3, 2], ([0, 1, 2], [-1, 0, 0], [3, 3, 2], ["b", "d", "c"])) := by decide +kernel
example : (to_sub_tree (A := String) 11 (rangeI 5) exPids [1, 3, 2, 3, 3] exCols "f" (0 : Nat) ([0, -2, 2, 3, 4], exPids)).map (fun r => (r.2.2.2.2.1.2.1, r.2.2.2.2.2))
    = some (([0, 1], [-1, 0], [1, 3], ["a", "e"]), [(0, 0), (4, 1)]) := by decide +kernel

end C06
