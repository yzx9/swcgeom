import SwcVerif.Props.C12Gen
import SwcVerif.Refine.Rodrigues
import Mathlib.Tactic.LinearCombination
/-! # C12: the general-axis rotation `rotate3d` and the camera helpers, tied to the source by the imperative translator

`Gen/AlgoRodrigues.lean` is regenerated on every run from `swcgeom/utils/transforms.py::rotate3d / _to_homogeneous /
model_view_transformation / orthographic_projection_simple`.  `RefineRodrigues.rotate3d_refines` proves the generated `rotate3d` equal to
the Rodrigues matrix `Gen.Mat.rotate3d` (which `18_affine.py` hands to `Rotate.__init__` as the parameter `rot`): here the theorems
about `Rotate(n, θ)` are restated with the GENERATED matrix. -/
namespace C12
open Gen.Mat Gen.Affine Gen.Algo RefineAffine RefineRodrigues

variable {K : Type} [Field K] [LinearOrder K] [Inhabited K]

/-- **`Rotate(n, θ, center=c)(tree)` as translated, with `rotate3d(n, θ)` as translated** (`n` any array with ≥ 3 entries; only
`n[0:3]` is read): `rotate3d` returns a matrix and every node is moved by it about the stated centre -/
theorem generated_rotate_rodrigues (F : Py.Fld K) (hF : ∀ a b : K, F.div a b = a / b) (nx ny nz c s : K) (rest : List K) (cen : String)
    (ids pids types : List Int) (rs : List K) (pts : List (Pt K)) (root : Pt K) (h : HasRoot pids pts root) :
    ∃ rot, rd_rotate3d (nx :: ny :: nz :: rest) c s = some rot ∧
      runObj F (rotate_init rot cen []) (treeOf ids pids types pts rs)
        = some (treeOf ids pids types (pts.map (rotMap rot cen root)) rs) :=
  ⟨_, rotate3d_refines nx ny nz c s rest, generated_rotate F hF nx ny nz c s cen ids pids types rs pts root h⟩

/-- **the GENERATED Rodrigues matrix is rigid**: unit axis, `c² + s² = 1`, rotation about the origin: all inter-node distances are
preserved (the matrix is orthogonal) and every point `t·n` of the axis is fixed -/
theorem rodrigues_generated_rigid (nx ny nz c s : K) (rest : List K) (hn : nx * nx + ny * ny + nz * nz = 1) (hcs : c * c + s * s = 1)
    (cen : String) (hc : ¬ (cen = "root" ∨ cen = "soma")) (root : Pt K) :
    ∃ rot, rd_rotate3d (nx :: ny :: nz :: rest) c s = some rot ∧
      (∀ p q : Pt K, d2 (rotMap rot cen root p) (rotMap rot cen root q) = d2 p q) ∧
      (∀ t : K, rotMap rot cen root (t * nx, t * ny, t * nz) = (t * nx, t * ny, t * nz)) :=
  ⟨_, rotate3d_refines nx ny nz c s rest, rotMap_rodrigues_rigid nx ny nz c s hn hcs cen hc root⟩

/-- the generated Rodrigues matrix turns by the stated angle in the right-handed sense: about the z axis it IS `rotate3d_z` -/
theorem rodrigues_generated_z (c s : K) : rd_rotate3d [0, 0, 1] c s = some (rotate3d_z c s) := by
  rw [rotate3d_refines, rotate3d_eq_aff]; simp [aff, rotate3d_z]

/-! ### model / view -/

/-- **`model_view_transformation` as translated maps the camera position to the origin** (any look-at / up with non-zero norms) -/
theorem model_view_position (F : Py.Fld K) (hF : ∀ a b : K, F.div a b = a / b) (ex ey ez gx gy gz ux uy uz ng nt : K)
    (hg : ng ≠ 0) (ht : nt ≠ 0) :
    ∃ M, rd_model_view F [ex, ey, ez] [gx, gy, gz] [ux, uy, uz] ng nt = some M ∧ applyPoint M ex ey ez = (0, 0, 0) :=
  ⟨_, model_view_refines F hF ex ey ez gx gy gz ux uy uz ng nt hg ht, (applyPoint_mmul_aff ..).trans (by simp [applyPoint_aff])⟩

/-- the rotation block `viewRot g t` (rows `g × t`, `t`, `−g`) is orthonormal when `g`, `t` are unit vectors AND `g ⟂ t` — the
source normalises `look_at` and `up` but does NOT make them perpendicular: that is a precondition on the caller -/
theorem viewRot_orthonormal (g t : Pt K) (hg : g.1 * g.1 + g.2.1 * g.2.1 + g.2.2 * g.2.2 = 1)
    (ht : t.1 * t.1 + t.2.1 * t.2.1 + t.2.2 * t.2.2 = 1) (hgt : g.1 * t.1 + g.2.1 * t.2.1 + g.2.2 * t.2.2 = 0) :
    let row := fun i : Nat => (viewRot g t).getD i []
    dotK (row 0) (row 0) = 1 ∧ dotK (row 1) (row 1) = 1 ∧ dotK (row 2) (row 2) = 1 ∧
      dotK (row 0) (row 1) = 0 ∧ dotK (row 0) (row 2) = 0 ∧ dotK (row 1) (row 2) = 0 := by
  obtain ⟨g0, g1, g2⟩ := g
  obtain ⟨t0, t1, t2⟩ := t
  simp only at hg ht hgt
  simp only [viewRot, List.getD_cons_zero, List.getD_cons_succ, dotK4]
  -- `|g × t|² = |g|²|t|² − (g·t)²` (Lagrange); `g × t` is perpendicular to both
  refine ⟨?_, ?_, ?_, by ring, by ring, ?_⟩
  · linear_combination (t0 * t0 + t1 * t1 + t2 * t2) * hg + ht - (g0 * t0 + g1 * t1 + g2 * t2) * hgt
  · linear_combination ht
  · linear_combination hg
  · linear_combination -hgt

/-! ### kernel-evaluated examples over ℚ -/
example : rd_rotate3d [(0 : ℚ), 0, 1, 7] 0 1 = some [[0, -1, 0, 0], [1, 0, 0, 0], [0, 0, 1, 0], [0, 0, 0, 1]] := by decide +kernel
example : rd_rotate3d [(0 : ℚ), 1] 0 1 = none := by decide +kernel
example : rd_to_homogeneous2 [[(1 : ℚ), 2, 3], [4, 5, 6]] 1 = some [[1, 2, 3, 1], [4, 5, 6, 1]] := by decide +kernel
example : rd_to_homogeneous2 [[(1 : ℚ), 2]] 1 = none := by decide +kernel
example : rd_model_view Py.ratFld [(1 : ℚ), 2, 3] [0, 0, -2] [0, 3, 0] 2 3
    = some [[1, 0, 0, -1], [0, 1, 0, -2], [0, 0, 1, -3], [0, 0, 0, 1]] := by decide +kernel
end C12
