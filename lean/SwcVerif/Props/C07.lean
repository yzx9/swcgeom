import SwcVerif.Model.Redirect
import SwcVerif.Proofs.Redirect
import SwcVerif.Refine.PyRun
/-! # C07 — re-rooting and concatenation preserve structure and geometry

Theorems about the models `Redir.redirect` / `Redir.catPre` (`Model/Redirect.lean`, tied to the code by the
`c07.redirect` — all (tree, node) pairs of small trees — and `c07.cat` correspondence).  A tree is its
parent list (ids = positions, node 0 the root).  The final `_sort_tree` of both operations is C05's
relabelling (`SortM.sortNodesImpl`), which preserves the parent relation and all columns. -/
namespace C07
open Redir

/-- well-formed parent list: node 0 is the root, every other parent is a node, every node reaches 0 -/
def WF (pids : List Int) : Prop :=
  pids.head? = some (-1) ∧
  (∀ k (h : k < pids.length), 0 < k → 0 ≤ pids[k] ∧ pids[k] < pids.length) ∧
  (∀ k, k < pids.length → (rootPath pids pids.length (k : Int)).getLast? = some 0)

/-! ### consequences of `WF` -/
theorem WF.root {pids : List Int} (hw : WF pids) : pids[0]? = some (-1) := by
  have := hw.1; rwa [List.head?_eq_getElem?] at this

theorem WF.pos {pids : List Int} (hw : WF pids) : 0 < pids.length := by
  have := hw.root
  cases pids with
  | nil => simp at this
  | cons a l => simp

theorem WF.par_root {pids : List Int} (hw : WF pids) : pids.getD (0 : Int).toNat (-1) = -1 := by
  simp [List.getD_eq_getElem?_getD, hw.root]

theorem WF.toWFr {pids : List Int} (hw : WF pids) : Pipeline.WFr pids 0 :=
  ⟨hw.root, fun k h hk => hw.2.1 k h (by omega), fun k hk => by simpa using hw.2.2 k hk⟩

theorem WF.par_valid' {pids : List Int} (hw : WF pids) (v : Int) (h0 : 0 < v) (hv : v < pids.length) :
    0 ≤ pids.getD v.toNat (-1) ∧ pids.getD v.toNat (-1) < pids.length :=
  hw.toWFr.par_valid' v (by omega) (by omega) hv

theorem WF.ofWFr {pids : List Int} (h : Pipeline.WFr pids 0) : WF pids :=
  ⟨by rw [List.head?_eq_getElem?]; exact h.root, fun k hk h0 => h.valid k hk (by omega),
    fun k hk => by simpa using h.reach k hk⟩

/-- the root path of a node other than the root is the node followed by the root path of its parent -/
theorem WF.path_cons {pids : List Int} (hw : WF pids) (v : Int) (h0 : 0 < v) (hv : v < pids.length) :
    rootPath pids pids.length v = v :: rootPath pids pids.length (pids.getD v.toNat (-1)) :=
  hw.toWFr.path_cons v (by omega) (by omega) hv

/-- along any walk the depth (length of the full root path) does not increase, so no node repeats -/
theorem WF.walk {pids : List Int} (hw : WF pids) : ∀ (f : Nat) (v : Int), 0 ≤ v → v < pids.length →
    (∀ w ∈ rootPath pids f v, 0 ≤ w ∧ w < pids.length ∧
        (rootPath pids pids.length w).length ≤ (rootPath pids pids.length v).length) ∧
    (rootPath pids f v).Nodup :=
  hw.toWFr.walk

/-- the root path of a node: starts at the node, ends at the root, each element is followed by its parent,
and no node occurs twice -/
theorem rootPath_spec (pids : List Int) (hw : WF pids) (k : Nat) (hk : k < pids.length) :
    let path := rootPath pids pids.length (k : Int)
    path.head? = some (k : Int) ∧ path.getLast? = some 0 ∧ path.Nodup ∧
    (∀ v ∈ path, 0 ≤ v ∧ v < pids.length) ∧
    (∀ i (h : i + 1 < path.length), pids.getD (path[i]'(by omega)).toNat (-1) = path[i+1]) := by
  intro path
  have hwalk := hw.walk pids.length (k : Int) (by omega) (by omega)
  refine ⟨rp_head _ _ _, hw.2.2 k hk, hwalk.2, ?_, ?_⟩
  · intro v hv; have := hwalk.1 v hv; exact ⟨this.1, this.2.1⟩
  · intro i h; exact rp_chain pids pids.length (k : Int) i h

/-- **what re-rooting does to the parent pointers**: the new root loses its parent, every parent pointer
on the root path is reversed, every node off the path keeps its parent -/
theorem redirect_pids (pids types : List Int) (hw : WF pids) (k : Nat) (hk : k < pids.length) :
    let path := rootPath pids pids.length (k : Int)
    let r := redirect pids types (k : Int)
    r.pids.length = pids.length ∧
    r.pids.getD k 0 = -1 ∧
    (∀ i (h : i + 1 < path.length), r.pids.getD (path[i+1]).toNat 0 = path[i]'(by omega)) ∧
    (∀ v, v < pids.length → (v : Int) ∉ path → r.pids.getD v 0 = pids.getD v 0) := by
  intro path r
  obtain ⟨hhead, hlast, hnd, hval, hchain⟩ := rootPath_spec pids hw k hk
  have hr : r.pids = reversePath (setAt pids k (-1)) path := rfl
  obtain ⟨tl, htl⟩ : ∃ tl, path = (k : Int) :: tl := ⟨_, rp_eq_cons _ _ _⟩
  have hkmem : (k : Int) ∈ path := by rw [htl]; simp
  refine ⟨?_, ?_, ?_, ?_⟩
  · exact (redirect_lengths _ _ _).1
  · rw [hr, List.getD_eq_getElem?_getD, reversePath_frame, setAt_getElem?_self _ _ _ hk]
    · rfl
    · have := hnd
      change path.Nodup at this
      rw [htl] at this ⊢
      exact (List.nodup_cons.mp this).1
  · intro i h
    rw [hr, List.getD_eq_getElem?_getD, reversePath_rev path _ hnd (by
      intro v hv; rw [setAt_length]; exact hval v hv) i h]
    rfl
  · intro v hv hnot
    rw [hr, List.getD_eq_getElem?_getD, List.getD_eq_getElem?_getD, reversePath_frame, setAt_getElem?_ne]
    · intro h; exact hnot (h ▸ hkmem)
    · intro h; exact hnot (List.mem_of_mem_tail h)

/-- reversing the pointers along a path keeps the edge set -/
theorem edges_abstract (pids r path : List Int)
    (hE1 : ∀ i (h : i + 1 < path.length), pids.getD (path[i]'(Nat.lt_of_succ_lt h)).toNat 0 = path[i+1])
    (hE1' : ∀ i (h : i < path.length), i + 1 = path.length → pids.getD (path[i]).toNat 0 = -1)
    (hE2 : ∀ i (h : i + 1 < path.length), r.getD (path[i+1]).toNat 0 = path[i]'(Nat.lt_of_succ_lt h))
    (hE2' : ∀ (h : 0 < path.length), r.getD (path[0]).toNat 0 = -1)
    (hE3 : ∀ v : Nat, v < pids.length → (v : Int) ∉ path → r.getD v 0 = pids.getD v 0)
    (u v : Nat) (hu : u < pids.length) (hv : v < pids.length) :
    (r.getD u 0 = (v : Int) ∨ r.getD v 0 = (u : Int)) ↔ (pids.getD u 0 = (v : Int) ∨ pids.getD v 0 = (u : Int)) := by
  have new_old : ∀ a b : Nat, a < pids.length → r.getD a 0 = (b : Int) → pids.getD b 0 = (a : Int) ∨ pids.getD a 0 = (b : Int) := by
    intro a b ha h
    by_cases hm : (a : Int) ∈ path
    · obtain ⟨i, hi, e⟩ := List.getElem_of_mem hm
      cases i with
      | zero =>
        have := hE2' hi
        rw [e, Int.toNat_natCast, h] at this
        omega
      | succ i =>
        have h1 := hE2 i hi
        have h2 := hE1 i hi
        rw [e, Int.toNat_natCast, h] at h1
        rw [← h1, Int.toNat_natCast, e] at h2
        exact Or.inl h2
    · exact Or.inr (hE3 a ha hm ▸ h)
  have old_new : ∀ a b : Nat, a < pids.length → pids.getD a 0 = (b : Int) → r.getD b 0 = (a : Int) ∨ r.getD a 0 = (b : Int) := by
    intro a b ha h
    by_cases hm : (a : Int) ∈ path
    · obtain ⟨i, hi, e⟩ := List.getElem_of_mem hm
      by_cases hi1 : i + 1 < path.length
      · have h1 := hE1 i hi1
        have h2 := hE2 i hi1
        rw [e, Int.toNat_natCast, h] at h1
        rw [← h1, Int.toNat_natCast, e] at h2
        exact Or.inl h2
      · have := hE1' i hi (by omega)
        rw [e, Int.toNat_natCast, h] at this
        omega
    · exact Or.inr ((hE3 a ha hm).trans h)
  exact ⟨fun h => h.elim (fun h => (new_old u v hu h).symm) (new_old v u hv),
    fun h => h.elim (fun h => (old_new u v hu h).symm) (old_new v u hv)⟩

/-- **the set of undirected edges is kept**: two distinct nodes are joined after re-rooting exactly when
they were joined before -/
theorem redirect_edges (pids types : List Int) (hw : WF pids) (k : Nat) (hk : k < pids.length)
    (u v : Nat) (hu : u < pids.length) (hv : v < pids.length) (huv : u ≠ v) :
    let r := redirect pids types (k : Int)
    (r.pids.getD u 0 = (v : Int) ∨ r.pids.getD v 0 = (u : Int)) ↔ (pids.getD u 0 = (v : Int) ∨ pids.getD v 0 = (u : Int)) := by
  intro r
  obtain ⟨hhead, hlast, hnd, hval, hchain⟩ := rootPath_spec pids hw k hk
  obtain ⟨hlen, hk1, hrev, hoff⟩ := redirect_pids pids types hw k hk
  refine edges_abstract pids r.pids (rootPath pids pids.length (k : Int)) ?_ ?_ hrev ?_ hoff u v hu hv
  · intro i h
    rw [← hchain i h]
    have := hval _ (List.getElem_mem (by omega : i < (rootPath pids pids.length (k : Int)).length))
    exact Py.getD_default _ _ _ (by omega)
  · intro i hi h
    rw [List.getLast?_eq_getElem?, show _ - 1 = i by omega, List.getElem?_eq_getElem hi] at hlast
    rw [Option.some.inj hlast]
    simp [List.getD_eq_getElem?_getD, hw.root]
  · intro h
    rw [rp_getElem_zero _ _ _ h]
    simpa using hk1

/-- **the requested node is the unique root** -/
theorem redirect_root (pids types : List Int) (hw : WF pids) (k : Nat) (hk : k < pids.length) (v : Nat) (hv : v < pids.length) :
    (redirect pids types (k : Int)).pids.getD v 0 = -1 ↔ v = k := by
  obtain ⟨hhead, hlast, hnd, hval, hchain⟩ := rootPath_spec pids hw k hk
  obtain ⟨hlen, hk1, hrev, hoff⟩ := redirect_pids pids types hw k hk
  constructor
  · intro h
    by_cases hm : (v : Int) ∈ rootPath pids pids.length (k : Int)
    · obtain ⟨i, hi, e⟩ := List.getElem_of_mem hm
      cases i with
      | zero =>
        have := rp_getElem_zero pids pids.length (k : Int) hi
        omega
      | succ i =>
        have h2 := hrev i hi
        rw [e] at h2; simp only [Int.toNat_natCast] at h2
        rw [h2] at h
        have := (hval _ (List.getElem_mem (by omega : i < (rootPath pids pids.length (k : Int)).length))).1
        omega
    · have hv0 : v ≠ 0 := fun h0 => hm (by subst h0; simpa using List.mem_of_getLast? hlast)
      have := (hw.2.1 v hv (by omega)).1
      rw [hoff v hv hm, List.getD_eq_getElem?_getD, List.getElem?_eq_getElem hv, Option.getD_some] at h
      omega
  · intro h; subst h; exact hk1

/-- **every attribute is kept; only the types of the old and the new root are exchanged** -/
theorem redirect_types (pids types : List Int) (hw : WF pids) (hl : types.length = pids.length) (k : Nat) (hk : k < pids.length)
    (v : Nat) (hv : v < pids.length) :
    (redirect pids types (k : Int)).types.getD v 0 =
      if v = k then types.getD 0 0 else if v = 0 then types.getD k 0 else types.getD v 0 := by
  simp only [redirect_of_last pids types k 0 (hw.2.2 k hk), Int.toNat_zero, Int.toNat_natCast, List.getD_eq_getElem?_getD,
    setAt_getElem? _ _ _ v, List.getElem?_eq_getElem (hl ▸ hv), Option.map_some, Int.natCast_eq_zero, Int.natCast_inj]
  by_cases hvk : v = k
  · subst hvk
    by_cases h0 : v = 0
    · subst h0; rfl
    · simp [h0]
  · by_cases h0 : v = 0
    · subst h0; simp [hvk]
    · simp [h0, hvk]

/-- re-rooting at the root changes nothing -/
theorem redirect_at_root (pids types : List Int) (hw : WF pids) (hl : types.length = pids.length) :
    redirect pids types 0 = ⟨pids, types⟩ := by
  have hp := rp_parentless pids 0 hw.par_root pids.length
  have ht : types[0]? = some (types.getD 0 0) := by
    rw [List.getD_eq_getElem?_getD, List.getElem?_eq_getElem (hl ▸ hw.pos)]; rfl
  rw [redirect_of_last pids types 0 0 (by rw [hp]; rfl), hp, reversePath_single]
  show (⟨setAt pids ((0 : Nat) : Int) (-1), setAt (setAt types ((0 : Nat) : Int) (types.getD 0 0)) ((0 : Nat) : Int) (types.getD 0 0)⟩ :
    Redirected) = _
  rw [setAt_eq_self hw.root, setAt_eq_self ht, setAt_eq_self ht]

/-! ## concatenation (before the final sort) -/
section cat
variable (p1 t1 x1 y1 z1 p2 t2 x2 y2 z2 : List Int) (node1 node2 : Nat) (translate : Bool)

/-- the second tree as it enters the concatenation: re-rooted at `node2` unless that already is its root -/
def second : Redirected := if p2.getD node2 (-1) = -1 then ⟨p2, t2⟩ else redirect p2 t2 (node2 : Int)

/-- the common translation vector of the second tree -/
def shift (a1 a2 : List Int) : Int := if translate then a2.getD node2 0 - a1.getD node1 0 else 0

/-- the junction nodes coincide after the (optional) translation -/
def Coincident : Prop :=
  let ex := (x2.getD node2 0 - shift node1 node2 translate x1 x2) - x1.getD node1 0
  let ey := (y2.getD node2 0 - shift node1 node2 translate y1 y2) - y1.getD node1 0
  let ez := (z2.getD node2 0 - shift node1 node2 translate z1 z2) - z1.getD node1 0
  ex * ex + ey * ey + ez * ez = 0

/-- with translation requested the chosen nodes coincide -/
theorem translate_coincides (h : translate = true) :
    Coincident x1 y1 z1 x2 y2 z2 node1 node2 translate := by
  have e : ∀ a b : Int, a - (a - b) - b = 0 := by intros; omega
  unfold Coincident shift
  simp [h, e]

theorem getD_app_left (a b : List Int) (i : Nat) (h : i < a.length) : (a ++ b).getD i 0 = a.getD i 0 := by
  simp [List.getD_eq_getElem?_getD, List.getElem?_append_left h]

theorem getD_app_right (a b : List Int) (n j : Nat) (h : a.length = n) : (a ++ b).getD (n + j) 0 = b.getD j 0 := by
  subst h
  simp [List.getD_eq_getElem?_getD, List.getElem?_append_right]

theorem ids_eq (n1 n2 : Nat) :
    (List.range n1).map Int.ofNat ++ (List.range n2).map (fun k => Int.ofNat k + (n1 : Int)) =
      (List.range (n1 + n2)).map Int.ofNat := by
  rw [List.range_add, List.map_append, List.map_map]
  congr 1
  apply List.map_congr_left
  intro k _
  simp; omega

theorem catTree_of_ok {res : SortM.Result}
    (h : SortM.sortNodesImpl (catPre p1 t1 x1 y1 z1 p2 t2 x2 y2 z2 (node1 : Int) (node2 : Int) translate).ids
      (catPre p1 t1 x1 y1 z1 p2 t2 x2 y2 z2 (node1 : Int) (node2 : Int) translate).pids = .ok res) :
    ∃ c', catTree p1 t1 x1 y1 z1 p2 t2 x2 y2 z2 (node1 : Int) (node2 : Int) translate = some (res.newPids, res.idMap, c') := by
  unfold catTree
  simp only
  rw [h]
  exact ⟨_, rfl⟩

theorem second_lengths : (second p2 t2 node2).pids.length = p2.length ∧ (second p2 t2 node2).types.length = t2.length := by
  unfold second
  split
  · exact ⟨rfl, rfl⟩
  · exact redirect_lengths _ _ _

/-- the parent column of the merged table before the junction row is deleted -/
theorem merged_pids (sp : List Int) (n2 : Nat) (hsp : sp.length = n2) :
    ((tableKids ((List.range n2).map Int.ofNat) sp (node2 : Int)).map (· + (p1.length : Int))).foldl
        (fun ps n => setAt ps n (node1 : Int)) (p1 ++ sp.map (· + (p1.length : Int))) =
      p1 ++ sp.map (fun v => if v = (node2 : Int) then (node1 : Int) else v + (p1.length : Int)) := by
  have hmem : ∀ m : Nat, ((m : Int) ∈ (tableKids ((List.range n2).map Int.ofNat) sp (node2 : Int)).map (· + (p1.length : Int))) ↔
      p1.length ≤ m ∧ sp[m - p1.length]? = some (node2 : Int) := by
    intro m
    rw [List.mem_map]
    constructor
    · rintro ⟨a, ha, e⟩
      obtain ⟨j, _, rfl, hq⟩ := (mem_tableKids_range _ _ _ _).1 ha
      obtain rfl : m = p1.length + j := by omega
      exact ⟨Nat.le_add_right _ _, by rw [Nat.add_sub_cancel_left]; exact hq⟩
    · rintro ⟨hle, hq⟩
      exact ⟨_, (mem_tableKids_range _ _ _ _).2 ⟨m - p1.length, hsp ▸ (List.getElem?_eq_some_iff.1 hq).1, rfl, hq⟩, by omega⟩
  apply List.ext_getElem?
  intro i
  simp only [foldl_setAt_getElem?, hmem]
  by_cases hi : i < p1.length
  · rw [if_neg (fun h => by omega), List.getElem?_append_left hi, List.getElem?_append_left hi]
  · have hi : p1.length ≤ i := by omega
    rw [List.getElem?_append_right hi, List.getElem?_append_right hi, List.getElem?_map, List.getElem?_map]
    cases sp[i - p1.length]? with
    | none => simp
    | some v => by_cases hv : v = (node2 : Int) <;> simp [hi, hv]

section
variable {p1 t1 x1 y1 z1 p2 t2 x2 y2 z2 node1 node2 translate}

theorem catPre_sep (h2 : t2.length = p2.length ∧ x2.length = p2.length ∧ y2.length = p2.length ∧ z2.length = p2.length)
    (hn2 : node2 < p2.length)
    (hc : ¬ Coincident x1 y1 z1 x2 y2 z2 node1 node2 translate) :
    catPre p1 t1 x1 y1 z1 p2 t2 x2 y2 z2 (node1 : Int) (node2 : Int) translate =
      ⟨(List.range (p1.length + p2.length)).map Int.ofNat,
       setAt (p1 ++ (second p2 t2 node2).pids.map (· + (p1.length : Int))) ((node2 : Int) + p1.length) (node1 : Int),
       x1 ++ x2.map (· - shift node1 node2 translate x1 x2),
       y1 ++ y2.map (· - shift node1 node2 translate y1 y2),
       z1 ++ z2.map (· - shift node1 node2 translate z1 z2),
       t1 ++ (second p2 t2 node2).types⟩ := by
  unfold Coincident shift at hc
  unfold catPre
  simp only [Int.toNat_natCast, Py.getD_map _ _ 0 _ (h2.2.1 ▸ hn2), Py.getD_map _ _ 0 _ (h2.2.2.1 ▸ hn2),
    Py.getD_map _ _ 0 _ (h2.2.2.2 ▸ hn2)]
  dsimp only at hc
  rw [if_neg hc, if_neg hc]
  unfold second shift
  simp only [List.foldl_cons, List.foldl_nil, ids_eq]

theorem catPre_merged (h2 : t2.length = p2.length ∧ x2.length = p2.length ∧ y2.length = p2.length ∧ z2.length = p2.length)
    (hn2 : node2 < p2.length)
    (hc : Coincident x1 y1 z1 x2 y2 z2 node1 node2 translate) :
    catPre p1 t1 x1 y1 z1 p2 t2 x2 y2 z2 (node1 : Int) (node2 : Int) translate =
      ⟨List.eraseIdx ((List.range (p1.length + p2.length)).map Int.ofNat) (node2 + p1.length),
       List.eraseIdx (p1 ++ (second p2 t2 node2).pids.map
          (fun v => if v = (node2 : Int) then (node1 : Int) else v + (p1.length : Int))) (node2 + p1.length),
       List.eraseIdx (x1 ++ x2.map (· - shift node1 node2 translate x1 x2)) (node2 + p1.length),
       List.eraseIdx (y1 ++ y2.map (· - shift node1 node2 translate y1 y2)) (node2 + p1.length),
       List.eraseIdx (z1 ++ z2.map (· - shift node1 node2 translate z1 z2)) (node2 + p1.length),
       List.eraseIdx (t1 ++ (second p2 t2 node2).types) (node2 + p1.length)⟩ := by
  simp only [← eraseAt_eq_eraseIdx]
  rw [← merged_pids p1 node1 node2 _ _ (second_lengths p2 t2 node2).1, ← ids_eq]
  unfold Coincident shift at hc
  unfold catPre
  have hk : ((node2 : Int) + (p1.length : Int)).toNat = node2 + p1.length := by omega
  simp only [Int.toNat_natCast, Py.getD_map _ _ 0 _ (h2.2.1 ▸ hn2), Py.getD_map _ _ 0 _ (h2.2.2.1 ▸ hn2),
    Py.getD_map _ _ 0 _ (h2.2.2.2 ▸ hn2), hk]
  dsimp only at hc
  rw [if_pos hc, if_pos hc]
  unfold second shift
  rfl

end

/-- **non-coincident junction**: the table is tree 1 unchanged, followed by tree 2 with ids and parents
shifted by `|tree1|`, positions translated by one common vector (zero without translation), and the
single new edge `node2 → node1`; no other edge is added or lost -/
theorem cat_separate (h1 : t1.length = p1.length ∧ x1.length = p1.length ∧ y1.length = p1.length ∧ z1.length = p1.length)
    (h2 : t2.length = p2.length ∧ x2.length = p2.length ∧ y2.length = p2.length ∧ z2.length = p2.length)
    (hn1 : node1 < p1.length) (hn2 : node2 < p2.length) (hw2 : WF p2)
    (hc : ¬ Coincident x1 y1 z1 x2 y2 z2 node1 node2 translate) :
    let c := catPre p1 t1 x1 y1 z1 p2 t2 x2 y2 z2 (node1 : Int) (node2 : Int) translate
    let s := second p2 t2 node2
    c.ids = (List.range (p1.length + p2.length)).map Int.ofNat ∧
    c.pids.length = p1.length + p2.length ∧
    (∀ i, i < p1.length → c.pids.getD i 0 = p1.getD i 0 ∧ c.x.getD i 0 = x1.getD i 0 ∧ c.y.getD i 0 = y1.getD i 0 ∧
        c.z.getD i 0 = z1.getD i 0 ∧ c.types.getD i 0 = t1.getD i 0) ∧
    (∀ j, j < p2.length → j ≠ node2 → c.pids.getD (p1.length + j) 0 = s.pids.getD j 0 + p1.length) ∧
    c.pids.getD (p1.length + node2) 0 = (node1 : Int) ∧
    (∀ j, j < p2.length →
        c.x.getD (p1.length + j) 0 = x2.getD j 0 - shift node1 node2 translate x1 x2 ∧
        c.y.getD (p1.length + j) 0 = y2.getD j 0 - shift node1 node2 translate y1 y2 ∧
        c.z.getD (p1.length + j) 0 = z2.getD j 0 - shift node1 node2 translate z1 z2 ∧
        c.types.getD (p1.length + j) 0 = s.types.getD j 0) := by
  intro c s
  rw [show c = _ from catPre_sep h2 hn2 hc]
  obtain ⟨ht1, hx1, hy1, hz1⟩ := h1
  obtain ⟨ht2, hx2, hy2, hz2⟩ := h2
  have hsl : s.pids.length = p2.length := (second_lengths p2 t2 node2).1
  refine ⟨rfl, ?_, ?_, ?_, ?_, ?_⟩
  · rw [setAt_length, List.length_append, List.length_map, hsl]
  · intro i hi
    refine ⟨?_, getD_app_left _ _ _ (hx1 ▸ hi), getD_app_left _ _ _ (hy1 ▸ hi), getD_app_left _ _ _ (hz1 ▸ hi),
      getD_app_left _ _ _ (ht1 ▸ hi)⟩
    rw [List.getD_eq_getElem?_getD, setAt_getElem?, if_neg (by omega), ← List.getD_eq_getElem?_getD, getD_app_left _ _ _ hi]
  · intro j hj hjn
    rw [List.getD_eq_getElem?_getD, setAt_getElem?, if_neg (by omega), ← List.getD_eq_getElem?_getD,
      getD_app_right _ _ _ _ rfl, Py.getD_map _ _ 0 _ (hsl ▸ hj)]
  · rw [List.getD_eq_getElem?_getD, setAt_getElem?, if_pos (by omega), List.getElem?_append_right (Nat.le_add_right _ _),
      Nat.add_sub_cancel_left, List.getElem?_map, List.getElem?_eq_getElem (hsl ▸ hn2)]
    rfl
  · intro j hj
    exact ⟨by rw [getD_app_right _ _ _ _ hx1, Py.getD_map _ _ 0 _ (hx2 ▸ hj)],
      by rw [getD_app_right _ _ _ _ hy1, Py.getD_map _ _ 0 _ (hy2 ▸ hj)],
      by rw [getD_app_right _ _ _ _ hz1, Py.getD_map _ _ 0 _ (hz2 ▸ hj)], getD_app_right _ _ _ _ ht1⟩

theorem eraseIdx_getD_row (l : List Int) (n1 j : Nat) (hne : j ≠ node2) :
    (l.eraseIdx (node2 + n1)).getD (if j < node2 then n1 + j else n1 + j - 1) 0 = l.getD (n1 + j) 0 := by
  rw [List.getD_eq_getElem?_getD, List.getD_eq_getElem?_getD, List.getElem?_eraseIdx]
  by_cases h : j < node2
  · rw [if_pos h, if_pos (by omega)]
  · rw [if_neg h, if_neg (by omega), show n1 + j - 1 + 1 = n1 + j by omega]

/-- **coincident junction nodes are merged into one**: tree 2's junction row is deleted, its children hang
from `node1`, every other row is as in the non-coincident case (rows after the deleted one move up by one); stated for
the id, parent and `x` columns -/
theorem cat_merged (h1 : t1.length = p1.length ∧ x1.length = p1.length ∧ y1.length = p1.length ∧ z1.length = p1.length)
    (h2 : t2.length = p2.length ∧ x2.length = p2.length ∧ y2.length = p2.length ∧ z2.length = p2.length)
    (hn1 : node1 < p1.length) (hn2 : node2 < p2.length) (hw2 : WF p2)
    (hc : Coincident x1 y1 z1 x2 y2 z2 node1 node2 translate) :
    let c := catPre p1 t1 x1 y1 z1 p2 t2 x2 y2 z2 (node1 : Int) (node2 : Int) translate
    let s := second p2 t2 node2
    let row := fun (j : Nat) => if j < node2 then p1.length + j else p1.length + j - 1      -- where tree 2's node j ends up
    c.pids.length = p1.length + p2.length - 1 ∧
    (∀ i, i < p1.length → c.ids.getD i 0 = (i : Int) ∧ c.pids.getD i 0 = p1.getD i 0 ∧ c.x.getD i 0 = x1.getD i 0) ∧
    (∀ j, j < p2.length → j ≠ node2 →
        c.ids.getD (row j) 0 = ((p1.length + j : Nat) : Int) ∧
        c.pids.getD (row j) 0 = (if s.pids.getD j 0 = (node2 : Int) then (node1 : Int) else s.pids.getD j 0 + p1.length) ∧
        c.x.getD (row j) 0 = x2.getD j 0 - shift node1 node2 translate x1 x2) := by
  intro c
  rw [show c = _ from catPre_merged h2 hn2 hc]
  obtain ⟨ht1, hx1, hy1, hz1⟩ := h1
  obtain ⟨ht2, hx2, hy2, hz2⟩ := h2
  dsimp only
  have hsl := (second_lengths p2 t2 node2).1
  refine ⟨?_, ?_, ?_⟩
  · rw [List.length_eraseIdx_of_lt, List.length_append, List.length_map, hsl]
    rw [List.length_append, List.length_map, hsl, Nat.add_comm]
    exact Nat.add_lt_add_left hn2 _
  · intro i hi
    have hik : i < node2 + p1.length := Nat.lt_of_lt_of_le hi (Nat.le_add_left _ _)
    simp only [List.getD_eq_getElem?_getD, List.getElem?_eraseIdx_of_lt hik]
    rw [List.getElem?_append_left hi, List.getElem?_append_left (hx1 ▸ hi)]
    refine ⟨?_, rfl, rfl⟩
    rw [← List.getD_eq_getElem?_getD, Py.getD_range_map _ _ (Nat.lt_of_lt_of_le hi (Nat.le_add_right _ _))]; rfl
  · intro j hj hne
    refine ⟨?_, ?_, ?_⟩
    · rw [eraseIdx_getD_row _ _ _ _ hne, Py.getD_range_map _ _ (Nat.add_lt_add_left hj _)]; rfl
    · rw [eraseIdx_getD_row _ _ _ _ hne, getD_app_right _ _ _ _ rfl]
      simp [List.getD_eq_getElem?_getD, hsl, hj]
    · rw [eraseIdx_getD_row _ _ _ _ hne, getD_app_right _ _ _ _ hx1, Py.getD_map _ _ 0 _ (hx2 ▸ hj)]
end cat

-- non-vacuity / concrete behaviour
def exP : List Int := [-1, 0, 1, 1, 0]
example : WF exP := by unfold WF; decide +kernel
example : redirect exP [1, 3, 3, 2, 3] 3 = ⟨[1, 3, 1, -1, 0], [2, 3, 3, 1, 3]⟩ := by decide +kernel
example : (catPre [-1, 0] [1, 3] [0, 1] [0, 0] [0, 0] [-1, 0, 0] [1, 3, 3] [5, 6, 7] [0, 0, 0] [0, 0, 0] 1 0 true).pids = [-1, 0, 1, 1] := by
  decide +kernel

end C07
