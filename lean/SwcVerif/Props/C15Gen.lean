import SwcVerif.Refine.Asc
import SwcVerif.Refine.AscParse
import SwcVerif.Refine.AscTop
import SwcVerif.Refine.AscFuel
import SwcVerif.Model.AlgoRunAsc
/-! # C15, tied to the source by the translator

`Gen/AlgoAsc.lean` is regenerated on every run from `swcgeom/transforms/neurolucida_asc.py`: the token-level `Parser` (`_parse`,
`_parse_tree`, `_parse_subtree` ↔ `_parse_split`, `_parse_node`, `_parse_color`, `_parse_comment`, `_skip_comments`, `_read_token`,
`_consume`, `_assert`, `_assert_and_cunsume`), `ASTNode.add_child` and `NeurolucidaAscToSwc.from_ast` with its `walk_ast` loop.  The
AST is a heap of node records, node references are indices.  The theorems below are about these GENERATED definitions; the main one is
`generated_convert_eq_model`: generated parser ∘ generated walk = the hand-written model `Asc.convertTokens`, for every token list without `.bad` (the
lexer raising; texts, and the lexer failure with them, are in `Props/C15Lex.lean`). -/
namespace C15
open Gen.Algo Py RefineAsc

/-- **`from_ast` / `walk_ast` as translated, on EVERY AST heap that unfolds to a tree** (any shape, depth, number of children; TREE
nodes labelled AXON / DENDRITE, NODE values 4-tuples): with at least `cost + 1` units of fuel the explicit-stack loop returns exactly
the table `rows` defined by structural recursion — one row per NODE in pre-order, `pid` = the id of the nearest enclosing NODE (−1
directly under a TREE or the ROOT), typed by the enclosing TREE's label; COLOR / COMMENT nodes contribute nothing. -/
theorem generated_from_ast_eq_rows (nodes : List ASTNode) (t : AT) (hA : Agrees nodes t) (fuel : Nat) (hf : cost nodes t + 1 ≤ fuel) :
    from_ast fuel nodes (t.ref : Int) =
      some (((rows nodes t (-1) Gen.Consts.type_undefined 0).length : Int), colsOf (rows nodes t (-1) Gen.Consts.type_undefined 0)) :=
  from_ast_refines nodes t hA fuel hf

/-- the fuel the walk needs is at most (number of AST nodes) + (number of TREE nodes) + 1 -/
theorem generated_walk_fuel (nodes : List ASTNode) (t : AT) : cost nodes t + 1 ≤ t.size + trees nodes t + 1 := by
  have := cost_le nodes t
  omega

/-- the ids of the table are 0, 1, …, m−1 in the order the rows are produced -/
theorem generated_rows_ids (nodes : List ASTNode) (t : AT) (ty : Int) :
    (rows nodes t (-1) ty 0).map (·.id) = (List.range (rows nodes t (-1) ty 0).length).map (fun (k : Nat) => (k : Int)) := by
  rw [rows_ids, List.range_eq_range']

open RefineAscParse in
/-- **the token protocol of the parser as translated = the hand-written model** (the leaf level of `generated_convert_eq_model`), on every
`.bad`-free token list (`.bad` = the lexer raising), for every encoding `encF` of the numbers (an opaque
payload), success and every failure alike: `_read_token` drops the current token like `adv`; `_assert_and_cunsume(BRACKET_RIGHT /
BRACKET_LEFT)` are `expectRp` / `expectLp`; `_parse_node` is `parseNode` — the same remaining tokens, the same four numbers in a NODE
record allocated at the end of the heap and attached to `root` by the translated `add_child`, and an error exactly when the model has
one.  (`_parse_color` / `_parse_comment` / `_skip_comments`: `RefineAscLoop.parse_color_refines`, `parse_comment_refines`,
`RefineAscTop.skip_comments_sim`; the loops and the mutual recursion: `RefineAscLoop.loop_sim`, `RefineAscTop.top_sim`.) -/
theorem generated_token_protocol (encF : SwcText.Sci → Int) (toks : List Asc.Tok) (nodes : List ASTNode) (root : Int)
    (h : NoBad toks) :
    (parser_read_token (st encF toks nodes) = some (st encF toks.tail nodes, ()) ∧ (∀ t, toks ≠ [] → Asc.adv (t :: toks) = .ok toks)) ∧
    (parser_assert_and_cunsume (st encF toks nodes) 2 =
      match Asc.expectRp toks with | .ok rest => some (st encF rest nodes, enc encF .rp) | .error _ => none) ∧
    (parser_assert_and_cunsume (st encF toks nodes) 1 =
      match Asc.expectLp toks with | .ok rest => some (st encF rest nodes, enc encF .lp) | .error _ => none) ∧
    (parser_parse_node (st encF toks nodes) root =
      match Asc.parseNode toks with
      | .error _ => none
      | .ok ((a, b, c, d), rest) =>
        (ast_add_child (nodes ++ [nodeRec encF a b c d]) root (nodes.length : Int)).map fun r => (st encF rest r.1, (nodes.length : Int))) := by
  exact ⟨⟨read_token_st encF toks nodes, fun t _ => adv_cons t toks fun hb => h .bad (List.mem_of_mem_head? hb) rfl⟩,
    expectRp_refines encF toks nodes h, expectLp_refines encF toks nodes h, parse_node_refines encF toks nodes root h⟩


theorem convertTokens_eq_noBad (toks : List Asc.Tok) (hnb : RefineAscParse.NoBad toks) :
    Asc.convertTokens toks = convertWith (2 * toks.length + 4) toks :=
  convertTokens_eq toks fun h => hnb .bad (List.mem_of_mem_head? h) rfl

/-- **the model never runs out of fuel**: `Asc.convertTokens` (fuel `2·#tokens + 4`) and `convertWith N` for every `N ≥ 2·#tokens + 2`
never return `Err.fuel` on a token list without a lexer failure (with fuel `#tokens + 2` it would, e.g. on
`( (Axon) ( | ( | ( | ( | ( | ( |`, an input that is rejected either way) -/
theorem model_fuel_suffices (toks : List Asc.Tok) (hnb : RefineAscParse.NoBad toks) :
    Asc.convertTokens toks ≠ .error .fuel ∧ ∀ N, 2 * toks.length + 2 ≤ N → convertWith N toks ≠ .error .fuel := by
  refine ⟨?_, fun N hN => RefineAscFuel.convertWith_nofuel N toks hnb hN⟩
  rw [convertTokens_eq_noBad toks hnb]
  exact RefineAscFuel.convertWith_nofuel _ _ hnb (by omega)

open RefineAscParse RefineAscHeap RefineAscTop in
/-- **generated parser ∘ generated walk = the model, explicit fuels** (`C15.convertWith N` is `Asc.convertTokens` with the fuel `N` of
its loops made explicit; `convertTokens toks = convertWith (2·#tokens + 4) toks`): for EVERY token list without a lexer failure
(`.bad` = `float()` raising inside the lexer; with it: `generated_text_convert_eq_model_all`), every encoding `encF` of the numbers (an opaque
payload), every model fuel `N ≥ 2·#tokens + 2`, every fuel `G ≥ 2 N` of the translated `Parser._parse` (its loops and the
`_parse_subtree` ↔ `_parse_split` recursion) and every fuel `F ≥ 2·#heap` of the translated walk: `Parser(...)` (`next_token = None;
_read_token()`), `_parse()`, `from_ast(ast)` AS TRANSLATED FROM THE SOURCE return exactly the model's table — the number of rows, ids
0 … m−1, the type of the tree's label, the four numbers of every point, the parents — or raise exactly when the model has an error. -/
theorem generated_convert_eq_model_fuel (encF : SwcText.Sci → Int) (toks : List Asc.Tok) (hnb : NoBad toks) (N G : Nat)
    (hN : 2 * toks.length + 2 ≤ N) (hG : 2 * N ≤ G) :
    parser_read_token { lexer := toks.map (enc encF), next_token := none, nodes := [] } = some (st encF toks [], ()) ∧
    match convertWith N toks with
    | .error _ => parser_parse G (st encF toks []) = none
    | .ok rows => ∃ p, parser_parse G (st encF toks []) = some (p, 0) ∧
        ∀ F, 2 * p.nodes.length ≤ F → from_ast F p.nodes 0 = some ((rows.length : Int), colsOf (encRows encF 0 rows)) :=
  ⟨init_st toks, convert_refines N G toks hnb hG (RefineAscFuel.convertWith_nofuel N toks hnb hN)⟩

open RefineAscParse RefineAscHeap RefineAscTop in
/-- **THE GENERATED CONVERSION IS THE MODEL**: `AlgoRun.ascConvert` — `Parser(...)`, `Parser._parse()` and `NeurolucidaAscToSwc.from_ast`
AS TRANSLATED FROM THE CURRENT SOURCE, composed as in `from_stream`, with the fuels the driver runs them with — applied to the encoding
of ANY token list without a lexer failure returns exactly the rows of the hand-written model `Asc.convertTokens` (their number, ids
0 … m−1, types, the four numbers of every point, parents), and raises (`none`) exactly when the model has an error.  No bound on the
length, the nesting depth or the number of alternatives; fuel sufficiency is part of the statement. -/
theorem generated_convert_eq_model (encF : SwcText.Sci → Int) (toks : List Asc.Tok) (hnb : NoBad toks) :
    AlgoRun.ascConvert (toks.map (enc encF)) =
      match Asc.convertTokens toks with
      | .ok rows => some ((rows.length : Int), colsOf (encRows encF 0 rows))
      | .error _ => none := by
  obtain ⟨h0, h1⟩ := generated_convert_eq_model_fuel encF toks hnb (2 * toks.length + 4) (4 * toks.length + 8) (by omega) (by omega)
  rw [convertTokens_eq_noBad toks hnb]
  unfold AlgoRun.ascConvert
  rw [h0]
  simp only [AlgoRun.ascParseFuel, List.length_map]
  revert h1
  cases convertWith (2 * toks.length + 4) toks with
  | error e => intro h1; simp only [h1]
  | ok rows =>
    intro h1
    obtain ⟨p, hp, hw⟩ := h1
    simp only [hp]
    exact hw _ (by simp [AlgoRun.ascWalkFuel])

theorem noBad_iff {toks : List Asc.Tok} : RefineAscParse.NoBad toks ↔ Asc.Tok.bad ∉ toks :=
  ⟨fun h hb => h _ hb rfl, fun h _ ht e => h (e ▸ ht)⟩

mutual
theorem noBad_branchToks : ∀ b : Branch, RefineAscParse.NoBad (branchToks b)
  | .leaf pts => by simp [noBad_iff, branchToks, ptToks]
  | .fork p pts alts => by simpa [noBad_iff, branchToks, ptToks] using noBad_altsToks alts
theorem noBad_altsToks : ∀ alts : List Branch, RefineAscParse.NoBad (altsToks alts)
  | [] => by simp [noBad_iff, altsToks]
  | [a] => by simpa [altsToks] using noBad_branchToks a
  | a :: b :: rest => by
    simpa [noBad_iff, altsToks] using And.intro (noBad_branchToks a) (noBad_altsToks (b :: rest))
end

theorem noBad_docToks (label : SwcText.Str) (b : Branch) : RefineAscParse.NoBad (docToks label b) := by
  simpa [noBad_iff, docToks] using noBad_branchToks b

theorem noBad_take_docToks (label : SwcText.Str) (b : Branch) (k : Nat) : RefineAscParse.NoBad ((docToks label b).take k) :=
  fun x hx => noBad_docToks label b x (List.mem_of_mem_take hx)

open RefineAscParse RefineAscHeap in
/-- **`convert_faithful` for the generated code**: the token stream of EVERY well-formed single-tree document `( (label) <branch> )` (any
nesting depth, any branch length, any number of alternatives, empty alternatives included) is converted by the parser and the walk AS
TRANSLATED to exactly the table the property describes (`rowsOf`: one row per point in document order, typed by the label, the parent
= the preceding point of the branch / the last point before the enclosing split) -/
theorem generated_convert_faithful (encF : SwcText.Sci → Int) (label : SwcText.Str) (b : Branch)
    (hl : Asc.upper label = "AXON".toList ∨ Asc.upper label = "DENDRITE".toList) (hb : NonEmpty b) :
    AlgoRun.ascConvert ((docToks label b).map (enc encF)) =
      some ((b.count : Int), colsOf (encRows encF 0 (rowsOf (labelType label) b (-1) 0))) := by
  rw [generated_convert_eq_model encF _ (noBad_docToks label b), convert_faithful label b hl hb]
  simp only [rows_count]

open RefineAscParse in
/-- **`truncation_rejected` for the generated code**: every proper prefix of the token stream of a well-formed single-tree document makes
the parser AS TRANSLATED raise — nothing is converted in part -/
theorem generated_truncation_rejected (encF : SwcText.Sci → Int) (label : SwcText.Str) (b : Branch) (k : Nat)
    (hl : Asc.upper label = "AXON".toList ∨ Asc.upper label = "DENDRITE".toList) (hb : NonEmpty b)
    (hk : k < (docToks label b).length) :
    AlgoRun.ascConvert (((docToks label b).take k).map (enc encF)) = none := by
  obtain ⟨er, he⟩ := take_docToks_rejected label b k hk
  rw [generated_convert_eq_model encF _ (noBad_take_docToks label b k), he]

open RefineAscParse in
/-- **`bad_point_rejected` for the generated code**: `_parse_node` AS TRANSLATED raises on a point with three numbers, with five numbers,
with a word inside, and on a point cut before its closing bracket (whatever follows, on any heap); by `generated_convert_eq_model` every
rejection of the model is a rejection of the generated conversion -/
theorem generated_bad_point_rejected (encF : SwcText.Sci → Int) (a b c d e : SwcText.Sci) (w : SwcText.Str) (t : List Asc.Tok) (hnb : NoBad t)
    (nodes : List ASTNode) (root : Int) :
    parser_parse_node (st encF (.float a :: .float b :: .float c :: .rp :: t) nodes) root = none ∧
    parser_parse_node (st encF (.float a :: .float b :: .float c :: .float d :: .float e :: t) nodes) root = none ∧
    parser_parse_node (st encF (.float a :: .literal w :: t) nodes) root = none ∧
    parser_parse_node (st encF (.float a :: .float b :: .float c :: .float d :: []) nodes) root = none := by
  have key {toks : List Asc.Tok} (hn : Asc.Tok.bad ∉ toks) :
      (∃ er, Asc.parseNode toks = .error er) → parser_parse_node (st encF toks nodes) root = none :=
    fun ⟨er, he⟩ => by rw [parse_node_refines encF toks nodes root (noBad_iff.2 hn), he]
  obtain ⟨h1, h2, h3, h4⟩ := bad_point_rejected a b c d e w t
  rw [noBad_iff] at hnb
  exact ⟨key (by simp [hnb]) h1, key (by simp [hnb]) h2, key (by simp [hnb]) h3, key (by simp) h4⟩

/-- non-vacuity (kernel-evaluated): the generated parser followed by the generated walk on the token stream of
`( (Axon) (0 1 2 3) ( (4 5 6 7) | (8 9 10 11) ) )` gives three rows with parents −1, 0, 0, typed axon; the stream cut before its last
bracket is rejected -/
def exToks : List Token :=
  [⟨1, .str "("⟩, ⟨1, .str "("⟩, ⟨6, .str "Axon"⟩, ⟨2, .str ")"⟩, ⟨1, .str "("⟩, ⟨5, .flt 0⟩, ⟨5, .flt 1⟩, ⟨5, .flt 2⟩, ⟨5, .flt 3⟩, ⟨2, .str ")"⟩,
   ⟨1, .str "("⟩, ⟨1, .str "("⟩, ⟨5, .flt 4⟩, ⟨5, .flt 5⟩, ⟨5, .flt 6⟩, ⟨5, .flt 7⟩, ⟨2, .str ")"⟩, ⟨4, .str "|"⟩, ⟨1, .str "("⟩, ⟨5, .flt 8⟩,
   ⟨5, .flt 9⟩, ⟨5, .flt 10⟩, ⟨5, .flt 11⟩, ⟨2, .str ")"⟩, ⟨2, .str ")"⟩, ⟨2, .str ")"⟩]
example : (AlgoRun.ascConvert exToks).map (fun r => (r.1, r.2.1, r.2.2.1, r.2.2.2.1, r.2.2.2.2.2.2.2)) =
    some (3, [0, 1, 2], [2, 2, 2], [.flt 0, .flt 4, .flt 8], [-1, 0, 0]) := by decide +kernel
example : (AlgoRun.ascConvert exToks.dropLast).isNone := by decide +kernel

/- non-vacuity of `generated_convert_eq_model` / `generated_convert_faithful` / `generated_truncation_rejected` (kernel-evaluated): the
same document as a model token list; its encoding is `exToks`; it has no lexer failure; the model converts it to three rows (parents −1,
0, 0), so the theorem applies and gives the result computed above; the hypotheses of the transported theorems are satisfiable -/
def exSci (n : Nat) : SwcText.Sci := ⟨false, n, 0⟩
def exEnc : SwcText.Sci → Int := fun v => (v.2 : Nat)
def exModelToks : List Asc.Tok :=
  [.lp, .lp, .literal "Axon".toList, .rp, .lp, .float (exSci 0), .float (exSci 1), .float (exSci 2), .float (exSci 3), .rp,
   .lp, .lp, .float (exSci 4), .float (exSci 5), .float (exSci 6), .float (exSci 7), .rp, .bar, .lp, .float (exSci 8),
   .float (exSci 9), .float (exSci 10), .float (exSci 11), .rp, .rp, .rp]
example : exModelToks.map (RefineAscParse.enc exEnc) = exToks := by decide +kernel
example : RefineAscParse.NoBad exModelToks := by unfold RefineAscParse.NoBad; decide +kernel
example : (Asc.convertTokens exModelToks).toOption.map (fun rows => rows.map (·.pid)) = some [-1, 0, 0] := by decide +kernel
example : AlgoRun.ascConvert (exModelToks.map (RefineAscParse.enc exEnc)) =
    match Asc.convertTokens exModelToks with
    | .ok rows => some ((rows.length : Int), colsOf (RefineAscHeap.encRows exEnc 0 rows))
    | .error _ => none :=
  generated_convert_eq_model exEnc exModelToks (by unfold RefineAscParse.NoBad; decide +kernel)
example : exModelToks = docToks "Axon".toList (.fork ⟨exSci 0, exSci 1, exSci 2, exSci 3⟩ []
    [.leaf [⟨exSci 4, exSci 5, exSci 6, exSci 7⟩], .leaf [⟨exSci 8, exSci 9, exSci 10, exSci 11⟩]]) := by decide +kernel
example : Asc.upper "Axon".toList = "AXON".toList ∧
    NonEmpty (.fork ⟨exSci 0, exSci 1, exSci 2, exSci 3⟩ [] [.leaf [⟨exSci 4, exSci 5, exSci 6, exSci 7⟩]]) := ⟨by decide +kernel, trivial⟩

end C15
