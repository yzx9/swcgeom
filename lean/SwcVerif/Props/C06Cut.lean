import SwcVerif.Refine.Cut
/-! # C06, tied to the source by the translator: `to_subtree` and `cut_tree`

`Gen/AlgoCut.lean` is regenerated on every run from `swcgeom/core/tree_utils.py`: `to_subtree` (the loop writing `REMOVAL` into a copy of the id
column, the generated `propagate_removal`, `to_subtree_impl` = the generated `to_sub_topology`) and `cut_tree` in both overloads, with the nested
closures `_enter` / `_leave` that CALL THE USER'S CALLBACK (a state-passing parameter: arbitrary, stateful) and append to the captured `removals`,
handed to the generated traversal.  The theorems below are the refinement theorems of `Refine/Cut.lean` restated next to kernel-evaluated examples;
`generated_toSubtree_kept` alone is a corollary (with `C06.toSubtree_kept`). -/
namespace C06
open Sub Gen.Algo Trav RefineCut

/-- the translated `to_subtree` equals the model `Sub.toSubtree` on every tree table and every list of node ids -/
theorem generated_toSubtree_eq_model (pids : List Int) (r : Rose) (h : IsTree r pids) (rm : List Int)
    (hrm : ∀ i ∈ rm, 0 ≤ i ∧ i.toNat < pids.length) (F : Nat) :
    to_subtree (2 * r.size + F + 1) (rangeI pids.length) pids rm =
      (toSubtree pids rm).map (fun s => ((Py.range (s.mapping.length : Int), s.newPid), s.mapping)) :=
  toSubtree_refines pids r h rm hrm F

/-- … hence the translated `to_subtree` keeps precisely the nodes that are neither removed nor below a removed node, in increasing id order
(`toSubtree_kept` transported to the generated code) -/
theorem generated_toSubtree_kept (pids : List Int) (r : Rose) (h : IsTree r pids) (rm : List Int)
    (hrm : ∀ i ∈ rm, 0 ≤ i ∧ i.toNat < pids.length) (F : Nat) :
    ∃ newPid, to_subtree (2 * r.size + F + 1) (rangeI pids.length) pids rm =
      some ((Py.range (newPid.length : Int), newPid),
        (rangeI pids.length).filter (fun v => !decide (v ∈ removedSet (fun i => rm.contains i) r false))) := by
  obtain ⟨res, h1, h2, h3, _⟩ := toSubtree_kept pids r h rm
  refine ⟨res.newPid, ?_⟩
  rw [generated_toSubtree_eq_model pids r h rm hrm F, h1, ← h2, h3]
  rfl

/-- the translated `cut_tree(tree, enter=ue)` for EVERY stateful user callback `ue` -/
theorem generated_cutTreeEnter {σ T : Type} [Inhabited σ] [Inhabited T] (pids : List Int) (r : Rose) (h : IsTree r pids)
    (ue : σ → Int → Option T → σ × (T × Bool)) (s0 : σ) (F : Nat) :
    cut_tree_enter ue (2 * r.size + F + 1) (rangeI pids.length) pids s0 =
      (toSubtree pids (spec (cutEnterS ue) Sub.noLeave r none ([], s0)).1.1).map
        (fun t => ((spec (cutEnterS ue) Sub.noLeave r none ([], s0)).1.2, ((Py.range (t.mapping.length : Int), t.newPid), t.mapping))) :=
  cutTreeEnter_refines pids r h ue s0 F

/-- the translated `cut_tree(tree, enter=ue)` equals the model `Sub.cutTreeEnter` (callbacks as the model takes them) -/
theorem generated_cutTreeEnter_eq_model {σ T : Type} [Inhabited σ] [Inhabited T] (pids : List Int) (r : Rose) (h : IsTree r pids)
    (ue : Int → Option T → T × Bool) (s0 : σ) (F : Nat) :
    cut_tree_enter (fun (s : σ) n pv => (s, ue n pv)) (2 * r.size + F + 1) (rangeI pids.length) pids s0 =
      (cutTreeEnter pids ue).map (fun t => (s0, ((Py.range (t.mapping.length : Int), t.newPid), t.mapping))) :=
  cutTreeEnter_refines_model pids r h ue s0 F

/-- the translated `cut_tree(tree, leave=ul)` for EVERY stateful user callback `ul` -/
theorem generated_cutTreeLeave {σ K : Type} [Inhabited σ] [Inhabited K] (pids : List Int) (r : Rose) (h : IsTree r pids)
    (ul : σ → Int → List K → σ × (K × Bool)) (s0 : σ) (F : Nat) :
    cut_tree_leave ul (2 * r.size + F + 1) (rangeI pids.length) pids s0 =
      (toSubtree pids (spec Sub.noEnter (cutLeaveS ul) r none ([], s0)).1.1).map
        (fun t => ((spec Sub.noEnter (cutLeaveS ul) r none ([], s0)).1.2, ((Py.range (t.mapping.length : Int), t.newPid), t.mapping))) :=
  cutTreeLeave_refines pids r h ul s0 F

/-- the translated `cut_tree(tree, leave=ul)` equals the model `Sub.cutTreeLeave` -/
theorem generated_cutTreeLeave_eq_model {σ K : Type} [Inhabited σ] [Inhabited K] (pids : List Int) (r : Rose) (h : IsTree r pids)
    (ul : Int → List K → K × Bool) (s0 : σ) (F : Nat) :
    cut_tree_leave (fun (s : σ) n ks => (s, ul n ks)) (2 * r.size + F + 1) (rangeI pids.length) pids s0 =
      (cutTreeLeave pids ul).map (fun t => (s0, ((Py.range (t.mapping.length : Int), t.newPid), t.mapping))) :=
  cutTreeLeave_refines_model pids r h ul s0 F

/-! non-vacuity (kernel-evaluated, on `exPids = [-1, 0, 1, 1, 0]`): the generated definitions run, with stateful callbacks that count their calls -/
example : to_subtree 11 (rangeI 5) exPids [2] = some (([0, 1, 2, 3], [-1, 0, 1, 0]), [0, 1, 3, 4]) := by decide +kernel
-- a negative index wraps (Python), an index outside the table raises: outside the theorem's domain, where the model marks nothing
example : to_subtree 11 (rangeI 5) exPids [-1] = some (([0, 1, 2, 3], [-1, 0, 1, 1]), [0, 1, 2, 3]) := by decide +kernel
example : to_subtree 11 (rangeI 5) exPids [7] = none := by decide +kernel
-- enter: remove node 1; the user callback is NOT called on 2 and 3 (3 calls for 5 nodes)
example : cut_tree_enter (σ := Nat) (T := Int) (fun c n pv => (c + 1, (pv.getD (-1) + 1, n == 1))) 11 (rangeI 5) exPids 0
    = some (3, (([0, 1], [-1, 0]), [0, 4])) := by decide +kernel
-- leave: remove the tips (height 0); the callback is called on every node
example : cut_tree_leave (σ := Nat) (K := Int) (fun c n ks => (c + 1, (ks.foldl (fun a k => max a (k + 1)) 0, ks.isEmpty && n != 0))) 11 (rangeI 5) exPids 0
    = some (5, (([0, 1], [-1, 0]), [0, 1])) := by decide +kernel

/-! ## `CutByFurcationOrder` -/

/-- the translated `CutByFurcationOrder._enter` is the model's callback `Sub.orderEnter` on every node of a tree object -/
theorem generated_orderEnter_eq_model (pids : List Int) (m j : Int) (pl : Option Int) (hj : 0 ≤ j ∧ j.toNat < pids.length) :
    order_enter (rangeI pids.length) pids m j pl = some (orderEnter pids m j pl) :=
  orderEnter_refines pids m j pl hj

/-- the translated pipeline `cut_tree(x, enter=self._enter)` equals the model `Sub.cutByOrder` on every tree table -/
theorem generated_cutByOrder_eq_model (pids : List Int) (r : Rose) (h : IsTree r pids) (m : Int) (F : Nat) :
    cut_tree_enter (orderCallback pids m) (2 * r.size + F + 1) (rangeI pids.length) pids true =
      (cutByOrder pids m).map (fun t => (true, ((Py.range (t.mapping.length : Int), t.newPid), t.mapping))) :=
  cutByOrder_refines pids r h m F

example : order_enter (rangeI 5) exPids 1 1 (some 0) = some (1, true) := by decide +kernel
example : order_enter (rangeI 5) exPids 1 4 (some 0) = some (0, false) := by decide +kernel
example : cut_tree_enter (orderCallback exPids 1) 11 (rangeI 5) exPids true = some (true, (([0, 1], [-1, 0]), [0, 4])) := by decide +kernel

/-! ## `CutByType` -/

/-- the translated `CutByType.__call__` (the `removals` set, its `leave` closure, the generated traversal and `to_subtree`) equals the model
`Sub.cutByType` on every tree table with a type column of the same length -/
theorem generated_cutByType_eq_model (pids types : List Int) (ty : Int) (r : Rose) (h : IsTree r pids) (hl : types.length = pids.length) (F : Nat) :
    cut_by_type (2 * r.size + F + 1) (rangeI pids.length) pids types ty =
      (cutByType pids types ty).map (fun t => ((Py.range (t.mapping.length : Int), t.newPid), t.mapping)) :=
  cutByType_refines pids types ty r h hl F

example : cut_by_type 11 (rangeI 5) exPids [1, 3, 2, 3, 3] 2 = some (([0, 1, 2], [-1, 0, 1]), [0, 1, 2]) := by decide +kernel

end C06
