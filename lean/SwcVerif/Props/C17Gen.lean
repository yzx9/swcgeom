import SwcVerif.Props.C17
import SwcVerif.Refine.Mst
/-! # C17, tied to the source by the translator

`Gen.Algo.mst_loop` is regenerated on every run from the greedy loop of `swcgeom/transforms/mst.py::PointsToCuntzMST.__call__`
(`pid = np.full(n, fill_value=-1)` … end of `for _ in range(n - 1)`), with float arrays as arrays over a numeric type parameter (here
`Rat`). `RefineMst.mst_loop_refines` proves it equal to the model `Mst.run … (Mst.init n)` the C17 theorems speak about, for every
`n > 0`, every `n × n` matrix, every `bf`, `furcations`, `exclude_soma`; the theorems below carry `C17.spanning`,
`C17.branching_limit`, `C17.greedy_step`, `C17.prim_minimal` and `C17.prim_attains` over to the generated definition.

`self.furcations = k` is the model's limit `RefineMst.limitOf k` (`-1` = none, otherwise `max k 0`); the C17 theorems need the limit
to be at least 1 (`k = -1 ∨ 1 ≤ k`): the loop tests a point against the limit only when it has just taken a child, so limit 0
closes a point only after its first child — the run is that of limit 1, and `branching_limit` with `k = 0` would be false. -/
namespace C17
open Mst Gen.Algo RefineMst

/-- what the generated loop returns when it leaves the model state `s` behind: `(pid, acc, furcations, conn, mask, None)` -/
def outOf (s : St) : List Int × List Rat × List Int × List Bool × List (List Bool) × Unit :=
  (s.pid, s.acc, s.furc.map (fun (x : Nat) => (x : Int)), s.conn, s.mask, ())

/-- **the generated greedy loop equals the model** (restatement of `RefineMst.mst_loop_refines`) -/
theorem generated_mst_eq_model (n : Nat) (hn : 0 < n) (dis : List (List Rat)) (hd : SquareQ n dis) (bf : Rat) (k : Int) (ex : Bool) :
    mst_loop (K := Rat) (n : Int) dis bf k ex = some (outOf (run dis bf (limitOf k) ex n (n - 1) (init n))) :=
  mst_loop_refines n hn dis hd bf k ex

/-- without points (`n ≤ 0`) the generated loop raises, as the source does (restatement of `RefineMst.mst_loop_raises`) -/
theorem generated_mst_raises (n : Int) (hn : n ≤ 0) (dis : List (List Rat)) (bf : Rat) (k : Int) (ex : Bool) :
    mst_loop (K := Rat) n dis bf k ex = none :=
  mst_loop_raises n hn dis bf k ex

theorem limitOf_pos (k : Int) (hk : k = -1 ∨ 1 ≤ k) : ∀ k', limitOf k = some k' → 1 ≤ k' := by
  intro k' h
  unfold limitOf at h
  rcases hk with rfl | hk
  · cases h
  · rw [if_neg (by omega)] at h
    cases h
    omega

theorem limitOf_natCast (k : Nat) : limitOf (k : Int) = some k := by
  rw [limitOf, if_neg (by omega), Int.toNat_natCast]

/-- **a single tree containing every point exactly once, rooted at the first point** — for the generated loop: it returns (never
raises), every point is connected, point 0 has no parent, every other point has exactly one parent below `n`, and following parents
from any point reaches point 0 -/
theorem generated_spanning (n : Nat) (hn : 0 < n) (dis : List (List Rat)) (hd : SquareQ n dis) (bf : Rat) (k : Int) (ex : Bool)
    (hk : k = -1 ∨ 1 ≤ k) :
    ∃ s, mst_loop (K := Rat) (n : Int) dis bf k ex = some (outOf s) ∧
      Inv dis n (limitOf k) ex s ∧ (∀ j, j < n → Conn s j) ∧
      s.pid.getD 0 0 = -1 ∧ (∀ j, j < n → j ≠ 0 → ∃ i, i < n ∧ s.pid.getD j 0 = (i : Int)) ∧
      (∀ j, j < n → ∃ d, d ≤ n ∧ up s d j = 0) :=
  ⟨_, generated_mst_eq_model n hn dis hd bf k ex, spanning dis bf n hn (limitOf k) ex (limitOf_pos k hk)⟩

/-- **with a branching limit `k ≥ 1` no point other than the (optionally exempt) root gets more than `k` children** — for the
generated loop -/
theorem generated_branching_limit (n : Nat) (hn : 0 < n) (dis : List (List Rat)) (hd : SquareQ n dis) (bf : Rat) (k : Nat)
    (hk : 1 ≤ k) (ex : Bool) (i : Nat) (hi : i < n) (hex : ex = false ∨ i ≠ 0) :
    ∃ s, mst_loop (K := Rat) (n : Int) dis bf (k : Int) ex = some (outOf s) ∧ children s i ≤ k := by
  refine ⟨_, generated_mst_eq_model n hn dis hd bf k ex, ?_⟩
  rw [limitOf_natCast]
  exact branching_limit dis bf n hn k hk ex i hi hex

/-- **each new point is attached to the connected, unsaturated point that minimises edge length plus `bf` × that point's path
length** — for the generated loop body (`mst_loop.for1`, one iteration of `for _ in range(n - 1)`): started in the variables
representing a state `s` that satisfies the loop invariant with a point still unconnected, it falls through into the variables
representing `stepAt … s i j` (= `Mst.step`) where `(i, j)` is an open cell (connected unsaturated source, unconnected target) and no
open cell is cheaper. Which of several cheapest cells is taken is not stated here; that the library's masked `argmin` returns the first
least unmasked cell in row-major order is `Py.maArgmin_spec`, which this theorem does not use. -/
theorem generated_greedy_step (n : Nat) (hn : 0 < n) (dis : List (List Rat)) (hd : SquareQ n dis) (bf : Rat) (k : Int) (ex : Bool)
    (hk : k = -1 ∨ 1 ≤ k) (s : St) (hinv : Inv dis n (limitOf k) ex s) (hmore : nconn s < n) (hpos : 0 < nconn s)
    (x : Int) (c : Py.Masked2 Rat) (i0 j0 u : Int) :
    ∃ i j c' i' j', mst_loop.for1 x (toV n dis bf k ex s c i0 j0 u) =
        .next (toV n dis bf k ex (stepAt dis (limitOf k) ex n s i j) c' i' j' x) ∧
      step dis bf (limitOf k) ex n s = stepAt dis (limitOf k) ex n s i j ∧
      i < n ∧ j < n ∧ Open s i j ∧
      ∀ a b, a < n → b < n → Open s a b → cellCost dis bf s i j ≤ cellCost dis bf s a b := by
  obtain ⟨c', i', j', e⟩ := for1_step n hn dis hd bf k ex x s hinv.len c i0 j0 u
  obtain ⟨g1, g2, g3, g4⟩ := greedy_step dis bf n (limitOf k) ex s hinv (limitOf_pos k hk) hmore hpos
  exact ⟨_, _, c', i', j', by rw [← step_eq]; exact e, step_eq _ _ _ _ _ _, g1, g2, g3, g4⟩

/-- **without a balancing factor and without a branching limit the tree is a minimum spanning tree** — for the generated loop: on a
symmetric non-negative matrix the total length of the edges `(pid[j], j)` it returns is at most the total length of any edge list
that connects all the points -/
theorem generated_prim_minimal (n : Nat) (hn : 0 < n) (dis : List (List Rat)) (hd : SquareQ n dis) (ex : Bool)
    (hsym : ∀ a b, a < n → b < n → dist dis a b = dist dis b a)
    (hnn : ∀ a b, a < n → b < n → 0 ≤ dist dis a b)
    (E : List (Nat × Nat)) (hE : Spans n E) :
    ∃ s, mst_loop (K := Rat) (n : Int) dis 0 (-1) ex = some (outOf s) ∧ treeLength dis n s ≤ wL dis E :=
  ⟨_, generated_mst_eq_model n hn dis hd 0 (-1) ex, prim_minimal dis n hn ex hsym hnn E hE⟩

/-- **the tree the generated loop returns is itself one of the competitors**: its `n - 1` edges connect all the points and have the
total length `treeLength` — with `generated_prim_minimal`: its length EQUALS the minimum over all spanning edge lists -/
theorem generated_prim_attains (n : Nat) (hn : 0 < n) (dis : List (List Rat)) (hd : SquareQ n dis) (bf : Rat) (k : Int) (ex : Bool)
    (hk : k = -1 ∨ 1 ≤ k) :
    ∃ s, mst_loop (K := Rat) (n : Int) dis bf k ex = some (outOf s) ∧
      Spans n (edgesOf n s) ∧ wL dis (edgesOf n s) = treeLength dis n s ∧ (edgesOf n s).length = n - 1 :=
  ⟨_, generated_mst_eq_model n hn dis hd bf k ex, prim_attains dis bf n hn (limitOf k) ex (limitOf_pos k hk)⟩

-- non-vacuity (kernel-evaluated): the hypotheses hold for the 4 points on a line of `exDis`, and the generated loop returns the tree
example : SquareQ 4 exDis := ⟨rfl, by decide⟩
private theorem ex_loop : (mst_loop (K := Rat) 4 exDis 0 (-1) true).map (fun r => (r.1, r.2.1, r.2.2.1, r.2.2.2.1)) =
    some ([-1, 3, 1, 0], [0, 10, 11, 1], [1, 1, 0, 1], [true, true, true, true]) := by decide +kernel
example : (mst_loop (K := Rat) 4 exDis 0 (-1) true).map (fun r => r.1) = some [-1, 3, 1, 0] := by
  have h := congrArg (Option.map (·.1)) ex_loop
  rwa [Option.map_map] at h
example : (mst_loop (K := Rat) 4 exDis 0 (-1) true).map (fun r => r.2.1) = some [0, 10, 11, 1] := by
  have h := congrArg (Option.map (·.2.1)) ex_loop
  rwa [Option.map_map] at h
example : (mst_loop (K := Rat) 4 exDis 0 (-1) true).map (fun r => (r.2.2.1, r.2.2.2.1)) =
    some ([1, 1, 0, 1], [true, true, true, true]) := by
  have h := congrArg (Option.map (·.2.2)) ex_loop
  rwa [Option.map_map] at h
example : (mst_loop (K := Rat) 4 exDis 1 2 true).map (·.1) = some [-1, 0, 0, 0] := by decide +kernel
example : limitOf (-1) = none ∧ limitOf 2 = some 2 ∧ limitOf (-3) = some 0 := by decide
example : (mst_loop (K := Rat) 0 [] 0 (-1) true).isNone = true := by decide +kernel

end C17
