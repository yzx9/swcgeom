import SwcVerif.Props.C01Gen
import SwcVerif.Props.C02Front
/-! # C01 through the whole translated reader front end

`C01.generated_write_generated_read` (generated writer, then the generated read loop) restated through `ReadFront.parseSwcFull`: the
generated `FileReader.__init__ / __enter__`, `detect_encoding`, `extras = …`, `names.cols()` and the generated loop - for EVERY way of
handing the written text to `parse_swc` (a text stream, a `BytesIO`, a file name; any `encoding`, any chardet answer), provided the world
delivers the lines of the written text (`linesRead … = splitLines text`: the decoding of what was written is CPython's). -/
namespace C01
open SwcText Gen.Algo RefineWriter RefineReadFront ReadFront Py

variable {F : Type} [Inhabited F] [Add F] [Sub F] [Mul F] [OfNat F 0] [OfNat F 1] [LT F] [DecidableLT F] [LE F] [DecidableLE F]
variable (get : String → Py.Col WF) -- `RefineWriter.WF`, the float payload `Bool × Nat`

/-- **generated writer, then the generated reader front end + read loop**: whatever the source kind and the encoding options, and whether
`extra_cols` is `None` or `[]`, `parse_swc` returns the table of the written rows (shifted) under the keys `names.cols()`, the kept comments,
no "fields ignored" warning, and has closed the file; the only warning possible is the low-confidence one of `detect_encoding` -/
theorem generated_write_generated_read_front (rows : List WRow) (hr : Reads get (tblOf rows)) (hpos : Positions rows)
    (self : SWCLike) (source : BoolOrStr) (wc : Bool) (off : Nat) (hnb : NoBreaks self source)
    (hp : ∀ w ∈ rows, w.pid = -1 ∨ 0 ≤ w.pid) (linesOf : Src → Py.Stream Str) (nm : SWCNames7) (xs : Option (List String))
    (hxs : normExtras xs = []) (src : Src) (encoding : String) (lowc : F) (chardet : Option String × F) :
    ∃ text, swclike_to_swc mfmt4 get self source wc (off : Int) = some text ∧
      (linesRead linesOf src encoding chardet.1 = ⟨splitLines text.toList, none⟩ →
        parseSwcFull linesOf (C02.mRowOf 0) C02.mCommentOf C02.mIsHeader C02.mBlank nm xs src encoding lowc chardet
          = some (detectWarn src encoding lowc chardet, [], ⟨some (), true⟩,
              .ok (C02.tableOf (namesCols nm) [] ((rows.map (shifted off)).map C02.fieldsOf),
                   ((written (sourceStr self source) wc (self.comments.map String.toList)).map readBack).filter keepComment))) := by
  obtain ⟨text, h1, h2⟩ := generated_write_generated_read get rows hr hpos self source wc off hnb hp (namesCols nm) (namesCols_length nm)
    ⟨some (), false⟩
  refine ⟨text, h1, fun hl => ?_⟩
  rw [parseSwcFull_eq, hxs, hl, h2]
  rfl

end C01
