import SwcVerif.Refine.NodeFeat2
import SwcVerif.Props.C10NodeFeat
import SwcVerif.Props.C08Gen
import SwcVerif.Props.C08BranchTree
/-! # C10, second part of the feature classes tied to the source by the translator

`NodeFeatures.get_branch_order` (+ its closure `assign_depth` on the translated `_traverse_dfs`), `FurcationFeatures.nodes` /
`TipFeatures.nodes`, `_SubsetNodesFeatures.get_count` / `get_radial_distance`, `Path.length` on arbitrary row lists,
`BranchFeatures.get_length`, `BranchFeatures.calc_angle` (all regenerated on every run into `Gen/AlgoNodeFeat.lean`), and the property's
first sentence for the code as it is: the sum of the translated branch lengths is the translated `Tree.length`. -/
namespace C10
open Gen.Algo RefineNf RefineNf2

/-- **`NodeFeatures.get_branch_order` as translated = DEPTH in the branch tree** (root 0).  For every table `bt_ids`, `bt_pids` that
represents a rose `r` rooted at node 0 whose ids are rows (any shape / depth; the table of a tree object, `C06.IsTree`, is the special
case below) and every fuel `≥ 2·|r| + 1`: no exception, one entry per row, entry `k` is the depth of node `k` in `r`, rows outside `r`
keep the initial 0.

Remark (not a theorem): `LMeasure.branch_order` (the number of furcations on the root path, node and root included,
`C10.generated_branch_order`) is a DIFFERENT quantity; on the nodes of the branch tree (mapped back through `bt.src`) one has
`depth(n) = lm(n) − [n is a furcation] + [root is not a furcation ∧ n ≠ root]` (see the kernel-evaluated example in `C10NodeFeat`). -/
theorem generated_nf_branch_order (bt_ids bt_pids : List Int) (r : Rose) (hR : Represents r bt_ids bt_pids) (h0 : r.id = 0)
    (hin : ∀ j ∈ r.ids, 0 ≤ j ∧ j.toNat < bt_ids.length) (F : Nat) :
    ∃ order, nf_branch_order (2 * r.size + F + 1) bt_ids bt_pids = some order ∧ order.length = bt_ids.length ∧
      ∀ k : Nat, order.getD k 0 = (r.depthOf k 0).getD 0 :=
  branch_order_refines bt_ids bt_pids r hR h0 hin F

/-- the same on the table of a tree object (ids = positions, the whole table is the tree `r`): EVERY row gets its depth -/
theorem generated_nf_branch_order_tree (bt_pids : List Int) (r : Rose) (h : C06.IsTree r bt_pids) (F : Nat) :
    ∃ order, nf_branch_order (2 * r.size + F + 1) (Sub.rangeI bt_pids.length) bt_pids = some order ∧ order.length = bt_pids.length ∧
      ∀ k : Nat, k < bt_pids.length → ∃ d, r.depthOf k 0 = some d ∧ 0 ≤ d ∧ order.getD k 0 = d := by
  have hlen : (Sub.rangeI bt_pids.length).length = bt_pids.length := by simp [Sub.rangeI]
  obtain ⟨order, e, l, g⟩ := branch_order_refines (Sub.rangeI bt_pids.length) bt_pids r h.1 h.2.2.1
    (fun j hj => by rw [hlen]; exact (C06.isTree_mem h j).1 hj) F
  refine ⟨order, e, l.trans hlen, fun k hk => ?_⟩
  obtain ⟨d, hd, h0⟩ := depthOf_some (k : Int) r 0 ((C06.isTree_mem h k).2 ⟨by omega, by simpa using hk⟩)
  exact ⟨d, hd, h0, by rw [g k, hd]; rfl⟩

/-- **`FurcationFeatures.nodes` / `TipFeatures.nodes` as translated**: the masks of the rows with ≥ 2 / with 0 children -/
theorem generated_furcation_nodes (n : Nat) (pids : List Int) (hl : pids.length ≤ n) :
    nf_furcation_nodes (Sub.rangeI n) pids = some ((List.range n).map fun k => decide (2 ≤ nKids n pids k)) :=
  furcation_nodes_refines n pids hl
theorem generated_tip_nodes (n : Nat) (pids : List Int) (hl : pids.length ≤ n) :
    nf_tip_nodes (Sub.rangeI n) pids = some ((List.range n).map fun k => decide (nKids n pids k = 0)) :=
  tip_nodes_refines n pids hl

variable {K : Type} [Inhabited K] [Add K] [Sub K] [Mul K] [OfNat K 0] [OfNat K 1] [LT K] [DecidableLT K] [LE K] [DecidableLE K]

/-- **`_SubsetNodesFeatures.get_count` as translated on these masks = the NUMBER of furcation / tip rows** -/
theorem generated_furcation_count (F : Py.Fld K) (n : Nat) (pids : List Int) (hl : pids.length ≤ n) :
    (nf_furcation_nodes (Sub.rangeI n) pids).bind (nf_subset_count F)
      = some [F.ofInt ((((List.range n).filter fun k => decide (2 ≤ nKids n pids k)).length : Nat) : Int)] := by
  rw [furcation_nodes_refines n pids hl]; exact subset_count_refines F n _
theorem generated_tip_count (F : Py.Fld K) (n : Nat) (pids : List Int) (hl : pids.length ≤ n) :
    (nf_tip_nodes (Sub.rangeI n) pids).bind (nf_subset_count F)
      = some [F.ofInt ((((List.range n).filter fun k => decide (nKids n pids k = 0)).length : Nat) : Int)] := by
  rw [tip_nodes_refines n pids hl]; exact subset_count_refines F n _

/-- **`_SubsetNodesFeatures.get_radial_distance` as translated on the furcation / tip mask**: `norm (xyz[k] − xyz[0])` for exactly the
furcation (tip) rows `k`, in row order (first row typed as soma; otherwise `Tree.soma` raises, `generated_radial_distance`) -/
theorem generated_furcation_radial (norm : List K → K) (pids types : List Int) (axyz : List (List K)) (h0 : 0 < axyz.length)
    (hl : pids.length ≤ axyz.length) (hd : ∀ r ∈ axyz, r.length = (row axyz 0).length) (ht : types.head? = some Gen.Consts.type_soma) :
    (nf_furcation_nodes (Sub.rangeI axyz.length) pids).bind (nf_subset_radial_distance norm (Sub.rangeI axyz.length) pids types axyz)
      = some (((List.range axyz.length).filter fun k => decide (2 ≤ nKids axyz.length pids k)).map
          fun (k : Nat) => norm (vec axyz 0 (k : Int))) := by
  rw [furcation_nodes_refines _ pids hl]; exact subset_radial_refines norm _ pids types axyz h0 hd ht _
theorem generated_tip_radial (norm : List K → K) (pids types : List Int) (axyz : List (List K)) (h0 : 0 < axyz.length)
    (hl : pids.length ≤ axyz.length) (hd : ∀ r ∈ axyz, r.length = (row axyz 0).length) (ht : types.head? = some Gen.Consts.type_soma) :
    (nf_tip_nodes (Sub.rangeI axyz.length) pids).bind (nf_subset_radial_distance norm (Sub.rangeI axyz.length) pids types axyz)
      = some (((List.range axyz.length).filter fun k => decide (nKids axyz.length pids k = 0)).map
          fun (k : Nat) => norm (vec axyz 0 (k : Int))) := by
  rw [tip_nodes_refines _ pids hl]; exact subset_radial_refines norm _ pids types axyz h0 hd ht _

/-- **`Path.length` as translated on an ARBITRARY row list** = Σ over the consecutive pairs of `norm (xyz[idx[k+1]] − xyz[idx[k]])` -/
theorem generated_path_length (norm : List K → K) (axyz : List (List K)) (d : Nat) (idx : List Int)
    (hv : ∀ i ∈ idx, Valid axyz i) (hd : ∀ i ∈ idx, (row axyz i).length = d) :
    nf_path_length norm axyz idx = some (Py.Nf.sumK ((cpairs idx).map fun e => norm (vec axyz e.1 e.2))) :=
  path_length_refines norm axyz d idx hv hd

theorem pairs_eq_cpairs : ∀ b : List Int, C08.pairs b = cpairs b
  | [] => rfl
  | [_] => rfl
  | a :: b :: t => by
    have ih := pairs_eq_cpairs (b :: t)
    simp only [cpairs, List.tail_cons] at ih
    simp [C08.pairs_cons_cons, cpairs, ih]

/-- **`BranchFeatures.get_length` as translated, on every tree object with coordinates**: one entry per branch of the translated
`Tree.get_branches` (= `C08.branchesOf r`), the sum over the consecutive pairs of the branch of `norm (xyz[b[k+1]] − xyz[b[k]])` -/
theorem generated_bf_length (norm : List K → K) (pids : List Int) (r : Rose) (h : C06.IsTree r pids) (axyz : List (List K)) (d : Nat)
    (hlen : axyz.length = pids.length) (hdim : ∀ r ∈ axyz, r.length = d) (F : Nat) :
    nf_bf_length norm (2 * r.size + F + 1) (Sub.rangeI pids.length) pids axyz
      = some ((C08.branchesOf r).map fun b => Py.Nf.sumK ((C08.pairs b).map fun e => norm (vec axyz e.1 e.2))) := by
  rw [bf_length_refines norm _ _ pids axyz d (C08.branchesOf r) (C08.generated_getBranches_eq _ pids r h.1 h.2.2.1 F)]
  · simp only [pairs_eq_cpairs]
  · intro b hb i hi
    have hm := (C06.isTree_mem h i).1 (C08.branch_mem r b hb i hi)
    have hv : Valid axyz i := ⟨hm.1, by rw [hlen]; exact hm.2⟩
    exact ⟨hv, hdim _ (row_mem axyz i hv)⟩

/-! ### the property's first sentence for the code as it is: Σ branch lengths = tree length (at `K = Rat`, where sums may be reordered) -/

theorem sumK_eq_sum (l : List Rat) : Py.Nf.sumK l = l.sum := by
  rw [Py.Nf.sumK, FeatP.foldl_add_eq_sum (fun x => x), List.map_id', zero_add]

/-- on the table of a tree object every non-root row has a parent that is a row -/
theorem isTree_par {r : Rose} {pids : List Int} (h : C06.IsTree r pids) (k : Nat) (hk : k + 1 < pids.length) :
    0 ≤ pids.getD (k + 1) 0 ∧ (pids.getD (k + 1) 0).toNat < pids.length := by
  obtain ⟨h0, hlt⟩ := (Represent.represented_wf pids r h).2.1 (k + 1) hk (Nat.succ_pos k)
  rw [Py.getD_eq_getElem _ _ hk]
  omega

/-- **Σ over the branches of `Tree.get_branches` of the translated `Branch.length` = the translated `Tree.length`** — the first sentence of
C10 for the code as it is: for every tree object `r` (ids = positions, any shape) with coordinates (one row of `d` numbers per node),
every `norm`, and every fuel `≥ 2·|r| + 1`, both translated methods succeed and the sum (numpy / Python `sum` order: sequential from 0;
exact rational arithmetic, float rounding is outside the theorem) of the translated `BranchFeatures.get_length` entries equals the
translated `Tree.length`.  Uses `C08.generated_getBranches_eq` and the partition theorem `C08.branches_partition_edges`. -/
theorem generated_sum_branch_lengths_eq_tree_length (norm : List Rat → Rat) (pids : List Int) (r : Rose) (h : C06.IsTree r pids)
    (axyz : List (List Rat)) (d : Nat) (hlen : axyz.length = pids.length) (hdim : ∀ r ∈ axyz, r.length = d) (F : Nat) :
    ∃ Ls L, nf_bf_length norm (2 * r.size + F + 1) (Sub.rangeI pids.length) pids axyz = some Ls ∧
      nf_tree_length norm (Sub.rangeI pids.length) pids axyz = some L ∧ Py.Nf.sumK Ls = L := by
  refine ⟨_, _, generated_bf_length norm pids r h axyz d hlen hdim F,
    generated_tree_length norm pids axyz d ⟨hlen, isTree_par h, hdim⟩, ?_⟩
  simp only [sumK_eq_sum, List.sum_singleton]
  rw [sum_branch_pairs h, FeatP.rangeI_eq, FeatP.rangeI_drop_one, List.map_map]
  refine congrArg List.sum (List.map_congr_left fun k hk => ?_)
  have hk' : k + 1 < pids.length := by have := List.mem_range.1 hk; omega
  simp only [Function.comp_apply, Int.toNat_natCast, List.getD_eq_getElem?_getD, List.getElem?_eq_getElem hk', Option.getD_some]

/-- non-vacuity (kernel-evaluated, squared norm): the tree of `exP` with the coordinates `exXYZ`; its branches `[0,1] [1,2] [1,3] [0,4]` -/
example : C06.IsTree (.node 0 [.node 1 [.node 2 [], .node 3 []], .node 4 []]) exP := by
  refine ⟨⟨?_, by decide⟩, by decide, rfl, rfl⟩
  simp [exP, Agrees, AgreesL, tableKids, Rose.id, Sub.rangeI, List.range, List.range.loop]
def nfSqR (v : List Rat) : Rat := v.foldl (fun a x => a + x * x) 0
def exXYZR : List (List Rat) := [[0, 0, 0], [3, 4, 0], [3, 4, 5], [6, 8, 0], [0, 0, 2]]
example : nf_bf_length nfSqR 14 (Sub.rangeI 5) exP exXYZR = some [25, 25, 25, 4] ∧
          nf_tree_length nfSqR (Sub.rangeI 5) exP exXYZR = some 79 ∧
          nf_path_length nfSqR exXYZR [0, 1, 3, 4] = some (25 + 25 + 104) ∧ nf_path_length nfSqR exXYZR [2] = some 0 ∧
          nf_path_length nfSqR exXYZR [] = some 0 := by decide +kernel
example : nf_furcation_nodes (Sub.rangeI 5) exP = some [true, true, false, false, false] ∧
          nf_tip_nodes (Sub.rangeI 5) exP = some [false, false, true, true, true] ∧
          nf_branch_order 14 (Sub.rangeI 5) exP = some [0, 1, 2, 2, 1] ∧
          (List.range 5).map (fun (k : Nat) => Rose.depthOf (k : Int) (.node 0 [.node 1 [.node 2 [], .node 3 []], .node 4 []]) 0)
            = [some 0, some 1, some 2, some 2, some 1] ∧
          nf_subset_radial_distance nfSqR (Sub.rangeI 5) exP [1, 3, 3, 3, 3] exXYZR [false, false, true, true, true] = some [50, 100, 4] := by
  decide +kernel

/-- **`BranchFeatures.calc_angle` as translated**: entry (i, j) = `acos (clip (v_i · v_j / (‖v_i‖·‖v_j‖), −1, 1))` where `v_b` is the vector
from the FIRST node of branch `b` to its LAST node (`br[-1].xyz() − br[0].xyz()`) and the product of the norms is the 1×1 matrix product
the source forms.  The DEGENERATE case is explicit: where that product is 0 (a branch of length zero; `angDeg`) the divisor is 1
(`angDen = if angDeg then 1 else angNd`).  No `eps` is added to the divisor (the parameter is accepted and ignored), so nothing
absolute enters the quotient; nothing raises. -/
theorem generated_calc_angle {K : Type} [Inhabited K] [Add K] [Sub K] [Mul K] [OfNat K 0] [OfNat K 1] [LT K] [DecidableLT K] [LE K] [DecidableLE K]
    (F : Py.Fld K) (norm : List K → K) (acos : K → K) (axyz : List (List K)) (d : Nat) (brs : List (List Int)) (eps : K)
    (h01 : (0 : K) < 1) (hg : ∀ b ∈ brs, GoodBr axyz d b) :
    nf_calc_angle F norm acos axyz brs eps
      = some (brs.map fun bi => brs.map fun bj =>
          acos (clip1 (F.div (RefineNf2.dotK (bvec axyz bi) (bvec axyz bj))
            (if angNd norm axyz bi bj < 0 ∨ 0 < angNd norm axyz bi bj then angNd norm axyz bi bj else 1)))) := by
  simp only [calc_angle_refines F norm acos axyz d brs eps h01 hg, angDen_eq]

/-- **the degenerate entries of the generated `calc_angle` are `acos 0`** (π/2): over an ordered field with true division, whenever the
product of the two norms is 0 and the dot product of the two branch vectors is 0 (both hold for the Euclidean norm when one of the two
branches has length zero), entry (i, j) is `acos 0`. -/
theorem generated_calc_angle_degenerate {K : Type} [Field K] [LinearOrder K] [IsStrictOrderedRing K] [Inhabited K]
    (F : Py.Fld K) (hF : ∀ a b : K, F.div a b = a / b) (norm : List K → K) (acos : K → K) (axyz : List (List K)) (d : Nat)
    (brs : List (List Int)) (eps : K) (hg : ∀ b ∈ brs, GoodBr axyz d b) (i j : Nat) (hi : i < brs.length) (hj : j < brs.length)
    (hz : angNd norm axyz brs[i] brs[j] = 0) (hdot : RefineNf2.dotK (bvec axyz brs[i]) (bvec axyz brs[j]) = 0) :
    ∃ M, nf_calc_angle F norm acos axyz brs eps = some M ∧ (M[i]?.bind fun r => r[j]?) = some (acos 0) := by
  refine ⟨_, generated_calc_angle F norm acos axyz d brs eps one_pos hg, ?_⟩
  have hc : clip1 (0 : K) = 0 := by simp [clip1, not_lt.mpr (zero_le_one (α := K))]
  rw [List.getElem?_map, List.getElem?_eq_getElem hi, Option.map_some, Option.bind_some, List.getElem?_map,
    List.getElem?_eq_getElem hj, Option.map_some, hz, hdot, if_neg (by simp), hF, zero_div, hc]

/-- non-vacuity (kernel-evaluated; `norm` = Σv², `acos` = id): branches `[0,1]` (vector (3,4,0)) and `[1,3,4]` (vector (−3,−4,2)):
the off-diagonal quotient −25 / (25·29), the diagonal ones 25 / 625 and 29 / 841, whatever `eps` is handed in; with a zero vector (branch
`[2,2]`) the entries of its row and column are 0 / 1 = 0 and nothing raises -/
example : nf_calc_angle Py.ratFld nfSqR id exXYZR [[0, 1], [1, 3, 4]] 1
            = some [[25 / 625, -25 / 725], [-25 / 725, 29 / 841]] ∧
          nf_calc_angle Py.ratFld nfSqR id exXYZR [[0, 1], [2, 2]] 0 = some [[25 / 625, 0], [0, 0]] := by decide +kernel

end C10
