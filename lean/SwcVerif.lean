import SwcVerif.Model.Basic
import SwcVerif.Model.AlgoRun
import SwcVerif.Props.C01
import SwcVerif.Props.C01Gen
import SwcVerif.Props.C01Front
import SwcVerif.Props.C02
import SwcVerif.Props.C02Gen
import SwcVerif.Props.C02Front
import SwcVerif.Proofs.FirstSplit
import SwcVerif.Props.C03
import SwcVerif.Props.C03Gen
import SwcVerif.Props.C03Init
import SwcVerif.Props.C18Wrap
import SwcVerif.Props.C08Wrap
import SwcVerif.Props.C04
import SwcVerif.Props.C04Gen
import SwcVerif.Props.C04Front
import SwcVerif.Props.C05
import SwcVerif.Props.C05Gen
import SwcVerif.Props.C06
import SwcVerif.Props.C06Gen
import SwcVerif.Props.C06Cut
import SwcVerif.Props.C06ShortTip
import SwcVerif.Props.C07
import SwcVerif.Props.C07Cat
import SwcVerif.Props.C07Gen
import SwcVerif.Props.C15Gen
import SwcVerif.Props.C15Lex
import SwcVerif.Props.C07CatGen
import SwcVerif.Props.C08
import SwcVerif.Props.C08Node
import SwcVerif.Props.C08BranchTree
import SwcVerif.Props.C08NodeFull
import SwcVerif.Props.C09
import SwcVerif.Props.C09Gen
import SwcVerif.Props.C09Helpers
import SwcVerif.Props.C05Wrap
import SwcVerif.Props.C10
import SwcVerif.Props.C10Gen
import SwcVerif.Props.C10Sholl
import SwcVerif.Props.C10NodeFeat
import SwcVerif.Props.C10NodeFeat2
import SwcVerif.Props.C10LmGeo
import SwcVerif.Refine.VolCtl
import SwcVerif.Refine.PyRun
import SwcVerif.Refine.AscModel
import SwcVerif.Props.C11
import SwcVerif.Props.C11Gen
import SwcVerif.Props.C12
import SwcVerif.Props.C12Gen
import SwcVerif.Props.C12Rodrigues
import SwcVerif.Proofs.AffineMat
import SwcVerif.Proofs.NodeChain
import SwcVerif.Proofs.Num
import SwcVerif.Props.C13
import SwcVerif.Props.C14
import SwcVerif.Props.C14Gen
import SwcVerif.Props.C14Front
import SwcVerif.Props.C14Closed
import SwcVerif.Props.C15
import SwcVerif.Props.C16
import SwcVerif.Props.C16Length
import SwcVerif.Props.C16Gen
import SwcVerif.Props.C16Tree
import SwcVerif.Props.C16Tree2
import SwcVerif.Props.C16Pair
import SwcVerif.Props.C16PairLoc
import SwcVerif.Proofs.Assemble
import SwcVerif.Props.C16AsmGen
import SwcVerif.Props.C17
import SwcVerif.Props.C17Gen
import SwcVerif.Props.C17Front
import SwcVerif.Props.C17Rest
import SwcVerif.Props.C18
import SwcVerif.Props.C18Gen
import SwcVerif.Props.C19
import SwcVerif.Props.C19Gen
import SwcVerif.Props.C19Front
import SwcVerif.Props.C19Map
import SwcVerif.Refine.PopFromSwc
import SwcVerif.Props.C20
import SwcVerif.Props.C20Gen
import SwcVerif.Props.C20Io
import SwcVerif.Props.C20Io2
